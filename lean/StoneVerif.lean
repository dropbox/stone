import StoneVerif.Gen.Tables
import StoneVerif.Model.Cli
import StoneVerif.Model.CliReport
import StoneVerif.Model.DeclJs
import StoneVerif.Model.DeclPy
import StoneVerif.Model.DeclPyClient
import StoneVerif.Model.DeclStub
import StoneVerif.Model.DeclSwift
import StoneVerif.Model.DocTrim
import StoneVerif.Model.Emit
import StoneVerif.Model.FeAttrVal
import StoneVerif.Model.FeCompile
import StoneVerif.Model.FeNames
import StoneVerif.Model.FeParams
import StoneVerif.Model.Fmt
import StoneVerif.Model.Graph
import StoneVerif.Model.IrCheck
import StoneVerif.Model.Lex
import StoneVerif.Model.Manifest
import StoneVerif.Model.Order
import StoneVerif.Model.Path
import StoneVerif.Model.Rt.Compat
import StoneVerif.Model.Rt.Decode
import StoneVerif.Model.Rt.Encode
import StoneVerif.Model.Rt.Ir
import StoneVerif.Model.Rt.RoundTripSpec
import StoneVerif.Model.Rt.Spec
import StoneVerif.Model.Rt.SpecC06
import StoneVerif.Model.Rt.SpecC08
import StoneVerif.Model.Rt.SpecC13
import StoneVerif.Model.Rt.Tables
import StoneVerif.Model.Rt.Types
import StoneVerif.Model.Rt.Validate
import StoneVerif.Model.Rt.WF
import StoneVerif.Model.Rt.WFExtra
import StoneVerif.Model.Stdin
import StoneVerif.Model.Wrap
import StoneVerif.Lemmas.CliEval
import StoneVerif.Lemmas.CliLex
import StoneVerif.Lemmas.CliParse
import StoneVerif.Lemmas.CliPrune
import StoneVerif.Lemmas.CliReport
import StoneVerif.Lemmas.DeclJs
import StoneVerif.Lemmas.DeclPy
import StoneVerif.Lemmas.DeclPyClient
import StoneVerif.Lemmas.DeclPyImport
import StoneVerif.Lemmas.DeclPyInv
import StoneVerif.Lemmas.DeclPyLoad
import StoneVerif.Lemmas.DeclPySections
import StoneVerif.Lemmas.DeclStub
import StoneVerif.Lemmas.DeclSwift
import StoneVerif.Lemmas.DeclSwiftCover
import StoneVerif.Lemmas.DocTrim
import StoneVerif.Lemmas.Emit
import StoneVerif.Lemmas.FeCompileAcyclic
import StoneVerif.Lemmas.FeCompileClosed
import StoneVerif.Lemmas.FeCompileDenote
import StoneVerif.Lemmas.FeCompileFuel
import StoneVerif.Lemmas.FeCompileFull
import StoneVerif.Lemmas.FeCompileGraph
import StoneVerif.Lemmas.FeCompileLegalAccept
import StoneVerif.Lemmas.FeCompileLegalEnv
import StoneVerif.Lemmas.FeCompileLegalSound
import StoneVerif.Lemmas.FeCompileLoops
import StoneVerif.Lemmas.FeCompileOrder
import StoneVerif.Lemmas.FeCompileReg
import StoneVerif.Lemmas.FeCompileResolve
import StoneVerif.Lemmas.FeNames
import StoneVerif.Lemmas.FeParams
import StoneVerif.Lemmas.Fmt
import StoneVerif.Lemmas.GraphClosure
import StoneVerif.Lemmas.GraphComplete
import StoneVerif.Lemmas.GraphLookup
import StoneVerif.Lemmas.GraphOrder
import StoneVerif.Lemmas.GraphSeeds
import StoneVerif.Lemmas.GraphWalk
import StoneVerif.Lemmas.IrCheck
import StoneVerif.Lemmas.IrCheckExampleCompiler
import StoneVerif.Lemmas.IrCheckExampleRoundTrip
import StoneVerif.Lemmas.IrCheckExampleRuntime
import StoneVerif.Lemmas.IrCheckNoCrash
import StoneVerif.Lemmas.Lex
import StoneVerif.Lemmas.ListFacts
import StoneVerif.Lemmas.Manifest
import StoneVerif.Lemmas.Order
import StoneVerif.Lemmas.Path
import StoneVerif.Lemmas.RtFields
import StoneVerif.Lemmas.RtCompat
import StoneVerif.Lemmas.RtCompatBwd
import StoneVerif.Lemmas.RtCompatDecode
import StoneVerif.Lemmas.RtCompatDocs
import StoneVerif.Lemmas.RtCompatEdits
import StoneVerif.Lemmas.RtCompatEnv
import StoneVerif.Lemmas.RtCompatFwd
import StoneVerif.Lemmas.RtCompatReadings
import StoneVerif.Lemmas.RtCompatStrict
import StoneVerif.Lemmas.RtCompatTags
import StoneVerif.Lemmas.RtCompatValidate
import StoneVerif.Lemmas.RtCompatWire
import StoneVerif.Lemmas.RtDecode
import StoneVerif.Lemmas.RtDecodeValid
import StoneVerif.Lemmas.RtEncode
import StoneVerif.Lemmas.RtEncodeWire
import StoneVerif.Lemmas.RtModel
import StoneVerif.Lemmas.RtModelDecode
import StoneVerif.Lemmas.RtPerms
import StoneVerif.Lemmas.RtRoundTrip.Canon
import StoneVerif.Lemmas.RtRoundTrip.Decode
import StoneVerif.Lemmas.RtRoundTrip.Fields
import StoneVerif.Lemmas.RtRoundTrip.Good
import StoneVerif.Lemmas.RtRoundTrip.Slots
import StoneVerif.Lemmas.RtRoundTrip.Valid
import StoneVerif.Lemmas.RtTables
import StoneVerif.Lemmas.RtValidView
import StoneVerif.Lemmas.RtValidate
import StoneVerif.Lemmas.RtWire
import StoneVerif.Lemmas.RtWireEnv
import StoneVerif.Lemmas.Stdin
import StoneVerif.Lemmas.Wrap
import StoneVerif.Props.C01
import StoneVerif.Props.C01Compile
import StoneVerif.Props.C02
import StoneVerif.Props.C02Compile
import StoneVerif.Props.C03
import StoneVerif.Props.C04
import StoneVerif.Props.C05
import StoneVerif.Props.C06
import StoneVerif.Props.C07
import StoneVerif.Props.C08
import StoneVerif.Props.C09
import StoneVerif.Props.C10
import StoneVerif.Props.C11
import StoneVerif.Props.C12
import StoneVerif.Props.C13
import StoneVerif.Props.C14
import StoneVerif.Props.C15
import StoneVerif.Props.C16
import StoneVerif.Props.C17
import StoneVerif.Props.C18
import StoneVerif.Props.C19
import StoneVerif.Props.C20
