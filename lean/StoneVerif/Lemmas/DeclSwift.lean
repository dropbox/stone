import StoneVerif.Model.DeclSwift
import StoneVerif.Lemmas.ListFacts
/-! Lemmas for Props/C17.lean about references: the type mappers only name user types of the type they format; fields
reached through the parent chain belong to registered types, subtypes reached through the tree are mentioned; hence every
declaration of the six generators only names user types that the API mentions (`declsOf_DeclsM`; no `ApiWF` needed). -/
namespace StoneVerif.DeclSwift

/-- The naming schemes only see the capitalised words of a name: names with the same words collide. -/
theorem swCamel_congr {a b : String} (lowerFirst : Bool)
    (h : (splitWords a.toList).map capitalize = (splitWords b.toList).map capitalize) :
    swCamel a lowerFirst = swCamel b lowerFirst := by
  unfold swCamel; rw [h]

theorem ocCamel_congr {a b : String} (upperFirst : Bool)
    (h : (splitWords a.toList).map capitalize = (splitWords b.toList).map capitalize) :
    ocCamel a upperFirst = ocCamel b upperFirst := by
  unfold ocCamel; rw [h]

def RefOK (t : Ty) (r : TRef) : Prop := ∀ q, r.typeQ? = some q → q ∈ t.userTypes

/-- Every reference of `e` satisfies `P`. The mappers build their result from literals, table entries, the name of a user
type and recursive calls on component types: one rule below for each. -/
def ExprAll (P : TRef → Prop) (e : TExpr) : Prop := ∀ r ∈ e.refs, P r

theorem ExprAll.lit {P : TRef → Prop} {s : String} : ExprAll P (.lit s) := fun _ h => nomatch h

theorem ExprAll.ref {P : TRef → Prop} {r : TRef} {suf : String} (h : P r) : ExprAll P (.ref r suf) :=
  fun _ hr => List.mem_singleton.mp hr ▸ h

theorem ExprAll.cat {P : TRef → Prop} {a b : TExpr} (ha : ExprAll P a) (hb : ExprAll P b) : ExprAll P (a ++ b) :=
  fun r h => (List.mem_append.mp h).elim (ha r) (hb r)

abbrev ExprOK (t : Ty) : TExpr → Prop := ExprAll (RefOK t)

theorem ExprAll.user {q : QName} {r : TRef} {suf : String} (h : r.typeQ? = some q) : ExprOK (.user q) (.ref r suf) :=
  .ref fun _ hq => List.mem_singleton.mpr (Option.some.inj (h ▸ hq)).symm

theorem ExprAll.mono {t t' : Ty} {e : TExpr} (h : ∀ q ∈ t.userTypes, q ∈ t'.userTypes) (he : ExprOK t e) : ExprOK t' e :=
  fun r hr q hq => h q (he r hr q hq)

theorem tableOr_refs (tbl : List (String × String)) (t : Ty) (f : String → String) :
    ∀ r ∈ (tableOr tbl t f).refs, r.typeQ? = none := by
  intro r hr
  unfold tableOr at hr
  split at hr
  · cases hr
  · split at hr
    · obtain rfl := List.mem_singleton.mp hr; rfl
    · cases hr

theorem ExprAll.tableOr {t t' : Ty} {tbl : List (String × String)} {f : String → String} : ExprOK t' (tableOr tbl t f) :=
  fun r hr q hq => by rw [tableOr_refs tbl t f r hr] at hq; cases hq

theorem userTypes_map_left (k v : Ty) : ∀ q ∈ k.userTypes, q ∈ (Ty.map k v).userTypes :=
  fun _ => List.mem_append_left _

theorem userTypes_map_right (k v : Ty) : ∀ q ∈ v.userTypes, q ∈ (Ty.map k v).userTypes :=
  fun _ => List.mem_append_right _

theorem swType_refs : ∀ t : Ty, ExprOK t (swType t)
  | .prim _ | .ts _ | .alias _ => .tableOr
  | .user _ => .user rfl
  | .list e => .cat (.cat (.cat .lit .lit) (swType_refs e)) .lit
  | .map k v => .cat (.cat (.cat (.cat (.cat .lit .lit) ((swType_refs k).mono (userTypes_map_left k v))) .lit)
      ((swType_refs v).mono (userTypes_map_right k v))) .lit
  | .nullable t => by
    by_cases hn : ∃ t1, t = .nullable t1
    · obtain ⟨t1, rfl⟩ := hn
      exact .cat .tableOr .lit
    · -- `eq_2`: the equation of the overlapping arm `.nullable t`, valid when `t` is no `.nullable _`
      rw [swType.eq_2 _ (fun t1 h => hn ⟨t1, h⟩)]
      exact .cat (swType_refs t) .lit

theorem swObjcTypeU_refs (t : Ty) : ExprOK t (swObjcTypeU t) := by
  fun_induction swObjcTypeU t with
  | case1 q0 => exact .user rfl
  | case2 e ih => exact .cat (.cat (.cat .lit .lit) ih) .lit
  | case3 e _ ih => exact .cat (.cat (.cat .lit .lit) ih) .lit
  | case4 k v ih => exact .cat (.cat (.cat .lit .lit) ((ExprAll.cat ih .lit).mono (userTypes_map_right k _))) .lit
  | case5 k v _ ih => exact .cat (.cat (.cat .lit .lit) (ih.mono (userTypes_map_right k v))) .lit
  | case6 t _ _ _ _ _ => exact .tableOr

theorem swObjcType_refs (t : Ty) (b : Bool) : ExprOK t (swObjcType t b) := by
  unfold swObjcType
  split
  · next t' =>
    have h : ExprOK (.nullable t') (swObjcTypeU t') := swObjcTypeU_refs t'
    split
    · exact .cat h .lit
    · exact h
  · exact swObjcTypeU_refs _

theorem swSerialType_refs : ∀ t : Ty, ExprOK t (swSerialType t)
  | .prim _ | .ts _ | .alias _ => .tableOr
  | .nullable _ => .lit
  | .user _ => .user rfl
  | .list e => .cat (.cat (.cat .lit .lit) (swSerialType_refs e)) .lit
  | .map k v => .cat (.cat (.cat (.cat (.cat .lit .lit) ((swSerialType_refs k).mono (userTypes_map_left k v))) .lit)
      ((swSerialType_refs v).mono (userTypes_map_right k v))) .lit

theorem swSerialObj_refs : ∀ t : Ty, ExprOK t (swSerialObj t)
  | .prim _ | .alias _ => .cat .lit .tableOr
  | .ts _ => .cat .lit .lit
  | .user _ => .user rfl
  | .list e => .cat (.cat (.cat .lit .lit) (swSerialObj_refs e)) .lit
  | .map k v => .cat (.cat (.cat .lit .lit) ((swSerialObj_refs v).mono (userTypes_map_right k v))) .lit
  | .nullable t => by
    by_cases hn : ∃ t1, t = .nullable t1
    · obtain ⟨t1, rfl⟩ := hn
      exact .cat (.cat .lit (.cat .lit .tableOr)) .lit
    · rw [swSerialObj.eq_2 _ (fun t1 h => hn ⟨t1, h⟩)]
      exact .cat (.cat .lit (swSerialObj_refs t)) .lit

theorem ocType_inner_refs : ∀ t : Ty, ExprOK t (ocType.inner t)
  | .prim _ | .ts _ | .alias _ => .tableOr
  | .user _ => .user rfl
  | .nullable t => ocType_inner_refs t
  | .list e => .cat (.cat (.cat .lit .lit) (ocType_inner_refs e)) .lit
  | .map k v => .cat (.cat (.cat .lit .lit) ((ocType_inner_refs v).mono (userTypes_map_right k v))) .lit

theorem ocType_go_refs (t : Ty) (b : Bool) : ExprOK t (ocType.go t b) := by
  cases t <;> simp only [ocType.go]
  case user => exact .user rfl
  case list e => exact .cat (.cat (.cat .lit .lit) (ocType_inner_refs e)) .lit
  case map k v => exact .cat (.cat (.cat .lit .lit) ((ocType_inner_refs v).mono (userTypes_map_right k v))) .lit
  all_goals exact .tableOr

theorem unwrap_userTypes (t : Ty) : t.unwrap.1.userTypes = t.userTypes := by
  cases t <;> rfl

theorem ExprAll.unwrap {t : Ty} {e : TExpr} (h : ExprOK t.unwrap.1 e) : ExprOK t e :=
  h.mono fun _ hq => unwrap_userTypes t ▸ hq

theorem ocType_refs (t : Ty) (a b c d : Bool) : ExprOK t (ocType t a b c d) := by
  unfold ocType
  simp only []
  split
  · exact .cat .lit (ocType_go_refs _ _).unwrap
  · exact (ocType_go_refs _ _).unwrap

theorem ocClassType_refs (t : Ty) (b : Bool) : ExprOK t (ocClassType t b) := by
  refine ExprAll.unwrap ?_
  unfold ocClassType
  split
  · next q0 h => rw [h]; exact .user rfl
  · next e h => rw [h]; exact .cat (.cat (.cat .lit .lit) (ocType_refs _ _ _ _ _).unwrap) .lit
  · next k v h =>
    rw [h]; exact .cat (.cat (.cat .lit .lit) ((ocType_refs _ _ _ _ _).unwrap.mono (userTypes_map_right k v))) .lit
  · have h2 : ExprOK t.unwrap.1 (tableOr Tables.objcPrimitiveTable t.unwrap.1 ocUpper) := .tableOr
    generalize tableOr Tables.objcPrimitiveTable t.unwrap.1 ocUpper = x at h2
    cases x with
    | lit s => exact .lit
    | ref r0 suf => exact h2
    | cat a b => exact h2

theorem ocSerialObj_refs (t : Ty) : ExprOK t (ocSerialObj t) := by
  refine ExprAll.unwrap ?_
  unfold ocSerialObj
  split
  · next q0 h => rw [h]; exact .user rfl
  · exact .tableOr

theorem ocSerCallRefs_ok : ∀ t : Ty, ∀ r ∈ ocSerCallRefs t, RefOK t r
  | .prim _, _, h | .ts _, _, h | .alias _, _, h => nomatch h
  | .user _, _, h => by
    obtain rfl := List.mem_singleton.mp h
    exact fun _ hq => List.mem_singleton.mpr (Option.some.inj hq).symm
  | .nullable t, r, h => ocSerCallRefs_ok t r h
  | .list e, r, h => ocSerCallRefs_ok e r h
  | .map k v, r, h => fun q hq => userTypes_map_right k v q (ocSerCallRefs_ok v r h q hq)

theorem find?_sound {api : Api} {q : QName} {t : UserT} (h : api.find? q = some t) :
    ∃ ns ∈ api.nss, t ∈ ns.types ∧ q = ⟨ns.name, t.name⟩ := by
  unfold Api.find? at h
  split at h
  · simp at h
  · next ns hns =>
    obtain ⟨h1, h2⟩ := find?_key_some (fun n : Namespace => n.name) hns
    obtain ⟨h3, h4⟩ := find?_key_some UserT.name h
    exact ⟨ns, h1, h3, by cases q; simp_all⟩

theorem mem_mentioned_of_type {api : Api} {ns : Namespace} {t : UserT} {q : QName}
    (hns : ns ∈ api.nss) (ht : t ∈ ns.types) (hq : q ∈ typeMentions ns.name t) : q ∈ mentioned api := by
  unfold mentioned
  simp only [List.mem_flatMap, List.mem_append]
  exact ⟨ns, hns, Or.inl ⟨t, ht, hq⟩⟩

theorem mem_mentioned_of_route {api : Api} {ns : Namespace} {r : Route} {q : QName}
    (hns : ns ∈ api.nss) (hr : r ∈ ns.routes) (hq : q ∈ routeMentions r) : q ∈ mentioned api := by
  unfold mentioned
  simp only [List.mem_flatMap, List.mem_append]
  exact ⟨ns, hns, Or.inr ⟨r, hr, hq⟩⟩

theorem field_mentioned {api : Api} {ns : Namespace} {t : UserT} (hns : ns ∈ api.nss) (ht : t ∈ ns.types) :
    ∀ f ∈ t.fields, ∀ q ∈ f.ty.userTypes, q ∈ mentioned api := by
  intro f hf q hq
  apply mem_mentioned_of_type hns ht
  unfold typeMentions
  simp only [List.mem_append, List.mem_flatMap]
  exact Or.inl (Or.inl (Or.inr ⟨f, hf, hq⟩))

theorem chainFields_mem {api : Api} (fuel : Nat) (q : QName) (f : Field) (h : f ∈ chainFields api fuel q) :
    ∃ ns ∈ api.nss, ∃ t ∈ ns.types, f ∈ t.fields := by
  fun_induction chainFields api fuel q <;> simp only [List.mem_append, List.not_mem_nil] at h
  rename_i t ht ih
  rcases h with h | h
  · split at h
    · cases h
    · exact ih _ h
  · obtain ⟨ns, hns, htm, _⟩ := find?_sound ht
    exact ⟨ns, hns, t, htm, h⟩

theorem structAllFields_mem {api : Api} {ns : Namespace} {s : StructT} {x : String} {f : Field}
    (hns : ns ∈ api.nss) (ht : UserT.struct s ∈ ns.types) (h : f ∈ structAllFields api x s) :
    ∃ ns' ∈ api.nss, ∃ t ∈ ns'.types, f ∈ t.fields := by
  unfold structAllFields at h
  simp only [List.mem_append, List.mem_filter] at h
  have key : ∀ g, g ∈ (match s.parent with
      | none => []
      | some p => chainFields api api.typeCount p) ++ s.fields → ∃ ns' ∈ api.nss, ∃ t ∈ ns'.types, g ∈ t.fields := by
    intro g hg
    simp only [List.mem_append] at hg
    rcases hg with hg | hg
    · split at hg
      · simp at hg
      · exact chainFields_mem _ _ _ hg
    · exact ⟨ns, hns, _, ht, hg⟩
  rcases h with h | h <;> exact key f (List.mem_append.mpr h.1)

theorem unionAllFields_mem {api : Api} {ns : Namespace} {u : UnionT} {x : String} {f : Field}
    (hns : ns ∈ api.nss) (ht : UserT.union u ∈ ns.types) (h : f ∈ unionAllFields api x u) :
    ∃ ns' ∈ api.nss, ∃ t ∈ ns'.types, f ∈ t.fields := by
  unfold unionAllFields at h
  simp only [List.mem_append] at h
  rcases h with h | h
  · split at h
    · simp at h
    · exact chainFields_mem _ _ _ h
  · exact ⟨ns, hns, _, ht, h⟩

theorem structAllFields_mentioned {api : Api} {ns : Namespace} {s : StructT} {x : String}
    (hns : ns ∈ api.nss) (ht : UserT.struct s ∈ ns.types) :
    ∀ f ∈ structAllFields api x s, ∀ q ∈ f.ty.userTypes, q ∈ mentioned api := by
  intro f h
  obtain ⟨ns', hns', t, ht', hf⟩ := structAllFields_mem hns ht h
  exact field_mentioned hns' ht' f hf

theorem unionAllFields_mentioned {api : Api} {ns : Namespace} {u : UnionT} {x : String}
    (hns : ns ∈ api.nss) (ht : UserT.union u ∈ ns.types) :
    ∀ f ∈ unionAllFields api x u, ∀ q ∈ f.ty.userTypes, q ∈ mentioned api := by
  intro f h
  obtain ⟨ns', hns', t, ht', hf⟩ := unionAllFields_mem hns ht h
  exact field_mentioned hns' ht' f hf

theorem directSubtypes_mentioned {api : Api} {q q' : QName} (h : q ∈ directSubtypes api q') : q ∈ mentioned api := by
  unfold directSubtypes at h
  split at h
  · next s hs =>
    obtain ⟨ns, hns, htm, _⟩ := find?_sound hs
    apply mem_mentioned_of_type hns htm
    unfold typeMentions
    simp only [List.mem_append]
    exact Or.inr h
  · simp at h

theorem bfsSubtypes_mem {api : Api} (fuel : Nat) (queue : List QName) (q : QName) (h : q ∈ bfsSubtypes api fuel queue) :
    q ∈ queue ∨ q ∈ mentioned api := by
  induction fuel generalizing queue with
  | zero => simp [bfsSubtypes] at h
  | succ n ih =>
    cases queue with
    | nil => simp [bfsSubtypes] at h
    | cons a rest =>
      simp only [bfsSubtypes, List.mem_cons] at h
      rcases h with h | h
      · exact Or.inl (by simp [h])
      · rcases ih _ h with h | h
        · simp only [List.mem_append] at h
          rcases h with h | h
          · exact Or.inl (by simp [h])
          · exact Or.inr (directSubtypes_mentioned h)
        · exact Or.inr h

theorem allSubtypes_mentioned {api : Api} {ns : Namespace} {s : StructT} {q : QName}
    (hns : ns ∈ api.nss) (ht : UserT.struct s ∈ ns.types) (h : q ∈ allSubtypes api s) : q ∈ mentioned api := by
  unfold allSubtypes at h
  rcases bfsSubtypes_mem _ _ _ h with h | h
  · apply mem_mentioned_of_type hns ht
    unfold typeMentions
    simp only [List.mem_append]
    exact Or.inr h
  · exact h

theorem self_mentioned {api : Api} {ns : Namespace} {t : UserT} (hns : ns ∈ api.nss) (ht : t ∈ ns.types) :
    (⟨ns.name, t.name⟩ : QName) ∈ mentioned api :=
  mem_mentioned_of_type hns ht <| List.mem_append_left _ <| List.mem_append_left _ <| List.mem_append_left _ <|
    List.mem_append_left _ List.mem_cons_self

theorem parent_mentioned {api : Api} {ns : Namespace} {t : UserT} {p : QName} (hns : ns ∈ api.nss) (ht : t ∈ ns.types)
    (hp : t.parent = some p) : p ∈ mentioned api :=
  mem_mentioned_of_type hns ht <| List.mem_append_left _ <| List.mem_append_left _ <| List.mem_append_left _ <|
    List.mem_append_right _ (hp ▸ List.mem_cons_self)

theorem dflt_mentioned {api : Api} {ns : Namespace} {t : UserT} {f : Field} {u : QName} {tag : String}
    (hns : ns ∈ api.nss) (ht : t ∈ ns.types) (hf : f ∈ t.fields) (hd : f.dfltTag = some (u, tag)) :
    u ∈ mentioned api := by
  apply mem_mentioned_of_type hns ht
  unfold typeMentions
  simp only [List.mem_append, List.mem_filterMap]
  exact Or.inl (Or.inr ⟨f, hf, by simp [hd]⟩)

/-- every user type the references name is mentioned by the API; rules as for `DeclsM` below -/
def AllM (api : Api) (rs : List TRef) : Prop := ∀ r ∈ rs, ∀ q, r.typeQ? = some q → q ∈ mentioned api

theorem AllM_nil (api : Api) : AllM api [] := by intro r hr; simp at hr

theorem AllM_append {api : Api} {a b : List TRef} (ha : AllM api a) (hb : AllM api b) : AllM api (a ++ b) := by
  intro r hr q hq
  rcases List.mem_append.mp hr with h | h
  · exact ha r h q hq
  · exact hb r h q hq

theorem AllM_cons {api : Api} {a : TRef} {b : List TRef} (ha : ∀ q, a.typeQ? = some q → q ∈ mentioned api)
    (hb : AllM api b) : AllM api (a :: b) := by
  intro r hr q hq
  rcases List.mem_cons.mp hr with h | h
  · subst h; exact ha q hq
  · exact hb r h q hq

theorem AllM_flatMap {api : Api} {α : Type} {l : List α} {f : α → List TRef} (h : ∀ x ∈ l, AllM api (f x)) :
    AllM api (l.flatMap f) := by
  intro r hr q hq
  obtain ⟨x, hx, hrx⟩ := List.mem_flatMap.mp hr
  exact h x hx r hrx q hq

theorem AllM_map_nontype {api : Api} {α : Type} {l : List α} {f : α → TRef} (h : ∀ x, (f x).typeQ? = none) :
    AllM api (l.map f) := by
  intro r hr q hq
  obtain ⟨x, _, rfl⟩ := List.mem_map.mp hr
  simp [h x] at hq

theorem AllM_of_refOK {api : Api} {t : Ty} {rs : List TRef} (ht : ∀ q ∈ t.userTypes, q ∈ mentioned api)
    (hr : ∀ r ∈ rs, RefOK t r) : AllM api rs := by
  intro r h q hq
  exact ht q (hr r h q hq)

theorem AllM_fieldRefs {api : Api} {m : Ty → TExpr} {fs : List Field} (hm : ∀ t, ∀ r ∈ (m t).refs, RefOK t r)
    (hfs : ∀ f ∈ fs, ∀ q ∈ f.ty.userTypes, q ∈ mentioned api) : AllM api (fieldRefs m fs) := by
  unfold fieldRefs
  exact AllM_flatMap fun f hf => AllM_of_refOK (hfs f hf) (hm f.ty)

theorem AllM_sub {api : Api} {a b : List TRef} (h : ∀ r ∈ a, r ∈ b) (hb : AllM api b) : AllM api a :=
  fun r hr q hq => hb r (h r hr) q hq

theorem user_mentioned {api : Api} {p : QName} (h : p ∈ mentioned api) : ∀ q ∈ (Ty.user p).userTypes, q ∈ mentioned api :=
  fun _ hq => List.mem_singleton.mp hq ▸ h

theorem AllM_ite {api : Api} {c : Prop} [Decidable c] {a b : List TRef} (ha : AllM api a) (hb : AllM api b) :
    AllM api (if c then a else b) := by
  split
  · exact ha
  · exact hb

theorem typeQ_mentioned {api : Api} {r : TRef} {q : QName} (hq : q ∈ mentioned api) (hr : r.typeQ? = some q) :
    ∀ q', r.typeQ? = some q' → q' ∈ mentioned api :=
  fun _ h => Option.some.inj (hr ▸ h) ▸ hq

theorem AllM_nontype {api : Api} {r : TRef} (h : r.typeQ? = none) : AllM api [r] :=
  AllM_cons (fun _ hq => nomatch h ▸ hq) (AllM_nil _)

theorem AllM_type {api : Api} {r : TRef} {q : QName} (hq : q ∈ mentioned api) (hr : r.typeQ? = some q) : AllM api [r] :=
  AllM_cons (typeQ_mentioned hq hr) (AllM_nil _)

theorem AllM_parent {api : Api} {ns : Namespace} {t : UserT} {f : QName → List TRef} (hns : ns ∈ api.nss)
    (ht : t ∈ ns.types) (hf : ∀ p ∈ mentioned api, AllM api (f p)) :
    AllM api (match t.parent with
      | none => []
      | some p => f p) := by
  split
  · exact AllM_nil _
  · next p hp => exact hf p (parent_mentioned hns ht hp)

/-- Every declaration has `AllM` references. The generators build their output with `::`, `++`, `map`, `flatMap` and
`if`: one rule below for each, so that a proof follows the shape of the generator. -/
def DeclsM (api : Api) (ds : List Decl) : Prop := ∀ d ∈ ds, AllM api d.refs

theorem DeclsM.nil {api : Api} : DeclsM api [] := fun _ h => nomatch h

theorem DeclsM.cons {api : Api} {d : Decl} {ds : List Decl} (h : AllM api d.refs) (hs : DeclsM api ds) :
    DeclsM api (d :: ds) := fun _ hd => (List.mem_cons.mp hd).elim (· ▸ h) (hs _)

theorem DeclsM.append {api : Api} {a b : List Decl} (ha : DeclsM api a) (hb : DeclsM api b) : DeclsM api (a ++ b) :=
  fun _ hd => (List.mem_append.mp hd).elim (ha _) (hb _)

theorem DeclsM.map {api : Api} {α : Type} {l : List α} {f : α → Decl} (h : ∀ x ∈ l, AllM api (f x).refs) :
    DeclsM api (l.map f) := fun _ hd => let ⟨x, hx, e⟩ := List.mem_map.mp hd; e ▸ h x hx

theorem DeclsM.flatMap {api : Api} {α : Type} {l : List α} {f : α → List Decl} (h : ∀ x ∈ l, DeclsM api (f x)) :
    DeclsM api (l.flatMap f) := fun d hd => let ⟨x, hx, hd⟩ := List.mem_flatMap.mp hd; h x hx d hd

theorem DeclsM.ite {api : Api} {c : Prop} [Decidable c] {a b : List Decl} (ha : DeclsM api a) (hb : DeclsM api b) :
    DeclsM api (if c then a else b) := by
  split
  · exact ha
  · exact hb

theorem DeclsM.refs {api : Api} {ds : List Decl} (h : DeclsM api ds) : AllM api (ds.flatMap (·.refs)) := AllM_flatMap h

theorem swStructDecls_DeclsM {api : Api} {ns : Namespace} {s : StructT} (hns : ns ∈ api.nss)
    (ht : UserT.struct s ∈ ns.types) : DeclsM api (swStructDecls api ns.name s) := by
  have haf : ∀ f ∈ structAllFields api ns.name s, ∀ q ∈ f.ty.userTypes, q ∈ mentioned api :=
    structAllFields_mentioned hns ht
  have hown : ∀ f ∈ s.fields, ∀ q ∈ f.ty.userTypes, q ∈ mentioned api :=
    field_mentioned hns ht
  refine .append (.cons ?_ (.cons ?_ .nil)) (.map fun f hf => AllM_of_refOK (hown f hf) (swType_refs _))
  · exact AllM_append (AllM_append
      (AllM_parent hns ht fun p hp => AllM_of_refOK (user_mentioned hp) (swType_refs _))
      (AllM_fieldRefs swType_refs hown)) (AllM_ite (AllM_nil _) (AllM_fieldRefs swType_refs haf))
  · refine AllM_append (AllM_append (AllM_fieldRefs swSerialObj_refs haf) (AllM_ite ?_ (AllM_nil _))) ?_
    · intro r hr q hq
      obtain ⟨f, hf, hfr⟩ := List.mem_filterMap.mp hr
      split at hfr
      · obtain ⟨⟨u, tag⟩, hdt, rfl⟩ := Option.map_eq_some_iff.mp hfr
        obtain rfl := Option.some.inj hq
        obtain ⟨ns', hns', t', ht', hf'⟩ := structAllFields_mem hns ht hf
        exact dflt_mentioned hns' ht' hf' hdt
      · cases hfr
    · refine AllM_flatMap fun q hq => ?_
      have hm : q ∈ mentioned api := by
        split at hq
        · exact allSubtypes_mentioned hns ht hq
        · cases hq
      exact AllM_cons (typeQ_mentioned hm rfl) (AllM_type hm rfl)

theorem swUnionDecls_DeclsM {api : Api} {ns : Namespace} {u : UnionT} (hns : ns ∈ api.nss)
    (ht : UserT.union u ∈ ns.types) : DeclsM api (swUnionDecls api ns.name u) :=
  have haf : ∀ f ∈ unionAllFields api ns.name u, ∀ q ∈ f.ty.userTypes, q ∈ mentioned api :=
    unionAllFields_mentioned hns ht
  .append (.cons (AllM_fieldRefs swType_refs haf) (.cons (AllM_fieldRefs swSerialObj_refs haf) .nil))
    (.map fun f hf => AllM_of_refOK (haf f hf) (swType_refs _))

theorem route_ty_mentioned {api : Api} {ns : Namespace} {r : Route} (hns : ns ∈ api.nss) (hr : r ∈ ns.routes) :
    (∀ q ∈ r.arg.userTypes, q ∈ mentioned api) ∧ (∀ q ∈ r.result.userTypes, q ∈ mentioned api) ∧
    (∀ q ∈ r.error.userTypes, q ∈ mentioned api) :=
  ⟨fun _ hq => mem_mentioned_of_route hns hr (List.mem_append_left _ (List.mem_append_left _ hq)),
   fun _ hq => mem_mentioned_of_route hns hr (List.mem_append_left _ (List.mem_append_right _ hq)),
   fun _ hq => mem_mentioned_of_route hns hr (List.mem_append_right _ hq)⟩

theorem swiftTypesDecls_DeclsM (api : Api) : DeclsM api (swiftTypesDecls api) := by
  refine .flatMap fun ns hns => .cons (AllM_nil _) (.append (.flatMap fun t ht => ?_) (.map fun r hr => ?_))
  · cases t with
    | struct s => exact swStructDecls_DeclsM hns ht
    | union u => exact swUnionDecls_DeclsM hns ht
  · obtain ⟨ha, hres, he⟩ := route_ty_mentioned hns hr
    exact AllM_append (AllM_append (AllM_of_refOK ha (swSerialObj_refs _)) (AllM_of_refOK hres (swSerialObj_refs _)))
      (AllM_of_refOK he (swSerialObj_refs _))

theorem listCore_user (t : Ty) : ∀ q0, listCore t = .user q0 → q0 ∈ t.userTypes := by
  fun_induction listCore t with
  | case1 e ih => intro q0 h; simpa [Ty.userTypes] using ih q0 h
  | case2 e ih => intro q0 h; simpa [Ty.userTypes] using ih q0 h
  | case3 t _ => intro q0 h; subst h; simp [Ty.userTypes]
  | case4 t _ _ => intro q0 h; subst h; simp [Ty.userTypes]
  | case5 t _ _ _ _ => intro q0 h; subst h; simp [Ty.userTypes]

theorem factoryRefs_ok (t : Ty) : ∀ r ∈ factoryRefs t, RefOK t r := by
  intro r hr q hq
  rw [← unwrap_userTypes]
  unfold factoryRefs at hr
  split at hr
  · next l e h =>
    rw [h]
    split at hr
    · next q0 hq0 =>
      simp at hr; subst hr; simp [TRef.typeQ?] at hq; subst hq
      exact listCore_user _ _ hq0
    · simp at hr
  · next q0 h => simp at hr; subst hr; simp [TRef.typeQ?] at hq; subst hq; rw [h]; simp [Ty.userTypes]
  · simp at hr

theorem swObjcStructDecls_DeclsM {api : Api} {ns : Namespace} {s : StructT} (hns : ns ∈ api.nss)
    (ht : UserT.struct s ∈ ns.types) : DeclsM api (swObjcStructDecls api ns.name s) := by
  have haf : ∀ f ∈ structAllFields api ns.name s, ∀ q ∈ f.ty.userTypes, q ∈ mentioned api :=
    structAllFields_mentioned hns ht
  have hown : ∀ f ∈ s.fields, ∀ q ∈ f.ty.userTypes, q ∈ mentioned api :=
    field_mentioned hns ht
  have hself : (⟨ns.name, s.name⟩ : QName) ∈ mentioned api := self_mentioned hns ht
  refine .cons ?_ (.map fun f hf => AllM_of_refOK (hown f hf) (swObjcType_refs _ _))
  refine AllM_append (AllM_append (AllM_append (AllM_append
    (AllM_type hself rfl)
    (AllM_parent hns ht fun p hp => AllM_of_refOK (user_mentioned hp) (swObjcType_refs _ _)))
    (AllM_fieldRefs (fun t => swObjcType_refs t true) hown))
    (AllM_ite (AllM_nil _) (AllM_fieldRefs (fun t => swObjcType_refs t true) haf)))
    (AllM_ite (AllM_flatMap fun q hq => ?_) (AllM_nil _))
  have hm := allSubtypes_mentioned hns ht hq
  exact AllM_cons (typeQ_mentioned hm rfl) (AllM_type hm rfl)

theorem swObjcUnionDecls_DeclsM {api : Api} {ns : Namespace} {u : UnionT} (hns : ns ∈ api.nss)
    (ht : UserT.union u ∈ ns.types) : DeclsM api (swObjcUnionDecls api ns.name u) := by
  have haf : ∀ f ∈ unionAllFields api ns.name u, ∀ q ∈ f.ty.userTypes, q ∈ mentioned api :=
    unionAllFields_mentioned hns ht
  have hself : (⟨ns.name, u.name⟩ : QName) ∈ mentioned api := self_mentioned hns ht
  refine .cons (AllM_append (AllM_type hself rfl) (AllM_flatMap fun f hf => ?_))
    (.append (.map fun f _ => AllM_nontype rfl) (.flatMap fun f hf => .cons ?_ (.ite .nil (.cons ?_ .nil))))
  · exact AllM_append (AllM_nontype rfl) (AllM_of_refOK (haf f hf) (factoryRefs_ok _))
  · exact AllM_append (AllM_cons (typeQ_mentioned hself rfl) (AllM_type hself rfl))
      (AllM_of_refOK (haf f hf) (swObjcType_refs _ _))
  · exact AllM_of_refOK (haf f hf) (swObjcType_refs _ _)

theorem swiftTypesObjcDecls_DeclsM (api : Api) : DeclsM api (swiftTypesObjcDecls api) := by
  refine .flatMap fun ns hns => .flatMap fun t ht => ?_
  cases t with
  | struct s => exact swObjcStructDecls_DeclsM hns ht
  | union u => exact swObjcUnionDecls_DeclsM hns ht

theorem validRoutes_sub {o : Options} {ns : Namespace} {r : Route} (h : r ∈ validRoutes o ns) : r ∈ ns.routes :=
  (List.mem_filter.mp h).1

theorem swRouteArgRefs_AllM {api : Api} {ns : Namespace} {r : Route} (hns : ns ∈ api.nss) (hr : r ∈ ns.routes) :
    AllM api (swRouteArgRefs api ns.name r) := by
  obtain ⟨ha, _, _⟩ := route_ty_mentioned hns hr
  unfold swRouteArgRefs
  split
  · next q hq =>
    split
    · next s hs =>
      obtain ⟨ns', hns', htm, _⟩ := find?_sound hs
      exact AllM_fieldRefs swType_refs (structAllFields_mentioned hns' htm)
    · exact AllM_of_refOK (hq ▸ ha) (swType_refs _)
  · exact AllM_ite (AllM_nil _) (AllM_of_refOK ha (swType_refs _))

theorem swClientFuncs_DeclsM {api : Api} {o : Options} {ns : Namespace} (hns : ns ∈ api.nss) :
    DeclsM api (swClientFuncs api o ns) := by
  refine .flatMap fun r hr => .map fun _ _ => ?_
  have hr' := validRoutes_sub hr
  obtain ⟨ha, hres, he⟩ := route_ty_mentioned hns hr'
  exact AllM_append (AllM_append (AllM_append (AllM_append (swRouteArgRefs_AllM hns hr')
    (AllM_of_refOK hres (swSerialType_refs _))) (AllM_of_refOK he (swSerialType_refs _))) (AllM_nontype rfl))
    (AllM_ite (AllM_of_refOK ha (swType_refs _)) (AllM_nil _))

theorem swClientCommon_DeclsM (api : Api) (o : Options) (b : Bool) : DeclsM api (swClientCommon api o b) :=
  have hm : DeclsM api ((api.nss.filter fun ns => !(validRoutes o ns).isEmpty).map fun ns =>
      ({ unit := "", kind := "var", scope := [(if b then "DBX" else "") ++ o.className], name := swVar ns.name,
         refs := [if b then TRef.swRoutesObjc ns.name (isApp o) else TRef.swRoutes ns.name (isApp o)] } : Decl)) :=
    .map fun _ _ => AllM_nontype (by cases b <;> rfl)
  .cons hm.refs hm

theorem bgRoutes_mem {api : Api} {o : Options} {p : Namespace × Route} (h : p ∈ bgRoutes o api) :
    p.1 ∈ api.nss ∧ p.2 ∈ p.1.routes := by
  obtain ⟨ns, hns, h⟩ := List.mem_flatMap.mp h
  obtain ⟨r, hr, rfl⟩ := List.mem_map.mp h
  exact ⟨hns, validRoutes_sub (List.mem_filter.mp hr).1⟩

theorem swRequestBox_DeclsM (api : Api) (o : Options) : DeclsM api (swRequestBox api o) := by
  have hc : DeclsM api ((bgRoutes o api).map fun (p : Namespace × Route) =>
      ({ unit := "", kind := "case", scope := [o.className ++ "RequestBox"],
         name := p.1.name ++ "_" ++ swFunc p.2.name p.2.version,
         refs := (swSerialType p.2.result).refs ++ (swSerialType p.2.error).refs } : Decl)) := by
    refine .map fun p hp => ?_
    obtain ⟨hns, hr⟩ := bgRoutes_mem hp
    obtain ⟨_, hres, he⟩ := route_ty_mentioned hns hr
    exact AllM_append (AllM_of_refOK hres (swSerialType_refs _)) (AllM_of_refOK he (swSerialType_refs _))
  exact .ite .nil (.append (.append (.cons hc.refs .nil) hc) (.cons (AllM_map_nontype fun _ => rfl) .nil))

theorem swiftClientDecls_DeclsM (api : Api) (o : Options) : DeclsM api (swiftClientDecls api o) :=
  .append (.append (.flatMap fun _ hns => .ite .nil (.cons (swClientFuncs_DeclsM hns).refs (swClientFuncs_DeclsM hns)))
    (swClientCommon_DeclsM api o false)) (swRequestBox_DeclsM api o)

theorem swObjcRouteArgRefs_AllM {api : Api} {ns : Namespace} {r : Route} (hns : ns ∈ api.nss) (hr : r ∈ ns.routes)
    (b : Bool) : AllM api (swObjcRouteArgRefs api r b) := by
  obtain ⟨ha, _, _⟩ := route_ty_mentioned hns hr
  unfold swObjcRouteArgRefs
  split
  · next q hq =>
    split
    · next s hs =>
      obtain ⟨ns', hns', htm, _⟩ := find?_sound hs
      exact AllM_fieldRefs (fun t => swObjcType_refs t true) fun f hf =>
        structAllFields_mentioned hns' htm f (List.mem_filter.mp hf).1
    · exact AllM_of_refOK (hq ▸ ha) (swObjcType_refs _ _)
  · exact AllM_ite (AllM_nil _) (AllM_of_refOK ha (swObjcType_refs _ _))

theorem swClientObjcFuncs_DeclsM {api : Api} {o : Options} {ns : Namespace} (hns : ns ∈ api.nss) :
    DeclsM api (swClientObjcFuncs api o ns) := by
  refine .flatMap fun r hr => .flatMap fun v _ => ?_
  have one : ∀ b, AllM api (swObjcRouteArgRefs api r b ++ [TRef.swReq ns.name r.name r.version (o.request r v)]) :=
    fun b => AllM_append (swObjcRouteArgRefs_AllM hns (validRoutes_sub (List.mem_filter.mp hr).1) b) (AllM_nontype rfl)
  exact .ite (.cons (one true) (.cons (one false) .nil)) (.cons (one true) .nil)

theorem dedupLast_sub (l : List (String × Decl)) : ∀ p ∈ dedupLast l, p ∈ l := by
  fun_induction dedupLast l with
  | case1 => exact fun _ h => h
  | case2 a rest _ ih => exact fun p hp => List.mem_cons_of_mem _ (ih p hp)
  | case3 a rest _ ih =>
    exact fun p hp => (List.mem_cons.mp hp).elim (· ▸ List.mem_cons_self) fun h => List.mem_cons_of_mem _ (ih p h)

theorem swReqClassRefs_AllM {api : Api} {ns : Namespace} {r : Route} (hns : ns ∈ api.nss) (hr : r ∈ ns.routes) :
    AllM api (swReqClassRefs r) := by
  obtain ⟨_, hres, he⟩ := route_ty_mentioned hns hr
  refine AllM_append (AllM_append (AllM_append (AllM_of_refOK hres (swSerialType_refs _))
    (AllM_of_refOK he (swSerialType_refs _))) ?_) (AllM_ite (AllM_nil _) (AllM_of_refOK hres (swObjcType_refs _ _)))
  split
  · next q hq => exact AllM_type (he q (hq ▸ List.mem_singleton.mpr rfl)) rfl
  · exact AllM_nil _

theorem swReqDecls_DeclsM {api : Api} {o : Options} {ns : Namespace} (hns : ns ∈ api.nss) :
    DeclsM api (swReqDecls o ns) := by
  intro d hd
  obtain ⟨p, hp, rfl⟩ := List.mem_map.mp (List.mem_filter.mp hd).1
  obtain ⟨⟨n, r⟩, hnr, rfl⟩ := List.mem_map.mp (dedupLast_sub _ p hp)
  obtain ⟨r', hr', hnr⟩ := List.mem_flatMap.mp hnr
  obtain ⟨v, _, hnr⟩ := List.mem_map.mp hnr
  obtain rfl : r' = r := congrArg Prod.snd hnr
  exact swReqClassRefs_AllM hns hr'

theorem swRequestBoxObjc_DeclsM (api : Api) (o : Options) : DeclsM api (swRequestBoxObjc api o) :=
  .ite .nil (.cons (AllM_map_nontype fun _ => rfl) .nil)

theorem swiftClientObjcDecls_DeclsM (api : Api) (o : Options) : DeclsM api (swiftClientObjcDecls api o) :=
  .append (.append (.flatMap fun _ hns => .ite .nil (.append
    (.cons (AllM_cons (fun _ hq => nomatch hq) (swClientObjcFuncs_DeclsM hns).refs) (swClientObjcFuncs_DeclsM hns))
    (swReqDecls_DeclsM hns))) (swClientCommon_DeclsM api o true)) (swRequestBoxObjc_DeclsM api o)

theorem serializerDecls_DeclsM {api : Api} {q : QName} (hq : q ∈ mentioned api) : DeclsM api (serializerDecls q) :=
  have h : AllM api [TRef.ocClass q] := AllM_type hq rfl
  .cons h (.cons h (.cons h (.cons (AllM_nil _) (.cons (AllM_nil _) .nil))))

theorem ocStructDecls_DeclsM {api : Api} {ns : Namespace} {s : StructT} (hns : ns ∈ api.nss)
    (ht : UserT.struct s ∈ ns.types) : DeclsM api (ocStructDecls api ns.name s) := by
  have haf : ∀ f ∈ structAllFields api ns.name s, ∀ q ∈ f.ty.userTypes, q ∈ mentioned api :=
    structAllFields_mentioned hns ht
  have hprops : DeclsM api (s.fields.map fun f =>
      ({ unit := "h", kind := "property", scope := [ocClassPrefix ⟨ns.name, s.name⟩], name := ocVar f.name,
         refs := (ocType f.ty true false false true).refs } : Decl)) :=
    .map fun f hf => AllM_of_refOK (field_mentioned hns ht f hf) (ocType_refs _ _ _ _ _)
  have hfull : AllM api ((structAllFields api ns.name s).flatMap fun f => (ocType f.ty true f.hasDefault).refs) :=
    AllM_flatMap fun f hf => AllM_of_refOK (haf f hf) (ocType_refs _ _ _ _ _)
  refine .append (.append (.append (.append (.cons ?_ hprops) (.cons hfull .nil)) (.ite (.cons ?_ .nil) .nil))
    (.ite (.cons (AllM_nil _) .nil) .nil)) (serializerDecls_DeclsM (self_mentioned hns ht))
  · exact AllM_append (AllM_append
      (AllM_parent hns ht fun p hp => AllM_type hp rfl) hprops.refs) hfull
  · exact AllM_flatMap fun f hf => AllM_of_refOK (haf f (List.mem_filter.mp hf).1) (ocType_refs _ _ _ _ _)

theorem ocUnionDecls_DeclsM {api : Api} {ns : Namespace} {u : UnionT} (hns : ns ∈ api.nss)
    (ht : UserT.union u ∈ ns.types) : DeclsM api (ocUnionDecls api ns.name u) := by
  have haf : ∀ f ∈ unionAllFields api ns.name u, ∀ q ∈ f.ty.userTypes, q ∈ mentioned api :=
    unionAllFields_mentioned hns ht
  have hprops : DeclsM api (((unionAllFields api ns.name u).filter (! ·.ty.isVoid)).map fun f =>
      ({ unit := "h", kind := "property", scope := [ocClassPrefix ⟨ns.name, u.name⟩], name := ocVar f.name,
         refs := (ocType f.ty true false false true).refs } : Decl)) :=
    .map fun f hf => AllM_of_refOK (haf f (List.mem_filter.mp hf).1) (ocType_refs _ _ _ _ _)
  refine .append (.append (.append (.append (.append (.append (.append (.cons ?_ (.cons ?_ (.map fun _ _ => AllM_nil _)))
    (.cons (AllM_nontype rfl) .nil)) hprops) (.map fun f hf => ?_)) (.cons (AllM_nil _) .nil)) (.map fun _ _ => AllM_nil _))
    (.cons (AllM_nil _) .nil)) (serializerDecls_DeclsM (self_mentioned hns ht))
  · exact AllM_cons (fun _ hq => nomatch hq) (AllM_append (AllM_map_nontype fun _ => rfl) hprops.refs)
  · exact AllM_map_nontype fun _ => rfl
  · exact AllM_ite (AllM_nil _) (AllM_of_refOK (haf f hf) (ocType_refs _ _ _ _ _))

theorem ocRouteObjRefs_AllM {api : Api} {ns : Namespace} {r : Route} (hns : ns ∈ api.nss) (hr : r ∈ ns.routes) :
    AllM api (ocRouteObjRefs r) :=
  let ⟨_, hres, he⟩ := route_ty_mentioned hns hr
  AllM_append (AllM_append (AllM_append
    (AllM_ite (AllM_nil _) (AllM_of_refOK hres (ocClassType_refs _ _)))
    (AllM_ite (AllM_nil _) (AllM_of_refOK he (ocClassType_refs _ _))))
    (AllM_ite (AllM_of_refOK hres (ocSerCallRefs_ok _)) (AllM_nil _)))
    (AllM_ite (AllM_of_refOK hres (ocSerCallRefs_ok _)) (AllM_nil _))

theorem ocRouteObjDecls_DeclsM {api : Api} {ns : Namespace} (hns : ns ∈ api.nss) : DeclsM api (ocRouteObjDecls ns) :=
  .ite .nil (.append (.cons (AllM_map_nontype fun _ => rfl) (.cons (AllM_nil _) .nil))
    (.flatMap fun _ hr => .cons (AllM_nil _) (.cons (AllM_nil _) (.cons (ocRouteObjRefs_AllM hns hr) .nil))))

theorem objcTypesDecls_DeclsM (api : Api) : DeclsM api (objcTypesDecls api) := by
  refine .flatMap fun ns hns => .append (.flatMap fun t ht => ?_) (ocRouteObjDecls_DeclsM hns)
  cases t with
  | struct s => exact ocStructDecls_DeclsM hns ht
  | union u => exact ocUnionDecls_DeclsM hns ht

theorem ocRouteArgs_AllM {api : Api} {ns : Namespace} {r : Route} (hns : ns ∈ api.nss) (hr : r ∈ ns.routes) (b : Bool) :
    AllM api ((ocRouteArgs api r b).flatMap (·.2.refs)) := by
  obtain ⟨ha, _, _⟩ := route_ty_mentioned hns hr
  unfold ocRouteArgs
  split
  · next q hq =>
    split
    · next s hs =>
      obtain ⟨ns', hns', htm, _⟩ := find?_sound hs
      refine AllM_flatMap fun p hp => ?_
      obtain ⟨f, hf, rfl⟩ := List.mem_map.mp hp
      exact AllM_of_refOK (structAllFields_mentioned hns' htm f (List.mem_filter.mp hf).1)
        (ocType_refs _ _ _ _ _)
    · split
      · exact AllM_nil _
      · exact AllM_flatMap fun p hp => List.mem_singleton.mp hp ▸ AllM_of_refOK ha (ocType_refs _ _ _ _ _)
    · exact AllM_nil _
  · exact AllM_nil _

theorem ocClientMethods_DeclsM {api : Api} {o : Options} {auth : String} {ns : Namespace} (hns : ns ∈ api.nss) :
    DeclsM api (ocClientMethods api o auth ns) := by
  refine .flatMap fun r hr => .flatMap fun v _ => ?_
  have hr := (List.mem_filter.mp hr).1
  obtain ⟨_, hres, he⟩ := route_ty_mentioned hns hr
  have one : ∀ b, AllM api (((if r.result.isVoid then [] else (ocType r.result).refs) ++
      (if r.error.isVoid then [] else (ocType r.error).refs)) ++ (ocRouteArgs api r b).flatMap (·.2.refs)) :=
    fun b => AllM_append (AllM_append (AllM_ite (AllM_nil _) (AllM_of_refOK hres (ocType_refs _ _ _ _ _)))
      (AllM_ite (AllM_nil _) (AllM_of_refOK he (ocType_refs _ _ _ _ _)))) (ocRouteArgs_AllM hns hr b)
  exact .ite (.cons (one true) (.cons (one false) .nil)) (.cons (one false) .nil)

theorem objcClientDecls_DeclsM (api : Api) (o : Options) : DeclsM api (objcClientDecls api o) := by
  have hp : DeclsM api ((api.nss.filter fun ns => !(ns.routes.filter (ocShould (o.auth.getD "None"))).isEmpty).map
      fun ns => ({ unit := "h", kind := "property", scope := [o.className], name := ocVar ns.name ++ "Routes",
                   refs := [TRef.ocRoutes ns.name (o.auth.getD "None")] } : Decl)) :=
    .map fun _ _ => AllM_nontype rfl
  refine .append (.append (.append (.flatMap fun ns hns => .ite .nil (.append ?_ (ocClientMethods_DeclsM hns)))
    (.cons hp.refs .nil)) hp) (.cons (AllM_nil _) (.cons (AllM_nil _) .nil))
  exact .cons (ocClientMethods_DeclsM hns).refs (.cons (AllM_nil _) (.cons (AllM_nil _) (.cons (AllM_nil _) .nil)))

theorem declsOf_DeclsM (b : Backend) (api : Api) (o : Options) : DeclsM api (declsOf b api o) := by
  cases b
  · exact swiftTypesDecls_DeclsM api
  · exact swiftTypesObjcDecls_DeclsM api
  · exact swiftClientDecls_DeclsM api o
  · exact swiftClientObjcDecls_DeclsM api o
  · exact objcTypesDecls_DeclsM api
  · exact objcClientDecls_DeclsM api o

end StoneVerif.DeclSwift
