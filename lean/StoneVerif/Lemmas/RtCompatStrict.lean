import StoneVerif.Lemmas.RtCompatTags
import StoneVerif.Lemmas.RtCompatReadings
import StoneVerif.Lemmas.RtCompatDocs
import StoneVerif.Model.Rt.SpecC06
/-!
What strict decoding accepts contains nothing unknown — a statement about ONE environment:
`decode E A [] true t j = .ok w → knownDoc A t j` for documents without repeated keys.  (With `decode_sub` this gives
`strict_rejects_iff`.)
-/
namespace StoneVerif.Rt.Compat

/-- what a strict decoder that accepted an object has found of each member -/
def MembersOk (E : Ext) (A : Env) (tbl : List (String × PTy)) (kvs : List (String × JVal)) : Prop :=
  ∀ k x, (k, x) ∈ kvs →
    (∃ k' ft v, tbl.find? (·.1 == k) = some (k', ft) ∧ decode E A [] true ft x = .ok v) ∨
    (tbl.find? (·.1 == k) = none ∧ k.startsWith ".tag" = true)

theorem membersOk_of_finishStruct (E : Ext) {A : Env} (hwf : envWF A = true) {cls : String} {s : StructDef}
    (hs : A.struct? cls = some s) {kvs : List (String × JVal)} (hnd : nodupS (kvs.map (·.1)) = true) {w : PyVal}
    (h : finishStruct E A [] true cls kvs (decodeMembers E A [] true (structTable A cls) kvs) = .ok w) :
    MembersOk E A (structTable A cls) kvs := by
  rw [finishStruct_run E A hwf true hs] at h
  split at h
  · cases h
  · rename_i hstrict
    simp only [Bool.true_and, Bool.not_eq_true] at hstrict
    cases hrun : runFields E A (decodeMembers E A [] true (structTable A cls) kvs) (publicFields A cls) with
    | error e => simp [hrun] at h
    | ok slots =>
      intro k x hm
      cases hf : (structTable A cls).find? (·.1 == k) with
      | none =>
        right
        refine ⟨rfl, ?_⟩
        have := List.any_eq_false.mp hstrict (k, x) hm
        have hc : ((publicFields A cls).map (·.name)).contains k = false := by
          rw [← table_contains]
          unfold structTable at hf
          rw [hf]; rfl
        have h3 : (!((publicFields A cls).map (·.name)).contains k && !k.startsWith ".tag") = false :=
          Bool.eq_false_iff.mpr this
        rw [hc] at h3
        cases hsw : k.startsWith ".tag" with
        | true => rfl
        | false => rw [hsw] at h3; cases h3
      | some p =>
        left
        obtain ⟨k', ft⟩ := p
        have hmem := List.mem_of_find?_eq_some hf
        have hk' : k' = k := by simpa using List.find?_some hf
        unfold structTable at hmem
        obtain ⟨f, hfm, hfp⟩ := List.mem_map.mp hmem
        have hfn : f.name = k := by rw [← hk']; exact congrArg Prod.fst hfp
        have hcl := childLookup_of_mem E A true (structTable A cls) hf hnd hm
        obtain ⟨v, hv⟩ := fieldStep_child_ok (runFields_steps E A _ _ slots hrun (publicFields_nodup hwf cls) f hfm)
          (by rw [hfn]; exact hcl)
        exact ⟨k', ft, v, rfl, hv⟩

theorem void_strict_known {tag : String} {kvs : List (String × JVal)} (hnd : nodupS (kvs.map (·.1)) = true)
    (h : voidExtra tag kvs = false) :
    (kvs.all fun kx => kx.1 == ".tag" || (kx.1 == tag && (match kx.2 with | .null => true | _ => false))) = true := by
  simp only [voidExtra, Bool.or_eq_false_iff] at h
  rw [List.all_eq_true]
  intro ⟨k, x⟩ hm
  have h2 := List.any_eq_false.mp h.2 (k, x) hm
  simp only [Bool.and_eq_true, bne_iff_ne, ne_eq, not_and, Decidable.not_not] at h2
  by_cases hk : k = tag
  · subst hk
    have hl := jsonLookup_of_mem hnd hm
    have h1 := h.1
    rw [hl] at h1
    cases x <;> first | (simp; done) | cases h1
  · have := h2 hk
    simp [this]

theorem tyWF_of_mem_structTable {A : Env} (hwf : envWF A = true) (cls : String) : ∀ p ∈ structTable A cls, tyWF A p.2 = true := by
  intro p hp
  obtain ⟨f, hf, rfl⟩ := List.mem_map.mp hp
  exact publicFields_tyWF hwf hf

theorem knownDoc_of_unionOk (E : Ext) {A : Env} (hwf : envWF A = true) {c : String} {u : UnionDef} (fl : Flags)
    {j : JVal} {w : PyVal} (hnd : nodupKeys j = true)
    (hIH : ∀ kvs, j = .obj kvs → ∀ tbl, (∀ p ∈ tbl, tyWF A p.2 = true) → MembersOk E A tbl kvs →
      knownMembers A tbl kvs = true)
    (h : UnionOk E A true c u j w) : knownDoc A (.union fl c) j = true := by
  cases h with
  | fallback _ _ hs => cases hs
  | symbol ht => rw [knownDoc_union_str, ht]; rfl
  | void hk ht _ hv hs =>
    simp only [nodupKeys, Bool.and_eq_true] at hnd
    rw [knownDoc_union_void A fl c hk ht hv]
    exact void_strict_known hnd.1 hs
  | @bare tag td sfl sc ht _ hq =>
    rw [knownDoc_union_struct A fl c (by simp [jsonLookup]) ht hq]
    simp [knownMembers, structTable_tableOf, tableOf_find_tag (publicFields_ne_tag hwf sc)]
  | @struct kvs tag td sfl sc v w hk ht _ hq _ hfin =>
    simp only [nodupKeys, Bool.and_eq_true] at hnd
    rw [knownDoc_union_struct A fl c hk ht hq]
    obtain ⟨s', hs', -⟩ : ∃ s', A.struct? sc = some s' ∧ s'.subtypes.isNone = true :=
      tyWF_struct (hq ▸ publicTag_tyWF hwf ht)
    exact hIH kvs rfl _ (tyWF_of_mem_structTable hwf _) (membersOk_of_finishStruct E hwf hs' hnd.1 hfin)
  | @nested kvs tag td v w hk ht _ hv hp hpl hany =>
    simp only [nodupKeys, Bool.and_eq_true] at hnd
    rw [knownDoc_union_nested A fl c hk ht hv hp]
    have hne : (tag == ".tag") = false := by simpa using publicTag_ne_dotTag hwf ht
    refine hIH kvs rfl _ (fun p hp' => ?_) fun k x hm => ?_
    · cases List.mem_singleton.mp hp'
      exact tyWF_withFlags_empty (publicTag_tyWF hwf ht)
    · have h2 := List.any_eq_false.mp hany (k, x) hm
      by_cases hk' : k = tag
      · subst hk'
        have hf : [(k, td.ty.withFlags {})].find? (·.1 == k) = some (k, td.ty.withFlags {}) := by simp
        rw [childLookup_of_mem E A true _ hf hnd.1 hm] at hpl
        exact .inl ⟨k, _, v, hf, hpl⟩
      · have : k = ".tag" := by
          by_cases hk2 : k = ".tag"
          · exact hk2
          · exact absurd (by simp [hk', hk2]) h2
        subst this
        exact .inr (by simp [hne])

def KnownOfStrict (E : Ext) (A : Env) (j : JVal) : Prop :=
  ∀ (t : PTy) (w : PyVal), tyWF A t = true → nodupKeys j = true → decode E A [] true t j = .ok w → knownDoc A t j = true

theorem knownList_of_elems (E : Ext) {A : Env} : ∀ {xs : List JVal}, (∀ x ∈ xs, KnownOfStrict E A x) →
    ∀ (t : PTy) (ys : List PyVal), tyWF A t = true → nodupKeysList xs = true →
      decodeList E A [] true t xs = .ok ys → knownList A t xs = true
  | [], _, _, _, _, _, _ => rfl
  | x :: xs, ih, t, ys, hw, hnd, hd => by
    simp only [nodupKeysList, Bool.and_eq_true] at hnd
    obtain ⟨y, ys', h1, h2, -⟩ := decodeList_cons_ok hd
    simp only [knownList, Bool.and_eq_true]
    exact ⟨ih x List.mem_cons_self t y hw hnd.1 h1,
      knownList_of_elems E (fun x' hx' => ih x' (List.mem_cons_of_mem _ hx')) t ys' hw hnd.2 h2⟩

theorem knownVals_of_elems (E : Ext) {A : Env} : ∀ {kvs : List (String × JVal)}, (∀ p ∈ kvs, KnownOfStrict E A p.2) →
    ∀ (t : PTy) (ys : List (PyVal × PyVal)), tyWF A t = true → nodupKeysKvs kvs = true →
      decodeMap E A [] true t kvs = .ok ys → knownVals A t kvs = true
  | [], _, _, _, _, _, _ => rfl
  | (k, x) :: rest, ih, t, ys, hw, hnd, hd => by
    simp only [nodupKeysKvs, Bool.and_eq_true] at hnd
    obtain ⟨y, ys', h1, h2, -⟩ := decodeMap_cons_ok hd
    simp only [knownVals, Bool.and_eq_true]
    exact ⟨ih (k, x) List.mem_cons_self t y hw hnd.1 h1,
      knownVals_of_elems E (fun p hp => ih p (List.mem_cons_of_mem _ hp)) t ys' hw hnd.2 h2⟩

theorem knownMembers_of_elems (E : Ext) {A : Env} : ∀ {kvs : List (String × JVal)}, (∀ p ∈ kvs, KnownOfStrict E A p.2) →
    ∀ (tbl : List (String × PTy)), nodupKeysKvs kvs = true → (∀ p ∈ tbl, tyWF A p.2 = true) → MembersOk E A tbl kvs →
      knownMembers A tbl kvs = true
  | [], _, _, _, _, _ => rfl
  | (k, x) :: rest, ih, tbl, hnd, hwt, hok => by
    simp only [nodupKeysKvs, Bool.and_eq_true] at hnd
    simp only [knownMembers, Bool.and_eq_true]
    refine ⟨?_, knownMembers_of_elems E (fun p hp => ih p (List.mem_cons_of_mem _ hp)) tbl hnd.2 hwt
      fun k' x' hm => hok k' x' (List.mem_cons_of_mem _ hm)⟩
    rcases hok k x List.mem_cons_self with ⟨k', ft, v, hf, hv⟩ | ⟨hf, hs⟩
    · simp only [hf]
      exact ih (k, x) List.mem_cons_self ft v (hwt _ (List.mem_of_find?_eq_some hf)) hnd.1 hv
    · simp only [hf]; exact hs

theorem known_of_strict (E : Ext) {A : Env} (hwf : envWF A = true) (j : JVal) : KnownOfStrict E A j := by
  induction j using JVal.children_induction with | _ j harr hobj
  intro t w hw hnd hd
  by_cases hnull : isNullJ j = true
  · rw [eq_null_of_isNullJ hnull]
    exact knownDoc_null A t
  · by_cases hp : isPrimTy t = true
    · by_cases hv : isVoidT t = true
      · cases t <;> simp [isVoidT] at hv
        rw [knownDoc_void]
        rw [decode_prim E A [] true (by rfl)] at hd
        simp only [Bool.not_eq_true] at hnull
        simp only [hnull, Bool.and_false, Bool.false_eq_true, if_false, makeStoneFriendly] at hd
        cases j <;> simp_all [verr, isNullJ]
      · exact knownDoc_prim A hp (by simpa using hv) j
    · have hnn : ∀ b : Bool, (b && isNullJ j) = false := fun b => by simp [hnull]
      cases t <;> simp only [isPrimTy, not_true_eq_false] at hp
      case list fl item a b =>
        obtain ⟨xs, ys, rfl, -, hl⟩ := decode_list_ok hd (hnn _)
        rw [knownDoc_list_arr]
        exact knownList_of_elems E (harr xs rfl) item ys hw hnd hl
      case map fl kt vt =>
        obtain ⟨kvs, ys, rfl, -, hl⟩ := decode_map_ok hd (hnn _)
        rw [knownDoc_map_obj]
        exact knownVals_of_elems E (hobj kvs rfl) vt ys (tyWF_map hw).2.2 (Bool.and_eq_true_iff.1 hnd).2 hl
      case struct fl cls =>
        obtain ⟨s, hs, -⟩ := tyWF_struct hw
        rcases decode_struct_shape hd with rfl | ⟨kvs, rfl⟩
        · exact absurd rfl hnull
        · simp only [nodupKeys, Bool.and_eq_true] at hnd
          rw [knownDoc_struct_obj]
          rw [decode_struct_obj_structTable E true fl hs] at hd
          exact knownMembers_of_elems E (hobj kvs rfl) (structTable A cls) hnd.2 (tyWF_of_mem_structTable hwf _)
            (membersOk_of_finishStruct E hwf hs hnd.1 hd)
      case tree fl cls =>
        obtain ⟨s, hs, -⟩ := tyWF_tree hw
        obtain ⟨kvs, rfl⟩ := decode_tree_shape hd (hnn _)
        simp only [nodupKeys, Bool.and_eq_true] at hnd
        obtain ⟨tag, ht⟩ := decode_tree_tag hd
        rw [knownDoc_tree_obj A fl cls kvs ht hs]
        rw [decode_tree_obj E A true fl cls kvs ht hs] at hd
        cases hf : findSub [tag] (s.subtypes.getD []) with
        | none => simp [hf, verr] at hd
        | some e =>
          obtain ⟨tags, sc, tr⟩ := e
          cases tr with
          | true => simp [hf, verr] at hd
          | false =>
            simp only [hf, Bool.false_eq_true, if_false] at hd ⊢
            obtain ⟨hm, _⟩ := findSub_some hf
            obtain ⟨_, d, hdd⟩ := structSubclass_entry hwf hs hm
            simp only at hdd
            exact knownMembers_of_elems E (hobj kvs rfl) (structTable A sc) hnd.2 (tyWF_of_mem_structTable hwf _)
              (membersOk_of_finishStruct E hwf hdd hnd.1 hd)
      case union fl cls =>
        obtain ⟨u, hu⟩ := tyWF_union hw
        refine knownDoc_of_unionOk E hwf fl hnd (fun kvs hk tbl hwt hok => ?_) (UnionOk.of_decode hwf hu (hnn fl.nullable) hd)
        subst hk
        simp only [nodupKeys, Bool.and_eq_true] at hnd
        exact knownMembers_of_elems E (hobj kvs rfl) tbl hnd.2 hwt hok

theorem knownList_of_strict (E : Ext) {A : Env} (hwf : envWF A = true) :
    ∀ (xs : List JVal) (t : PTy) (ys : List PyVal), tyWF A t = true → nodupKeysList xs = true →
      decodeList E A [] true t xs = .ok ys → knownList A t xs = true :=
  fun _ => knownList_of_elems E fun x _ => known_of_strict E hwf x

theorem knownVals_of_strict (E : Ext) {A : Env} (hwf : envWF A = true) :
    ∀ (kvs : List (String × JVal)) (t : PTy) (ys : List (PyVal × PyVal)), tyWF A t = true → nodupKeysKvs kvs = true →
      decodeMap E A [] true t kvs = .ok ys → knownVals A t kvs = true :=
  fun _ => knownVals_of_elems E fun p _ => known_of_strict E hwf p.2

theorem knownMembers_of_ok (E : Ext) {A : Env} (hwf : envWF A = true) :
    ∀ (kvs : List (String × JVal)) (tbl : List (String × PTy)), nodupKeysKvs kvs = true →
      (∀ p ∈ tbl, tyWF A p.2 = true) → MembersOk E A tbl kvs → knownMembers A tbl kvs = true :=
  fun _ => knownMembers_of_elems E fun p _ => known_of_strict E hwf p.2

end StoneVerif.Rt.Compat
