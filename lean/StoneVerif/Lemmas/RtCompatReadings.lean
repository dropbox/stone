import StoneVerif.Lemmas.RtCompatDecode
/-!
The documents a union accepts (caller without permissions), as a relation: `UnionOk E env s c u j w` lists the six ways in
which `decode E env [] s (.union fl c) j` returns `.ok w` (`null` at a nullable union apart: `hn`), and `decode_union_iff` says there are no others.  Its users
split on the reading of the decoder they assume (`UnionOk.of_decode`) and build the reading of the other (`UnionOk.decode_eq`).
-/
namespace StoneVerif.Rt.Compat

def docTag : JVal → Option String
  | .str tag => some tag
  | .obj kvs => match jsonLookup ".tag" kvs with
    | some (.str tag) => some tag
    | _ => none
  | _ => none

theorem docTag_obj {kvs : List (String × JVal)} {tag : String} (hk : jsonLookup ".tag" kvs = some (.str tag)) :
    docTag (.obj kvs) = some tag := by
  simp only [docTag, hk]

theorem docTag_cases {j : JVal} {tag : String} (hj : docTag j = some tag) :
    j = .str tag ∨ ∃ kvs, j = .obj kvs ∧ jsonLookup ".tag" kvs = some (.str tag) := by
  cases j with
  | str t => cases hj; exact .inl rfl
  | obj kvs =>
    simp only [docTag] at hj
    split at hj
    · cases hj; exact .inr ⟨kvs, rfl, by assumption⟩
    · cases hj
  | _ => cases hj


/-- what a strict decoder refuses next to a Void tag -/
def voidExtra (tag : String) (kvs : List (String × JVal)) : Bool :=
  (match jsonLookup tag kvs with | some .null | none => false | some _ => true) ||
    kvs.any fun (k, _) => k != tag && k != ".tag"

inductive UnionOk (E : Ext) (env : Env) (s : Bool) (c : String) (u : UnionDef) : JVal → PyVal → Prop
  /-- unknown tag, lenient, read as the catch-all -/
  | fallback {j : JVal} {tag ca : String} (hj : docTag j = some tag) (ht : publicTag? env c tag = none) (hs : s = false)
      (hca : u.catchAll = some ca) : UnionOk E env s c u j (.union c ca .none)
  /-- a Void or nullable tag given as a bare string -/
  | symbol {tag : String} {td : TagDef} (ht : publicTag? env c tag = some td)
      (hvn : (isVoidT td.ty || td.ty.flags.nullable) = true) (hnc : (some tag == u.catchAll) = false) :
      UnionOk E env s c u (.str tag) (.union c tag .none)
  /-- a Void tag as an object -/
  | void {kvs : List (String × JVal)} {tag : String} {td : TagDef} (hk : jsonLookup ".tag" kvs = some (.str tag))
      (ht : publicTag? env c tag = some td) (hnc : (some tag == u.catchAll) = false) (hv : isVoidT td.ty = true)
      (hs : (s && voidExtra tag kvs) = false) : UnionOk E env s c u (.obj kvs) (.union c tag .none)
  /-- a nullable struct member given as the bare tag object -/
  | bare {tag : String} {td : TagDef} {sfl : Flags} {sc : String} (ht : publicTag? env c tag = some td)
      (hnc : (some tag == u.catchAll) = false) (hq : td.ty = .struct sfl sc) (hn : sfl.nullable = true) :
      UnionOk E env s c u (.obj [(".tag", .str tag)]) (.union c tag .none)
  /-- a struct member, flattened next to the tag -/
  | struct {kvs : List (String × JVal)} {tag : String} {td : TagDef} {sfl : Flags} {sc : String} {v w : PyVal}
      (hk : jsonLookup ".tag" kvs = some (.str tag)) (ht : publicTag? env c tag = some td)
      (hnc : (some tag == u.catchAll) = false) (hq : td.ty = .struct sfl sc)
      (hl : (sfl.nullable && kvs.length == 1) = false)
      (hfin : finishStruct E env [] s sc kvs (decodeMembers E env [] s (structTable env sc) kvs) = .ok v)
      (hmk : mkUnion E env c tag v = .ok w) : UnionOk E env s c u (.obj kvs) w
  /-- any other member, under the tag's name -/
  | nested {kvs : List (String × JVal)} {tag : String} {td : TagDef} {v w : PyVal}
      (hk : jsonLookup ".tag" kvs = some (.str tag)) (ht : publicTag? env c tag = some td)
      (hnc : (some tag == u.catchAll) = false) (hv : isVoidT td.ty = false) (hp : isPlainStruct td.ty = false)
      (hpl : payloadOf (childLookup tag (decodeMembers E env [] s [(tag, td.ty.withFlags {})] kvs))
        (jsonLookup tag kvs).isSome td.ty.flags.nullable = .ok v)
      (hany : (kvs.any fun (k, _) => k != tag && k != ".tag") = false)
      (hmk : mkUnion E env c tag v = .ok w) : UnionOk E env s c u (.obj kvs) w

section
variable {E : Ext} {env : Env} (hwf : envWF env = true) {s : Bool} {c : String} {u : UnionDef} (hu : env.union? c = some u)
include hwf hu

theorem mkUnion_catchAll {ca : String} (hca : u.catchAll = some ca) :
    mkUnion E env c ca .none = .ok (.union c ca .none) := by
  obtain ⟨td, htd, fl, hty, _⟩ := catchAll_tag hwf (cls := c) (ca := ca) (by simp [catchAllOf, hu, hca])
  exact mkUnion_none_public hwf hu htd (by simp [hty, isVoidT])

theorem unknownTag_ok {w : PyVal}
    (h : (if !s && u.catchAll.isSome then mkUnion E env c (u.catchAll.getD "") .none else verr "unknown tag") = .ok w) :
    s = false ∧ ∃ ca, u.catchAll = some ca ∧ w = .union c ca .none := by
  split at h
  · rename_i hc
    simp only [Bool.and_eq_true, Bool.not_eq_true'] at hc
    obtain ⟨ca, hca⟩ := Option.isSome_iff_exists.mp hc.2
    rw [hca, Option.getD_some, mkUnion_catchAll hwf hu hca] at h
    cases h
    exact ⟨hc.1, ca, hca, rfl⟩
  · cases h

theorem UnionOk.of_decode {fl : Flags} {j : JVal} {w : PyVal} (hn : (fl.nullable && isNullJ j) = false)
    (h : Rt.decode E env [] s (.union fl c) j = .ok w) : UnionOk E env s c u j w := by
  rw [decode_union E env [] s fl c hu] at h
  -- the `Nullable` test of `decode_union` is `hn` with `isNullJ` unfolded
  have h := (if_neg (fun h' => Bool.false_ne_true (hn.symm.trans h'))).symm.trans h
  have hunk : ∀ {tag : String}, docTag j = some tag → publicTag? env c tag = none →
      (if !s && u.catchAll.isSome then mkUnion E env c (u.catchAll.getD "") .none else verr "unknown tag") = .ok w →
      UnionOk E env s c u j w := by
    intro tag hj ht h
    obtain ⟨hs, ca, hca, rfl⟩ := unknownTag_ok hwf hu h
    exact .fallback hj ht hs hca
  cases j with
  | str tag =>
    simp only [isTagPresent_nil hwf hu tag, valDataType_nil hwf hu tag] at h
    cases ht : publicTag? env c tag with
    | none => exact hunk rfl ht (by simpa [ht] using h)
    | some td =>
      simp only [ht, Option.isSome_some, if_true, Option.map_some, isVoidTy_eq_isVoidT] at h
      obtain ⟨hvn, h⟩ := of_ite_verr h
      obtain ⟨hnc, h⟩ := of_ite_verr h
      simp only [Bool.not_eq_true, Bool.not_eq_false'] at hvn hnc
      rw [mkUnion_none_public hwf hu ht hvn] at h
      cases h
      exact .symbol ht hvn hnc
  | obj kvs =>
    simp only at h
    cases hk : jsonLookup ".tag" kvs with
    | none => simp [hk, verr] at h
    | some tv =>
      cases tv with
      | str tag =>
        simp only [hk, isTagPresent_nil hwf hu tag, valDataType_nil hwf hu tag] at h
        cases ht : publicTag? env c tag with
        | none => exact hunk (docTag_obj hk) ht (by simpa [ht] using h)
        | some td =>
          have hmt := memberTable_union env [] s fl (ft := td.ty) hk hu (by simp [isTagPresent_nil hwf hu tag, ht])
            (by simp [valDataType_nil hwf hu tag, ht])
          simp only [ht, Option.isSome_some, Bool.not_true, Bool.false_eq_true, if_false, Option.map_some,
            isVoidTy_eq_isVoidT, hmt] at h
          obtain ⟨hnc, h⟩ := of_ite_verr h
          simp only [Bool.not_eq_true] at hnc
          cases hv : isVoidT td.ty with
          | true =>
            simp only [hv, if_true] at h
            obtain ⟨hs, h⟩ := of_ite_verr h
            rw [mkUnion_none_public hwf hu ht (by rw [hv, Bool.true_or])] at h
            cases h
            exact .void hk ht hnc hv (Bool.not_eq_true _ ▸ hs)
          | false =>
            simp only [hv, Bool.false_eq_true, if_false] at h
            cases hp : isPlainStruct td.ty with
            | true =>
              obtain ⟨sfl, sc, hq⟩ := isPlainStruct_iff.1 hp
              simp only [hq, isPlainStruct, if_true, PTy.flags, memberTable.memberTableStruct] at h
              cases hl : sfl.nullable && kvs.length == 1 with
              | true =>
                simp only [Bool.and_eq_true] at hl
                rw [if_pos (by simp [hl.1, hl.2]), mkUnion_none_public hwf hu ht (by simp [hq, PTy.flags, hl.1])] at h
                cases h
                cases only_tag hk hl.2
                exact .bare ht hnc hq hl.1
              | false =>
                rw [hl, if_neg Bool.false_ne_true] at h
                split at h
                · rename_i v heq
                  refine .struct hk ht hnc hq hl ?_ h
                  rw [← structTable_eq env sc]; exact heq
                · cases h
            | false =>
              simp only [hp, Bool.false_eq_true, if_false] at h
              -- `payloadOf …` unfolds to the inner `match` of `decode` (`voidExtra`: to its strict test); `heq` is about that
              cases hpl : payloadOf (childLookup tag (decodeMembers E env [] s [(tag, td.ty.withFlags {})] kvs))
                  (jsonLookup tag kvs).isSome td.ty.flags.nullable with
              | error e =>
                split at h
                · cases h
                · rename_i heq; cases hpl.symm.trans heq
              | ok v =>
                split at h
                · rename_i heq; cases hpl.symm.trans heq
                · rename_i heq
                  cases hpl.symm.trans heq
                  obtain ⟨hany, h⟩ := of_ite_verr h
                  exact .nested hk ht hnc hv hp hpl (Bool.not_eq_true _ ▸ hany) h
      | _ => simp [hk, verr] at h
  | _ => simp [verr] at h

theorem UnionOk.decode_eq (fl : Flags) {j : JVal} {w : PyVal} (h : UnionOk E env s c u j w) :
    Rt.decode E env [] s (.union fl c) j = .ok w := by
  rw [decode_union E env [] s fl c hu]
  cases h with
  | @fallback j tag ca hj ht hs hca =>
    have hm := mkUnion_catchAll (E := E) hwf hu hca
    rcases docTag_cases hj with rfl | ⟨kvs, rfl, hk⟩
    · simp [isTagPresent_nil hwf hu tag, ht, hs, hca, hm]
    · simp [hk, isTagPresent_nil hwf hu tag, ht, hs, hca, hm]
  | @symbol tag td ht hvn hnc =>
    simp [isTagPresent_nil hwf hu tag, valDataType_nil hwf hu tag, ht, isVoidTy_eq_isVoidT, hvn, hnc,
      mkUnion_none_public hwf hu ht hvn]
  | @void kvs tag td hk ht hnc hv hs =>
    simp only [hk, isTagPresent_nil hwf hu tag, valDataType_nil hwf hu tag, ht, hnc, isVoidTy_eq_isVoidT, hv,
      Bool.and_false, Bool.false_eq_true, if_false, Option.isSome_some, Bool.not_true, Option.map_some, if_true,
      mkUnion_none_public hwf hu ht (by rw [hv, Bool.true_or])]
    exact if_neg fun h' => Bool.false_ne_true (hs.symm.trans h')
  | @bare tag td sfl sc ht hnc hq hn =>
    simp [jsonLookup, isTagPresent_nil hwf hu tag, valDataType_nil hwf hu tag, ht, hnc, hq, isVoidTy, isPlainStruct, PTy.flags,
      hn, mkUnion_none_public hwf hu ht (by simp [hq, PTy.flags, hn])]
  | @struct kvs tag td sfl sc v w hk ht hnc hq hl hfin hmk =>
    have hmt : memberTable env [] s (.union fl c) kvs = structTable env sc := by
      rw [memberTable_union env [] s fl (ft := td.ty) hk hu (by simp [isTagPresent_nil hwf hu tag, ht])
        (by simp [valDataType_nil hwf hu tag, ht]), hq]
      exact structTable_eq env sc
    simp only [hk, isTagPresent_nil hwf hu tag, valDataType_nil hwf hu tag, ht, hnc, hq, isVoidTy, isPlainStruct, hmt,
      PTy.flags, hl, hfin, Bool.and_false, Bool.false_eq_true, if_false, Option.isSome_some, Bool.not_true, Option.map_some,
      if_true]
    exact hmk
  | @nested kvs tag td v w hk ht hnc hv hp hpl hany hmk =>
    have hmt : memberTable env [] s (.union fl c) kvs = [(tag, td.ty.withFlags {})] := by
      rw [memberTable_union env [] s fl (ft := td.ty) hk hu (by simp [isTagPresent_nil hwf hu tag, ht])
        (by simp [valDataType_nil hwf hu tag, ht]), hp, if_neg Bool.false_ne_true]
    simp only [hk, isTagPresent_nil hwf hu tag, valDataType_nil hwf hu tag, ht, hnc, isVoidTy_eq_isVoidT, hv, hp, hmt,
      Bool.and_false, Bool.false_eq_true, if_false, Option.isSome_some, Bool.not_true, Option.map_some]
    split
    · rename_i heq; cases heq.symm.trans hpl
    · rename_i heq
      cases heq.symm.trans hpl
      exact (if_neg fun h' => Bool.false_ne_true (hany.symm.trans h')).trans hmk

theorem decode_union_iff (fl : Flags) {j : JVal} {w : PyVal} (hn : (fl.nullable && isNullJ j) = false) :
    Rt.decode E env [] s (.union fl c) j = .ok w ↔ UnionOk E env s c u j w :=
  ⟨UnionOk.of_decode hwf hu hn, UnionOk.decode_eq hwf hu fl⟩

end

end StoneVerif.Rt.Compat
