import StoneVerif.Lemmas.FeCompileLegalSound
import StoneVerif.Lemmas.FeCompileOrder
/-!
The whole language: patches, applied annotations, route attributes.  `_merge_patches` accepts exactly the patches that
obey the rules, and the merged files have the names, imports and namespaces of the original ones, so what is proved
about files without patches carries over to `compile`, `denote` and `Legal` (`compile_core`, through which
Props/C02Compile.lean goes).  The annotation stage and the route-attribute stage test exactly their rules, because what
they look things up with -- the environment, the compiled aliases and types -- are the specification-level maps
(`compile_ok_iff_legal_types`; `compileFull_ok_iff_legalFull`, for every value test `vc`).  Also here, because it needs
`K`: `compile_acyclic` (C02).
-/
namespace StoneVerif.FeCompile.L
open StoneVerif.FeParams (TyKind)

theorem find_filterMap_named (K : FeNames.Name) (l : List (String × Decl)) :
    (l.filterMap namedEntry).find? (fun p => canonKey p.1.2 p.1.1 == K) = (l.find? (namedPred K)).bind namedEntry := by
  rw [List.find?_filterMap]
  congr 2; funext ⟨ns, d⟩
  simp only [namedPred, namedEntry]
  cases anyName d <;> rfl

/-- under a canonical key the table shows the LAST declaration (`RegOrder`), Python keeps the first: after
registration only versions of one route share a key, and a patch treats them alike -/
theorem itemAt_spec {E fs} (hE : EnvOK2 E fs) (K : FeNames.Name) :
    (itemAt E.items K).map (fun p => shapeOf p.2) = (namedAt fs K).map (fun q => declShape q.2) := by
  have h3 := hE.order
  unfold RegOrder at h3
  have h1 : ((E.items.map fun p => (p.1, shapeOf p.2)).find? fun p => canonKey p.1.2 p.1.1 == K) =
      (itemAt E.items K).map fun p => (p.1, shapeOf p.2) := by
    unfold itemAt
    rw [List.find?_map]
    rfl
  rw [h3, ← List.filterMap_reverse, find_filterMap_named] at h1
  unfold namedAt
  rw [allPairs_eq]
  cases hf : (pairs fs).reverse.find? (namedPred K) with
  | none =>
    rw [hf] at h1
    cases hi : itemAt E.items K with
    | none => rfl
    | some p => rw [hi] at h1; simp at h1
  | some q =>
    rw [hf] at h1
    obtain ⟨ns, d⟩ := q
    have hp := List.find?_some hf
    simp only [namedPred] at hp
    cases hn : anyName d with
    | none => simp [hn] at hp
    | some n =>
      simp only [Option.bind_some, namedEntry, hn, Option.map_some] at h1
      cases hi : itemAt E.items K with
      | none => rw [hi] at h1; simp at h1
      | some p =>
        rw [hi] at h1
        simp only [Option.map_some, Option.some.injEq, Prod.mk.injEq] at h1
        simp [h1.2]

theorem any_or_false {α} (l : List α) (p q : α → Bool) :
    (l.any fun x => p x || q x) = false ↔ l.any p = false ∧ l.any q = false := by
  simp only [List.any_eq_false, Bool.or_eq_true, not_or, imp_and, forall_and]

theorem shapeOf_eq_some_iff {i : Item} {d} : shapeOf i = some d ↔ i = .type d := by cases i <;> simp [shapeOf]

theorem declShape_eq_some_iff {q : Decl} {d} : declShape q = some d ↔ q = .type d := by cases q <;> simp [declShape]

theorem checkPatch_ok_iff {E fs acc ns p acc'} (hE : EnvOK2 E fs) :
    checkPatch E acc ns p = .ok acc' ↔ patchStatic fs ns p = true ∧
      (p.fields.any fun f => acc.contains (canonKey p.name ns, f.name)) = false ∧
      acc' = p.fields.map (fun f => (canonKey p.name ns, f.name)) ++ acc := by
  -- the environment holds a struct / union under the canonical name exactly when the declarations do
  have hty : ∀ d, (∃ k, itemAt E.items (canonKey p.name ns) = some (k, .type d)) ↔
      ∃ qns, namedAt fs (canonKey p.name ns) = some (qns, .type d) := by
    intro d
    have hspec := itemAt_spec hE (canonKey p.name ns)
    constructor
    · rintro ⟨k, hi⟩
      rw [hi] at hspec
      obtain ⟨⟨qns, qd⟩, hn, hq⟩ := Option.map_eq_some_iff.mp hspec.symm
      have hqd : qd = .type d := declShape_eq_some_iff.mp hq
      rw [hqd] at hn
      exact ⟨qns, hn⟩
    · rintro ⟨qns, hn⟩
      rw [hn] at hspec
      obtain ⟨⟨k, i⟩, hi, hq⟩ := Option.map_eq_some_iff.mp hspec
      have hit : i = .type d := shapeOf_eq_some_iff.mp hq
      rw [hit] at hi
      exact ⟨k, hi⟩
  unfold checkPatch patchStatic
  simp only [hE.ok.nss]
  cases hns : (nsNames fs []).any (fun m => canonKey m m == canonKey p.name ns) with
  | true => simp
  | false =>
    simp only [Bool.false_eq_true, ↓reduceIte, Bool.not_false, Bool.true_and]
    have hno : (∀ k d, itemAt E.items (canonKey p.name ns) ≠ some (k, .type d)) →
        ∀ {e : Err}, (Except.error e : Except Err (List (FeNames.Name × String))) = .ok acc' ↔
          (match namedAt fs (canonKey p.name ns) with
            | some (_, .type d) =>
              d.kind == p.kind && !(p.fields.any fun f => (d.fields.map (·.name)).contains f.name)
            | _ => false) = true ∧
          (p.fields.any fun f => acc.contains (canonKey p.name ns, f.name)) = false ∧
          acc' = p.fields.map (fun f => (canonKey p.name ns, f.name)) ++ acc := by
      intro hnone e
      split
      · rename_i qns d hn
        obtain ⟨k, hi⟩ := (hty d).mpr ⟨qns, hn⟩
        exact absurd hi (hnone k d)
      · simp
    split
    · rename_i hi
      exact hno (fun k d h => by rw [hi] at h; cases h)
    · rename_i k d hi
      obtain ⟨qns, hn⟩ := (hty d).mp ⟨k, hi⟩
      rw [hn]
      simp only
      by_cases hk : d.kind = p.kind
      · have hk1 : (d.kind != p.kind) = false := by simp [hk]
        have hk2 : (d.kind == p.kind) = true := by simp [hk]
        simp only [hk1, hk2, Bool.false_eq_true, ↓reduceIte, Bool.true_and]
        cases hany : (p.fields.any fun f => (d.fields.map (·.name)).contains f.name || acc.contains (canonKey p.name ns, f.name)) with
        | true =>
          simp only [↓reduceIte, reduceCtorEq, false_iff, not_and]
          intro h1 h2
          have := (any_or_false p.fields (fun f => (d.fields.map (·.name)).contains f.name)
            (fun f => acc.contains (canonKey p.name ns, f.name))).mpr ⟨by simpa using h1, h2⟩
          rw [hany] at this
          cases this
        | false =>
          obtain ⟨h1, h2⟩ := (any_or_false p.fields _ _).mp hany
          simp only [Bool.false_eq_true, ↓reduceIte, Except.ok.injEq, h1, h2, Bool.not_false, true_and]
          exact eq_comm
      · have hk1 : (d.kind != p.kind) = true := by simp [hk]
        have hk2 : (d.kind == p.kind) = false := by simp [hk]
        simp [hk1, hk2]
    · rename_i v hnt hv
      exact hno (fun k d h => hnt k d (by rw [hv] at h; exact Option.some.inj h))

theorem patchesDisjoint_iff (a b : String × PatchDecl) :
    patchesDisjoint a b = true ↔
      (b.2.fields.any fun f => (a.2.fields.map fun g => (canonKey a.2.name a.1, g.name)).contains (canonKey b.2.name b.1, f.name)) = false := by
  unfold patchesDisjoint
  rw [Bool.not_eq_true', Bool.and_eq_false_iff]
  constructor
  · intro h
    rw [Bool.eq_false_iff, ne_eq, List.any_eq_true]
    rintro ⟨f, hf, hc⟩
    rw [List.contains_iff_mem, List.mem_map] at hc
    obtain ⟨g, hg, he⟩ := hc
    simp only [Prod.mk.injEq] at he
    rcases h with h | h
    · simp [he.1] at h
    · rw [Bool.eq_false_iff, ne_eq, List.any_eq_true] at h
      exact h ⟨g, hg, by rw [List.contains_iff_mem, List.mem_map]; exact ⟨f, hf, he.2.symm⟩⟩
  · intro h
    by_cases hk : canonKey a.2.name a.1 = canonKey b.2.name b.1
    · right
      rw [Bool.eq_false_iff, ne_eq, List.any_eq_true]
      rintro ⟨g, hg, hc⟩
      rw [List.contains_iff_mem, List.mem_map] at hc
      obtain ⟨f, hf, he⟩ := hc
      rw [Bool.eq_false_iff, ne_eq, List.any_eq_true] at h
      exact h ⟨f, hf, by rw [List.contains_iff_mem, List.mem_map]; exact ⟨g, hg, by rw [hk, he]⟩⟩
    · left; simpa using hk

theorem any_contains_append {α β} [BEq β] [LawfulBEq β] (l : List α) (g : α → β) (x y : List β) :
    (l.any fun f => (x ++ y).contains (g f)) = false ↔
      (l.any fun f => x.contains (g f)) = false ∧ (l.any fun f => y.contains (g f)) = false := by
  simp only [List.any_eq_false, List.contains_iff_mem, List.mem_append, not_or, imp_and, forall_and]

theorem checkPatches_ok_iff {E fs} (hE : EnvOK2 E fs) : ∀ {ps : List (String × PatchDecl)} {acc},
    checkPatches E acc ps = .ok () ↔
      (∀ q, q ∈ ps → patchStatic fs q.1 q.2 = true ∧
        (q.2.fields.any fun f => acc.contains (canonKey q.2.name q.1, f.name)) = false) ∧
      pairwiseB patchesDisjoint ps = true
  | [], acc => by simp [checkPatches, pairwiseB]
  | (ns, p) :: ps, acc => by
    simp only [checkPatches, pairwiseB, Bool.and_eq_true, List.all_eq_true, List.mem_cons, forall_eq_or_imp]
    cases hc : checkPatch E acc ns p with
    | error e =>
      have := (not_congr (checkPatch_ok_iff (acc' := p.fields.map (fun f => (canonKey p.name ns, f.name)) ++ acc) hE)).mp
        (by rw [hc]; simp)
      simp only [reduceCtorEq, false_iff]
      rintro ⟨⟨⟨h1, h2⟩, _⟩, _⟩
      exact this ⟨h1, h2, rfl⟩
    | ok acc' =>
      obtain ⟨h1, h2, rfl⟩ := (checkPatch_ok_iff hE).mp hc
      simp only
      rw [checkPatches_ok_iff hE (ps := ps)]
      constructor
      · rintro ⟨hall, hpw⟩
        refine ⟨⟨⟨h1, h2⟩, fun q hq => ⟨(hall q hq).1, ?_⟩⟩, fun q hq => ?_, hpw⟩
        · exact ((any_contains_append q.2.fields (fun f => (canonKey q.2.name q.1, f.name)) _ acc).mp (hall q hq).2).2
        · rw [patchesDisjoint_iff]
          exact ((any_contains_append q.2.fields (fun f => (canonKey q.2.name q.1, f.name)) _ acc).mp (hall q hq).2).1
      · rintro ⟨⟨_, hall⟩, hdis, hpw⟩
        refine ⟨fun q hq => ⟨(hall q hq).1, ?_⟩, hpw⟩
        rw [any_contains_append]
        exact ⟨(patchesDisjoint_iff (ns, p) q).mp (hdis q hq), (hall q hq).2⟩

theorem patches_ok_iff {E fs} (hE : EnvOK2 E fs) : isOk (checkPatches E [] (patchesOf fs)) = patchesLegal fs := by
  rw [Bool.eq_iff_iff, isOk_unit, checkPatches_ok_iff hE]
  unfold patchesLegal
  simp only [Bool.and_eq_true, List.all_eq_true]
  exact ⟨fun ⟨h1, h2⟩ => ⟨fun q hq => (h1 q hq).1, h2⟩, fun ⟨h1, h2⟩ => ⟨fun q hq => ⟨h1 q hq, by simp⟩, h2⟩⟩

theorem mergeDecl_item (fs : List File) (ns : String) (d : Decl) : declItem (mergeDecl fs ns d) = declItem d := by
  cases d <;> rfl

def mergeFile (fs0 : List File) (f : File) : File := { f with decls := f.decls.map (mergeDecl fs0 f.ns) }

theorem mergeFiles_eq (fs : List File) : mergeFiles fs = fs.map (mergeFile fs) := rfl

theorem toNames_merge (fs : List File) : toNames (mergeFiles fs) = toNames fs := by
  unfold toNames
  rw [mergeFiles_eq, List.map_map]
  refine List.map_congr_left fun f _ => ?_
  simp only [Function.comp, mergeFile, List.filterMap_map]
  exact congrArg _ (filterMap_congr_mem fun d _ => mergeDecl_item fs f.ns d)

theorem nsNames_map_mergeFile (fs0 : List File) : ∀ (fs : List File) (acc : List String),
    nsNames (fs.map (mergeFile fs0)) acc = nsNames fs acc
  | [], _ => rfl
  | f :: fs, acc => by simp only [List.map_cons, nsNames, mergeFile]; exact nsNames_map_mergeFile fs0 fs _

theorem nsLexical_merge (fs : List File) : nsLexical (mergeFiles fs) = nsLexical fs := by
  unfold nsLexical; rw [mergeFiles_eq, List.all_map]; rfl

theorem importPairs_merge (fs : List File) : importPairs (mergeFiles fs) = importPairs fs := by
  simp only [mergeFiles_eq, importPairs, allPairs, List.flatMap_map, List.filterMap_flatMap, mergeFile, List.map_map,
    List.filterMap_map]
  congr 1; funext f
  exact filterMap_congr_mem fun d _ => by cases d <;> rfl

theorem namesLegal_merge (fs : List File) : namesLegal (mergeFiles fs) = namesLegal fs := by
  unfold namesLegal; rw [toNames_merge]

theorem importsLegal_merge (fs : List File) : importsLegal (mergeFiles fs) = importsLegal fs := by
  unfold importsLegal
  rw [importPairs_merge]
  have : nsNames (mergeFiles fs) [] = nsNames fs [] := nsNames_map_mergeFile fs fs []
  rw [this]

theorem annotDef_eq {E fs} (hE : EnvOK2 E fs) (ns name : String) :
    annotDefS fs ns name = (E.items.lookup (ns, name)).bind fun i => annKindOf (.item i) := by
  unfold annotDefS
  generalize hL : List.filterMap _ (declsOf fs ns) = L
  -- the annotation definitions called `name` are the one the entry shows
  have hmem : ∀ k, k ∈ L ↔ E.items.lookup (ns, name) = some (.annot k) := by
    intro k
    subst hL
    rw [hE.reg.annot_iff, ← mem_declsOf, List.mem_filterMap]
    constructor
    · rintro ⟨d, hd, hg⟩
      cases d <;> simp at hg
      obtain ⟨rfl, rfl⟩ := hg
      exact hd
    · exact fun hd => ⟨_, hd, by simp⟩
  cases hh : L.head? with
  | some k => rw [(hmem k).mp (List.mem_of_head? hh)]; rfl
  | none =>
    rw [List.head?_eq_none_iff] at hh
    cases hl : E.items.lookup (ns, name) with
    | none => rfl
    | some i =>
      cases i with
      | annot k => have := (hmem k).mpr hl; rw [hh] at this; cases this
      | type _ | «alias» _ | routes _ | other => rfl

/-- the local `found` of `raS`, read off the environment -/
theorem lookup_found {E fs} (hE : EnvOK2 E fs) (ens name : String) :
    (match E.lookup ens name with
     | none => Except.error Err.annotNotExist
     | some e => Except.ok (annKindOf e)) =
    (if imported fs ens name then Except.ok none
     else if !known fs ens name then .error .annotNotExist
     else .ok (annotDefS fs ens name)) := by
  have hk := hE.known_eq ens name
  rw [annotDef_eq hE]
  rw [hE.ok.lookup_eq] at hk ⊢
  cases hi : imported fs ens name with
  | true => simp [annKindOf]
  | false =>
    simp only [hi, Bool.false_eq_true, ↓reduceIte] at hk ⊢
    unfold lookupSym at hk ⊢
    cases hl : E.items.lookup (ens, name) with
    | some i =>
      rw [hl] at hk
      simp only [Option.isSome_some] at hk
      simp only [← hk, Bool.not_true, Bool.false_eq_true, ↓reduceIte, Option.bind_some]
    | none =>
      rw [hl] at hk
      simp only at hk ⊢
      cases hb : TyKind.ofName? name with
      | none => simp [hb] at hk; simp [← hk]
      | some k => simp [hb] at hk; simp [← hk, annKindOf]

theorem raE_eq {E fs} (hE : EnvOK2 E fs) : raE E = raS fs := by
  funext cur a
  unfold raE resolveAnnot headLookup raS
  simp only
  cases a.ns with
  | none =>
    simp only
    have := lookup_found hE cur a.name
    cases hl : E.lookup cur a.name <;> (rw [hl] at this; exact this)
  | some q =>
    simp only
    have hk := hE.known_eq cur q
    rw [hE.ok.lookup_eq cur q] at hk ⊢
    cases hi : imported fs cur q with
    | true =>
      simp only [↓reduceIte]
      have := lookup_found hE q a.name
      cases hl : E.lookup q a.name <;> (rw [hl] at this; exact this)
    | false =>
      simp only [hi, Bool.false_eq_true, ↓reduceIte] at hk ⊢
      cases hs : lookupSym E.items cur q with
      | none => rw [hs] at hk; simp [← hk]
      | some e =>
        rw [hs] at hk
        rcases lookupSym_cases hs with ⟨i, rfl, _⟩ | ⟨k, rfl, _⟩ <;> simp [← hk]

theorem annots_ok_iff {rx E fs api} (hE : EnvOK2 E fs) (h : compileCore rx fs = .ok api) :
    isOk (checkAnnots E fs api) = annotsLegal rx fs := by
  have hd := compile_denote h
  unfold checkAnnots checkAnnotsG annotsLegal
  rw [firstErr_isOk, raE_eq hE, alias?_eq hE.ok hd, type?_eq hE.ok hd, hE.ok.aliasFuel_eq]

theorem compile_ok_iff {rx fs api} : compile rx fs = .ok api ↔
    compileCore rx (mergeFiles fs) = .ok api ∧ ∃ E E', buildEnv fs = .ok E ∧ checkPatches E [] (patchesOf fs) = .ok () ∧
      buildEnv (mergeFiles fs) = .ok E' ∧ checkAnnots E' (mergeFiles fs) api = .ok () := by
  unfold compile
  constructor
  · intro h
    split at h
    · cases h
    · rename_i E hE
      split at h
      · cases h
      · rename_i hp
        split at h
        · cases h
        · rename_i api' hc
          split at h
          · cases h
          · rename_i E' hE'
            split at h
            · cases h
            · rename_i ha
              cases h
              exact ⟨hc, E, E', hE, hp, hE', ha⟩
  · rintro ⟨hc, E, E', hE, hp, hE', ha⟩
    simp only [hE, hp, hc, hE', ha]

/-- no cycle of parents: `set_attributes` walked up from every type pass 3 entered, and the walk ended (`K.typeStat`);
no cycle of aliases: `pass3_aliasAcyc` -/
theorem compile_acyclic {rx fs api} (h : compileCore rx fs = .ok api) :
    (∀ k, ¬ Path api.parentEdge k k) ∧ (∀ k, ¬ Path api.aliasEdge k k) := by
  obtain ⟨E, st, _, _, hEb, hst, _⟩ := compileCore_eq_ok h
  have hE := buildEnv_envOK2 hEb
  have hK := (pass3_sound hE hst).1
  have hF : Final rx E fs st := ⟨hK.inv, pass3Nss_complete hE.ok (pass3_eq_ok hst).1⟩
  have hty := congrFun (type?_eq hE.ok (compile_denote h))
  have hal := congrFun (alias?_eq hE.ok (compile_denote h))
  refine ⟨fun k p => ?_, fun k p => (hF.look_eq hE ▸ pass3_aliasAcyc hE.ok hst) k (path_toGr ?_ p)⟩
  · have hp : Gr.Path (succP rx fs) k k := by
      refine path_toGr (fun a b he => ?_) p
      unfold Api.parentEdge at he
      rw [hty a] at he
      obtain ⟨c, hc, hpar⟩ := Option.bind_eq_some_iff.mp he
      exact mem_succP.mpr ⟨c, hc, hpar⟩
    obtain ⟨c, p', hc, hpar, hcyc⟩ := succP_rot hp
    have hm : (k, c) ∈ st.done := mem_of_lookup (by rw [← hc, ← hF.types_eq hE]; rfl)
    obtain ⟨_, _, hts, _⟩ := hK.typeStat k c hm
    obtain ⟨anc, ha, _⟩ := hts.anc
    rw [hpar] at ha
    exact cyc_no_anc _ hcyc anc ha
  · rintro a b ⟨t, ht, hm⟩
    exact mem_aliasSucc.mpr ⟨t, by rw [← hal a]; exact ht, hm⟩

theorem compile_core {rx fs api} (h : compile rx fs = .ok api) : compileCore rx (mergeFiles fs) = .ok api :=
  (compile_ok_iff.mp h).1

/-- **accepted = legal**, patches and applied annotations included -/
theorem compile_ok_iff_legal_types (rx : String → Bool) (fs : List File) (hl : nsLexical fs = true) :
    (∃ api, compile rx fs = .ok api) ↔ Legal rx fs = true := by
  have hlm : nsLexical (mergeFiles fs) = true := by rw [nsLexical_merge]; exact hl
  unfold Legal
  rw [Bool.and_eq_true, Bool.and_eq_true]
  constructor
  · rintro ⟨api, h⟩
    obtain ⟨hcore, E, E', hE, hp, hE', ha⟩ := compile_ok_iff.mp h
    have hL := (compile_ok_iff_legal rx (mergeFiles fs) hlm).mp ⟨api, hcore⟩
    refine ⟨⟨?_, hL⟩, ?_⟩
    · rw [← patches_ok_iff (buildEnv_envOK2 hE), hp]; rfl
    · rw [← annots_ok_iff (buildEnv_envOK2 hE') hcore, ha]; rfl
  · rintro ⟨⟨hp, hL⟩, ha⟩
    obtain ⟨api, hapi⟩ := (compile_ok_iff_legal rx (mergeFiles fs) hlm).mpr hL
    obtain ⟨hn, hi, _⟩ := LegalCore_parts hL
    obtain ⟨E', hE'⟩ := isOk_iff.mp (by rw [buildEnv_ok_iff _ hlm, hn, hi]; rfl)
    rw [namesLegal_merge] at hn
    rw [importsLegal_merge] at hi
    obtain ⟨E, hE⟩ := isOk_iff.mp (by rw [buildEnv_ok_iff fs hl, hn, hi]; rfl)
    exact ⟨api, compile_ok_iff.mpr ⟨hapi, E, E', hE, isOk_unit.mp (by rw [patches_ok_iff (buildEnv_envOK2 hE), hp]), hE',
      isOk_unit.mp (by rw [annots_ok_iff (buildEnv_envOK2 hE') hapi, ha])⟩⟩

theorem routeAttrs_ok_iff {rx vc E fs api} (hE : EnvOK E fs) (h : compileCore rx fs = .ok api) :
    isOk (checkRouteAttrs vc fs api) = routeAttrsLegal rx vc fs := by
  have hd := compile_denote h
  unfold checkRouteAttrs checkRouteAttrsG routeAttrsLegal
  rw [alias?_eq hE hd, type?_eq hE hd]
  cases validateCfg fs with
  | error e => simp [isOk]
  | ok u =>
    cases u
    simp only [isOk, Bool.true_and]
    cases schemaFields (typeS rx fs) (fuelT fs) fs with
    | error e => rfl
    | ok schema => exact firstErr_isOk _ _

theorem compileFull_ok_iff {rx vc fs api} : compileFull rx vc fs = .ok api ↔
    compile rx fs = .ok api ∧ checkRouteAttrs vc (mergeFiles fs) api = .ok () := by
  unfold compileFull
  constructor
  · intro h
    split at h
    · cases h
    · rename_i api' hc
      split at h
      · cases h
      · rename_i hr
        cases h
        exact ⟨hc, hr⟩
  · rintro ⟨hc, hr⟩
    simp only [hc, hr]

/-- **accepted = legal**, patches, applied annotations and route attributes included -/
theorem compileFull_ok_iff_legalFull (rx : String → Bool) (vc : ValCk) (fs : List File) (hl : nsLexical fs = true) :
    (∃ api, compileFull rx vc fs = .ok api) ↔ LegalFull rx vc fs = true := by
  unfold LegalFull
  rw [Bool.and_eq_true]
  constructor
  · rintro ⟨api, h⟩
    obtain ⟨hc, hr⟩ := compileFull_ok_iff.mp h
    obtain ⟨hcore, _, E', _, _, hE', _⟩ := compile_ok_iff.mp hc
    refine ⟨(compile_ok_iff_legal_types rx fs hl).mp ⟨api, hc⟩, ?_⟩
    rw [← routeAttrs_ok_iff (buildEnv_envOK hE') hcore, hr]; rfl
  · rintro ⟨hL, hr⟩
    obtain ⟨api, hc⟩ := (compile_ok_iff_legal_types rx fs hl).mpr hL
    obtain ⟨hcore, _, E', _, _, hE', _⟩ := compile_ok_iff.mp hc
    exact ⟨api, compileFull_ok_iff.mpr ⟨hc, isOk_unit.mp (by rw [routeAttrs_ok_iff (buildEnv_envOK hE') hcore, hr])⟩⟩

end StoneVerif.FeCompile.L
