import StoneVerif.Lemmas.RtModel
/-!
The generated per-caller class attributes (`_all<_X>_fields_`, `_tagmap` / `_<X>_tagmap`) in closed form.
`allFieldsAttrRev` and `tagmapAttrRev` differ in the type of the entries and in the side on which a class puts its own;
`attrRevG` is their common shape, and the closed form is proved of it. At the end, in namespace `Rt`, the tables of a
caller without permissions, and in `DecL` the table facts the decoder's proofs use.
-/
namespace StoneVerif.Rt.PermL

theorem mem_dedup (x : String) (xs : List String) : x ∈ dedup xs ↔ x ∈ xs := by
  induction xs with
  | nil => simp [dedup]
  | cons y ys ih =>
    unfold dedup
    by_cases h : ys.contains y = true
    · rw [if_pos h]
      simp only [ih, List.mem_cons]
      constructor
      · exact Or.inr
      · rintro (rfl | h')
        · simpa using h
        · exact h'
    · rw [if_neg h]
      simp [ih]

theorem contains_dedup (x : String) (xs : List String) : (dedup xs).contains x = xs.contains x := by
  rw [Bool.eq_iff_iff]
  simp [mem_dedup]

section generic
variable {L α : Type} (items : L → List α) (om : α → Option String)

def callersOf (l : L) : List String := dedup ((items l).filterMap om)

/-- `getattr(C, attr)` for a per-caller attribute that each class of the chain (LEAF FIRST) assigns from its own entries
and the attribute it inherits (`inheritedFirst`: the inherited entries come first) -/
def attrRevG (inheritedFirst : Bool) (X : Option String) : List L → Option (List α)
  | [] => none
  | l :: parents =>
    let own := (items l).filter (om · == X)
    let parentCallers := dedup (parents.flatMap (callersOf items om))
    let assigned := X.isNone || callerIn X (callersOf items om l) || callerIn X parentCallers
    if assigned then
      let callerInParent := !parents.isEmpty && (X.isNone || callerIn X parentCallers)
      if callerInParent then
        (attrRevG inheritedFirst X parents).map fun inh => if inheritedFirst then inh ++ own else own ++ inh
      else some own
    else attrRevG inheritedFirst X parents

def flatG (inheritedFirst : Bool) (ls : List L) : List α :=
  if inheritedFirst then ls.reverse.flatMap items else ls.flatMap items

def existsG (X : Option String) (ls : List L) : Bool :=
  (X.isNone && !ls.isEmpty) || callerIn X (dedup (ls.flatMap (callersOf items om)))

theorem mem_flatMap_callersOf (p : String) (ls : List L) :
    p ∈ ls.flatMap (callersOf items om) ↔ ∃ f ∈ ls.flatMap items, om f = some p := by
  simp only [List.mem_flatMap, callersOf, mem_dedup, List.mem_filterMap]
  constructor
  · rintro ⟨l, hl, f, hf, h⟩
    exact ⟨f, ⟨l, hl, hf⟩, h⟩
  · rintro ⟨f, ⟨l, hl, hf⟩, h⟩
    exact ⟨l, hl, f, hf, h⟩

theorem mem_flatG (b : Bool) (ls : List L) (f : α) : f ∈ flatG items b ls ↔ f ∈ ls.flatMap items := by
  cases b <;> simp [flatG]

theorem filter_eq_nil_of_not_callerIn (b : Bool) (p : String) (ls : List L)
    (h : callerIn (some p) (dedup (ls.flatMap (callersOf items om))) = false) :
    (flatG items b ls).filter (om · == some p) = [] := by
  rw [List.filter_eq_nil_iff]
  intro f hf hp
  have hp' : om f = some p := by simpa using hp
  have : p ∈ ls.flatMap (callersOf items om) :=
    (mem_flatMap_callersOf items om p ls).2 ⟨f, (mem_flatG items b ls f).1 hf, hp'⟩
  simp only [callerIn, contains_dedup] at h
  simp [this] at h

theorem callerIn_cons (X : Option String) (l : L) (parents : List L) :
    callerIn X (dedup ((l :: parents).flatMap (callersOf items om))) =
      (callerIn X (callersOf items om l) || callerIn X (dedup (parents.flatMap (callersOf items om)))) := by
  cases X with
  | none => simp [callerIn]
  | some p =>
    simp only [callerIn, contains_dedup, List.flatMap_cons]
    rw [Bool.eq_iff_iff]
    simp

theorem flatG_cons (b : Bool) (l : L) (parents : List L) :
    flatG items b (l :: parents) = if b then flatG items b parents ++ items l else items l ++ flatG items b parents := by
  cases b <;> simp [flatG]

theorem attrRevG_eq (b : Bool) (X : Option String) (ls : List L) :
    attrRevG items om b X ls =
      if existsG items om X ls then some ((flatG items b ls).filter (om · == X)) else none := by
  induction ls with
  | nil => cases X <;> simp [attrRevG, existsG, callerIn, dedup]
  | cons l parents ih =>
    unfold attrRevG
    simp only [existsG, callerIn_cons] at ih ⊢
    simp only [flatG_cons, List.isEmpty_cons, Bool.not_false, Bool.and_true]
    cases X with
    | none =>
      simp only [Option.isNone_none, if_true, Bool.true_and, callerIn, Bool.or_false] at ih ⊢
      cases parents with
      | nil => cases b <;> simp [flatG]
      | cons q qs =>
        simp only [List.isEmpty_cons, Bool.not_false, if_true] at ih ⊢
        rw [ih]; cases b <;> simp
    | some p =>
      simp only [Option.isNone_some, Bool.false_or, Bool.false_and] at ih ⊢
      by_cases hpar : callerIn (some p) (dedup (parents.flatMap (callersOf items om))) = true
      · have hne : parents.isEmpty = false := by
          cases parents with
          | nil => simp [callerIn, dedup] at hpar
          | cons q qs => rfl
        simp only [hpar, Bool.or_true, if_true, hne, Bool.not_false, Bool.and_true] at ih ⊢
        rw [ih]; cases b <;> simp
      · have hpar' : callerIn (some p) (dedup (parents.flatMap (callersOf items om))) = false := by
          simpa using hpar
        have hnil := filter_eq_nil_of_not_callerIn items om b p parents hpar'
        simp only [hpar', Bool.or_false, Bool.and_false] at ih ⊢
        by_cases hown : callerIn (some p) (callersOf items om l) = true
        · cases b <;> simp [hown, hnil]
        · simp only [hown]
          cases b <;> simpa [hnil] using ih

theorem attrRevG_getD (b : Bool) (X : Option String) (ls : List L) :
    (attrRevG items om b X ls).getD [] = (flatG items b ls).filter (om · == X) := by
  rw [attrRevG_eq]
  by_cases h : existsG items om X ls = true
  · simp [h]
  · simp only [h]
    cases X with
    | none =>
      cases ls with
      | nil => cases b <;> simp [flatG]
      | cons l r => simp [existsG] at h
    | some p =>
      simp only [existsG, Option.isNone_some, Bool.false_and, Bool.false_or] at h
      have h' : callerIn (some p) (dedup (ls.flatMap (callersOf items om))) = false := by simpa using h
      simp [filter_eq_nil_of_not_callerIn items om b p ls h']

end generic

theorem allFieldsAttrRev_eq_attrRevG (X : Option String) (ls : List Level) :
    allFieldsAttrRev X ls = attrRevG (·.fields) (·.omitted) true X ls := by
  induction ls with
  | nil => rfl
  | cons l parents ih => unfold allFieldsAttrRev attrRevG; rw [ih]; rfl

/-- `_all<_X>_fields_` exists iff `X` is the public table or some class of the chain declares a field omitted for `X`;
it then holds the fields of the whole chain, root first, whose `omitted_caller` is `X`. -/
theorem allFieldsAttrRev_eq (X : Option String) (ls : List Level) :
    allFieldsAttrRev X ls =
      if existsG (·.fields) (·.omitted) X ls then some ((ls.reverse.flatMap (·.fields)).filter (·.omitted == X))
      else none :=
  (allFieldsAttrRev_eq_attrRevG X ls).trans (attrRevG_eq (·.fields) (·.omitted) true X ls)

theorem allFieldsAttrRev_getD (X : Option String) (ls : List Level) :
    (allFieldsAttrRev X ls).getD [] = (ls.reverse.flatMap (·.fields)).filter (·.omitted == X) := by
  rw [allFieldsAttrRev_eq_attrRevG]; exact attrRevG_getD (·.fields) (·.omitted) true X ls

theorem allFieldsAttr_getD (s : StructDef) (X : Option String) :
    (s.allFieldsAttr X).getD [] = s.allAttrs.filter (·.omitted == X) := by
  simp [StructDef.allFieldsAttr, allFieldsAttrRev_getD, StructDef.allAttrs]

theorem tagmapAttrRev_eq_attrRevG (X : Option String) (ls : List ULevel) :
    tagmapAttrRev X ls = attrRevG (·.tags) (·.omitted) false X ls := by
  induction ls with
  | nil => rfl
  | cons l parents ih => unfold tagmapAttrRev attrRevG; rw [ih]; rfl

theorem mem_flatMap_uownCallers (p : String) (ls : List ULevel) :
    p ∈ ls.flatMap (·.ownCallers) ↔ ∃ t ∈ ls.flatMap (·.tags), t.omitted = some p :=
  mem_flatMap_callersOf (fun l : ULevel => l.tags) (fun t : TagDef => t.omitted) p ls

theorem tagmapAttrRev_eq (X : Option String) (ls : List ULevel) :
    tagmapAttrRev X ls =
      if existsG (·.tags) (·.omitted) X ls then some ((ls.flatMap (·.tags)).filter (·.omitted == X)) else none :=
  (tagmapAttrRev_eq_attrRevG X ls).trans (attrRevG_eq (·.tags) (·.omitted) false X ls)

theorem tagmapAttrRev_getD (X : Option String) (ls : List ULevel) :
    (tagmapAttrRev X ls).getD [] = (ls.flatMap (·.tags)).filter (·.omitted == X) := by
  rw [tagmapAttrRev_eq_attrRevG]; exact attrRevG_getD (·.tags) (·.omitted) false X ls

/-- what the specification tables `fieldsSpec` / `tagsSpec` keep for a caller -/
def Visible (perms : List String) (o : Option String) : Prop := o = none ∨ ∃ p ∈ perms, o = some p

theorem visible_some {perms : List String} {c : String} : Visible perms (some c) ↔ c ∈ perms := by
  simp [Visible]

theorem mem_fieldsSpec {s : StructDef} {perms : List String} {f : FieldDef} :
    f ∈ s.fieldsSpec perms ↔ f ∈ s.allAttrs ∧ Visible perms f.omitted := by
  simp only [StructDef.fieldsSpec, StructDef.allAttrs, List.mem_filter, Visible]
  cases f.omitted <;> simp

theorem mem_tagsSpec {u : UnionDef} {perms : List String} {t : TagDef} :
    t ∈ u.tagsSpec perms ↔ t ∈ u.levels.flatMap (·.tags) ∧ Visible perms t.omitted := by
  simp only [UnionDef.tagsSpec, List.mem_filter, Visible]
  cases t.omitted <;> simp

theorem mem_tables {α} (om : α → Option String) (perms : List String) (l : List α) (x : α) :
    x ∈ l.filter (om · == none) ++ perms.flatMap (fun p => l.filter (om · == some p)) ↔
      x ∈ l ∧ Visible perms (om x) := by
  simp only [List.mem_append, List.mem_filter, List.mem_flatMap, beq_iff_eq, Visible]
  constructor
  · rintro (⟨h, ho⟩ | ⟨p, hp, h, ho⟩)
    · exact ⟨h, .inl ho⟩
    · exact ⟨h, .inr ⟨p, hp, ho⟩⟩
  · rintro ⟨h, ho | ⟨p, hp, ho⟩⟩
    · exact .inl ⟨h, ho⟩
    · exact .inr ⟨p, hp, h, ho⟩

theorem fieldsFor_eq (s : StructDef) (perms : List String) :
    s.fieldsFor perms = s.allAttrs.filter (·.omitted == none) ++
      perms.flatMap fun p => s.allAttrs.filter (·.omitted == some p) := by
  simp only [StructDef.fieldsFor, allFieldsAttr_getD]

theorem mem_fieldsFor (s : StructDef) (perms : List String) (f : FieldDef) :
    f ∈ s.fieldsFor perms ↔ f ∈ s.fieldsSpec perms := by
  rw [fieldsFor_eq, mem_tables, mem_fieldsSpec]

theorem tagmapAttr_findTag (u : UnionDef) (X : Option String) (tag : String) :
    (u.tagmapAttr X).bind (findTag tag) =
      findTag tag ((u.levels.reverse.flatMap (·.tags)).filter (·.omitted == X)) := by
  rw [← tagmapAttrRev_getD, ← UnionDef.tagmapAttr]
  cases u.tagmapAttr X <;> rfl

theorem tagmapAttr_findTag_mem (u : UnionDef) (X : Option String) (tag : String) (t : TagDef)
    (h : (u.tagmapAttr X).bind (findTag tag) = some t) :
    t ∈ u.levels.flatMap (·.tags) ∧ t.name = tag ∧ t.omitted = X := by
  rw [tagmapAttr_findTag] at h
  obtain ⟨h1, h2⟩ := findTag_some h
  obtain ⟨h3, h4⟩ := List.mem_filter.1 h1
  exact ⟨by simpa only [List.mem_flatMap, List.mem_reverse] using h3, h2, by simpa using h4⟩

theorem valDataType_mem (u : UnionDef) (tag : String) (perms : List String) (ft : PTy)
    (h : u.valDataType tag perms = some ft) :
    ∃ t ∈ u.levels.flatMap (·.tags), t.name = tag ∧ t.ty = ft ∧ Visible perms t.omitted := by
  unfold UnionDef.valDataType at h
  split at h
  · rename_i t ht
    obtain ⟨p, hpm, hp⟩ := List.exists_of_findSome?_eq_some ht
    obtain ⟨h1, h2, h3⟩ := tagmapAttr_findTag_mem u (some p) tag t hp
    exact ⟨t, h1, h2, by simpa using h, Or.inr ⟨p, hpm, h3⟩⟩
  · cases hn : (u.tagmapAttr none).bind (findTag tag) with
    | none => simp [hn] at h
    | some t =>
      simp only [hn, Option.map_some, Option.some.injEq] at h
      obtain ⟨h1, h2, h3⟩ := tagmapAttr_findTag_mem u none tag t hn
      exact ⟨t, h1, h2, h, Or.inl h3⟩

end StoneVerif.Rt.PermL

namespace StoneVerif.Rt

theorem fieldsFor_nil (s : StructDef) : s.fieldsFor [] = s.fieldsSpec [] := by
  simp [StructDef.fieldsFor, PermL.allFieldsAttr_getD, fieldsSpec_nil, StructDef.allAttrs]

theorem allFieldsAttr_none_getD_eq_fieldsSpec (s : StructDef) :
    (s.allFieldsAttr none).getD [] = s.fieldsSpec [] := by
  rw [PermL.allFieldsAttr_getD, fieldsSpec_nil]; rfl

theorem tagmapAttrRev_none (ls : List ULevel) (h : ls ≠ []) :
    tagmapAttrRev none ls = some ((ls.flatMap (·.tags)).filter (·.omitted == none)) := by
  rw [PermL.tagmapAttrRev_eq, if_pos]
  cases ls <;> first | exact absurd rfl h | rfl

theorem tagmapAttr_none_getD (u : UnionDef) :
    (u.tagmapAttr none).getD [] = (u.levels.reverse.flatMap (·.tags)).filter (·.omitted == none) :=
  PermL.tagmapAttrRev_getD none u.levels.reverse

namespace DecL

theorem public_subset_fieldsFor (s : StructDef) (perms : List String) (f : FieldDef)
    (hf : f ∈ s.fieldsSpec []) : f ∈ s.fieldsFor perms := by
  rw [fieldsSpec_nil] at hf
  unfold StructDef.fieldsFor
  rw [PermL.allFieldsAttr_getD]
  exact List.mem_append_left _ hf

theorem ctorValidator_spec (u : UnionDef) (tag : String) (vt : PTy) (h : u.ctorValidator tag = some vt) :
    ∃ t ∈ u.levels.flatMap (·.tags), t.name = tag ∧ t.ty = vt := by
  simp only [UnionDef.ctorValidator, UnionDef.tagmapAttr, PermL.tagmapAttrRev_getD] at h
  obtain ⟨t, ht, rfl⟩ := Option.map_eq_some_iff.1 h
  obtain ⟨hm, hn⟩ := findTag_some ht
  -- `mem_tables` at `perms := u.permissionedTagmaps`: no closed form of that list is needed
  exact ⟨t, by simpa only [List.mem_flatMap, List.mem_reverse] using ((PermL.mem_tables _ _ _ t).1 hm).1, hn, rfl⟩

theorem fieldsFor_subset (s : StructDef) (perms : List String) (f : FieldDef) (hf : f ∈ s.fieldsFor perms) :
    f ∈ s.allAttrs :=
  (PermL.mem_fieldsSpec.1 ((PermL.mem_fieldsFor s perms f).1 hf)).1

/-- the `KeyError` of `_get_val_data_type` is unreachable -/
theorem valDataType_of_present (u : UnionDef) (tag : String) (perms : List String)
    (h : u.isTagPresent tag perms = true) : ∃ ft, u.valDataType tag perms = some ft := by
  refine Option.isSome_iff_exists.mp ?_
  unfold UnionDef.valDataType
  cases hf : perms.findSome? fun p => (u.tagmapAttr (some p)).bind (findTag tag) with
  | some t => simp
  | none =>
    simp only [Option.isSome_map]
    unfold UnionDef.isTagPresent at h
    rw [Bool.or_eq_true] at h
    cases h with
    | inl h => exact h
    | inr h =>
      rw [List.any_eq_true] at h
      obtain ⟨p, hp, hs⟩ := h
      rw [List.findSome?_eq_none_iff] at hf
      have := hf p hp
      rw [this] at hs
      simp at hs

theorem valDataType_tyWF (env : Env) (hwf : envWF env = true) (cls : String) (u : UnionDef)
    (hu : env.union? cls = some u) (tag : String) (perms : List String) (ft : PTy)
    (h : u.valDataType tag perms = some ft) : tyWF env ft = true := by
  obtain ⟨t, ht, _, rfl, _⟩ := PermL.valDataType_mem u tag perms ft h
  exact UnionDef.wf_tyWF (envWF_union hwf hu) ht

end DecL

end StoneVerif.Rt
