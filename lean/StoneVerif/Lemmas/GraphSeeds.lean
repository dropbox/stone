import StoneVerif.Lemmas.GraphWalk
/-! The starting points of the walk (`route_data_types`) characterised at specification level, and soundness of the
filter: everything it retains lies in every closed set that contains the seeds. -/
namespace StoneVerif.Graph

variable {g : Graph}

def docsOf (g : Graph) (r : Id) : List DocRef :=
  match g.node? r with
  | some n => n.docRefs
  | none => []

/-- The seeds, with each whitelisted route replaced by its signature and the targets of its doc: these, not the
whitelisted routes, are what the walk is started on. -/
def IsStart (g : Graph) (wl : Whitelist) (b : Id) : Prop :=
  (∃ p ∈ wl.routes, b ∈ nsDocSeeds g p.1 ∨
    ∃ r ∈ wlRouteIds g p.1 p.2, b ∈ ioOf g r ∨ b ∈ docTargets g p.1 (docsOf g r)) ∨
  ∃ p ∈ wl.datatypes, b ∈ nsDocSeeds g p.1 ∨ b ∈ p.2.flatMap (fun t => (g.typeByName p.1 t).toList)

theorem mem_seeds {wl : Whitelist} {s : Id} :
    s ∈ seeds g wl ↔ (∃ p ∈ wl.routes, s ∈ nsDocSeeds g p.1 ∨ s ∈ wlRouteIds g p.1 p.2) ∨
      ∃ p ∈ wl.datatypes, s ∈ nsDocSeeds g p.1 ∨ s ∈ p.2.flatMap fun t => (g.typeByName p.1 t).toList := by
  simp only [seeds, List.mem_append, List.mem_flatMap (l := wl.routes), List.mem_flatMap (l := wl.datatypes)]

def Seeds.all (s : Seeds) : List Id := s.types ++ s.docRoutes

theorem mem_all_append {a b : Seeds} {x : Id} : x ∈ (a.append b).all ↔ x ∈ a.all ∨ x ∈ b.all := by
  simp only [Seeds.all, Seeds.append, List.mem_append]
  exact or_or_or_comm

theorem docSeeds_spec {ctx ns : String} {refs : List DocRef} {s : Seeds}
    (hp : parseDocs g ctx refs = .ok (specDocs g ns refs)) (h : docSeeds g ctx refs = .ok s) :
    s.ids = [] ∧ ∀ b, b ∈ s.all ↔ b ∈ docTargets g ns refs := by
  simp only [docSeeds, hp, Except.ok.injEq] at h
  subst h
  exact ⟨rfl, fun b => List.mem_append.trans mem_specDocs⟩

def canonOf (g : Graph) (ns : String) (reprs : List String) : Except Err (List (String × Nat)) :=
  if reprs == ["*"] then
    match g.ns? ns with
    | none => .error (.keyError ns)
    | some n => .ok (n.routes.filterMap fun r => (g.node? r).map fun nd => (nd.name, nd.version))
  else parseReprs reprs

theorem canonicalRoutes_cons (ns : String) (reprs : List String) (rest : List (String × List String)) :
    canonicalRoutes g ((ns, reprs) :: rest) =
      match canonOf g ns reprs, canonicalRoutes g rest with
      | .ok a, .ok b => .ok ((ns, a) :: b)
      | .error e, _ => .error e
      | _, .error e => .error e := rfl

theorem canonOf_ids (hwf : g.refsOk = true) {ns : String} {reprs : List String}
    {cr : List (String × Nat)} (hc : canonOf g ns reprs = .ok cr) :
    cr.flatMap (fun c => (g.routeByName ns c.1 c.2).toList) = wlRouteIds g ns reprs := by
  simp only [canonOf] at hc
  simp only [wlRouteIds]
  split at hc
  · rename_i hstar
    simp only [hstar, ↓reduceIte]
    split at hc
    · simp at hc
    rename_i n hn
    cases hc
    simp only [hn]
    have key : ∀ rs : List Id, (∀ r ∈ rs, r ∈ n.routes) →
        (rs.filterMap fun r => (g.node? r).map fun nd => (nd.name, nd.version)).flatMap
          (fun c => (g.routeByName ns c.1 c.2).toList) = rs := by
      intro rs
      induction rs with
      | nil => intro _; rfl
      | cons r rs ih =>
        intro hsub
        obtain ⟨nd, hnd, hk, hns⟩ := refsOk_routes hwf hn (hsub r (List.mem_cons_self ..))
        have := routeByName_of_route hwf hnd hk
        rw [hns] at this
        simp only [List.filterMap_cons, hnd, Option.map_some, List.flatMap_cons, this, Option.toList_some,
          List.singleton_append, ih fun x hx => hsub x (List.mem_cons_of_mem _ hx)]
    exact key n.routes fun _ h => h
  · rename_i hstar
    simp only [hstar, Bool.false_eq_true, ↓reduceIte]
    clear hstar
    fun_induction parseReprs reprs generalizing cr <;> cases hc
    · rfl
    · rename_i hb ha ih
      simp only [List.flatMap_cons, ha, ih hb]

theorem routeSeeds_spec (hda : docsAgree g = true) {ns : String} {cr : List (String × Nat)}
    {s : Seeds} (h : routeSeeds g ns cr = .ok s) :
    s.ids = cr.flatMap (fun c => (g.routeByName ns c.1 c.2).toList) ∧
    ∀ b, b ∈ s.all ↔ ∃ r ∈ s.ids, b ∈ ioOf g r ∨ b ∈ docTargets g ns (docsOf g r) := by
  fun_induction routeSeeds g ns cr generalizing s <;> cases h
  · exact ⟨rfl, by simp [Seeds.all]⟩
  · rename_i name v rest rt hrt io nd hnd hio ds hds more hrest ih
    obtain ⟨ih1, ih2⟩ := ih hrest
    obtain ⟨nd', hnd', _, hns, _⟩ := routeByName_some hrt
    cases hnd.symm.trans hnd'
    have hdoc := docsAgree_node hda hnd
    rw [hns] at hdoc
    obtain ⟨hd0, hd⟩ := docSeeds_spec hdoc hds
    have hids : (({ types := io, ids := [rt] } : Seeds).append (ds.append more)).ids = rt :: more.ids := by
      simp [Seeds.append, hd0]
    refine ⟨by rw [hids, List.flatMap_cons, hrt, ← ih1]; rfl, fun b => ?_⟩
    have hfirst : b ∈ ({ types := io, ids := [rt] } : Seeds).all ↔ b ∈ ioOf g rt := by
      simp [Seeds.all, (routeIo_ok hio).2]
    rw [hids]
    simp only [mem_all_append, hd b, ih2 b, List.mem_cons, hfirst, exists_eq_or_imp, docsOf, hnd, or_assoc]

theorem routeWhitelistSeeds_spec (hwf : g.refsOk = true) (hda : docsAgree g = true)
    {l : List (String × List String)} {c : List (String × List (String × Nat))} {s : Seeds}
    (h1 : canonicalRoutes g l = .ok c) (h2 : routeWhitelistSeeds g c = .ok s) :
    s.ids = l.flatMap (fun p => wlRouteIds g p.1 p.2) ∧
    ∀ b, b ∈ s.all ↔ ∃ p ∈ l, b ∈ nsDocSeeds g p.1 ∨
      ∃ r ∈ wlRouteIds g p.1 p.2, b ∈ ioOf g r ∨ b ∈ docTargets g p.1 (docsOf g r) := by
  fun_induction routeWhitelistSeeds g c generalizing l s <;> cases h2
  · cases l with
    | nil => simp [Seeds.all]
    | cons p l => rw [canonicalRoutes_cons] at h1; split at h1 <;> cases h1
  · rename_i ns a c' n hn nsDoc hnsDoc _ here hrs more hrest ih
    cases l with
    | nil => cases h1
    | cons p l =>
      obtain ⟨ns', reprs⟩ := p
      rw [canonicalRoutes_cons] at h1
      split at h1 <;> cases h1
      rename_i ha hc'
      obtain ⟨i1, i3⟩ := ih hc' hrest
      obtain ⟨r1, r2⟩ := routeSeeds_spec hda hrs
      obtain ⟨hd0, hd⟩ := docSeeds_spec (docsAgree_ns hda hn) hnsDoc
      have hids := r1.trans (canonOf_ids hwf ha)
      refine ⟨by simp [Seeds.append, hd0, List.flatMap_cons, hids, i1], fun b => ?_⟩
      simp only [mem_all_append, hd b, r2 b, i3 b, List.mem_cons, hids, exists_eq_or_imp, nsDocSeeds, hn, or_assoc]

theorem typeSeeds_spec {ns : String} {names : List String} {ids : List Id}
    (h : typeSeeds g ns names = .ok ids) : ids = names.flatMap (fun t => (g.typeByName ns t).toList) := by
  fun_induction typeSeeds g ns names generalizing ids <;> cases h
  · rfl
  · rename_i hid _ hrest ih
    simp [List.flatMap_cons, hid, ← ih hrest]

theorem datatypeWhitelistSeeds_spec (hda : docsAgree g = true) {l : List (String × List String)}
    {s : Seeds} (h : datatypeWhitelistSeeds g l = .ok s) :
    ∀ b, b ∈ s.all ↔ ∃ p ∈ l, b ∈ nsDocSeeds g p.1 ∨ b ∈ p.2.flatMap (fun t => (g.typeByName p.1 t).toList) := by
  fun_induction datatypeWhitelistSeeds g l generalizing s <;> cases h
  · simp [Seeds.all]
  · rename_i ns names rest n hn nsDoc hnsDoc a more hb ha ih
    have i2 := ih hb
    obtain ⟨_, hd⟩ := docSeeds_spec (docsAgree_ns hda hn) hnsDoc
    intro b
    have hmid : ∀ l : List Id, b ∈ ({ types := l } : Seeds).all ↔ b ∈ l := fun l => by simp [Seeds.all]
    simp only [mem_all_append, hd b, i2 b, List.mem_cons, typeSeeds_spec ha, hmid, exists_eq_or_imp, nsDocSeeds, hn,
      or_assoc]

theorem whitelistFilter_spec (hwf : g.refsOk = true) (hda : docsAgree g = true) {wl : Whitelist} {r : Filtered}
    (h : whitelistFilter g wl = .ok r) :
    ∃ st, dfs g (g.dfsFuel r.start.length) (r.start.map .node) {} = .ok st ∧ r.types = st.types ∧
      (∀ x, x ∈ r.routes ↔ x ∈ wlAllRouteIds g wl ∨ x ∈ st.routes) ∧ r.seen = st.seen ∧
      filterAliases g st.types (g.dfsFuel 0) g.allAliases = .ok r.aliases ∧ ∀ b, b ∈ r.start ↔ IsStart g wl b := by
  revert h
  fun_cases whitelistFilter g wl <;> intro h <;> cases h
  rename_i canon hc rs hr ds hd _ st hst als hals
  obtain ⟨i1, i3⟩ := routeWhitelistSeeds_spec hwf hda hc hr
  have d2 := datatypeWhitelistSeeds_spec hda hd
  refine ⟨st, hst, rfl, fun x => ?_, rfl, hals, fun b => ?_⟩
  · rw [mem_addAll, i1]
    simp [wlAllRouteIds]
  · -- the data types, then the routes the starting docs refer to
    show b ∈ rs.types ++ ds.types ++ (rs.docRoutes ++ ds.docRoutes) ↔ _
    simp only [List.mem_append]
    rw [or_or_or_comm, ← List.mem_append, ← List.mem_append]
    exact or_congr (i3 b) (d2 b)

theorem filter_sound (hwf : g.refsOk = true) (hda : docsAgree g = true) {wl : Whitelist}
    {r : Filtered} (h : whitelistFilter g wl = .ok r) {T : Id → Prop} (hT : Stable (succ g) T)
    (hseeds : ∀ s ∈ seeds g wl, T s) :
    (∀ t ∈ r.types, T t) ∧ (∀ rt ∈ r.routes, T rt) := by
  obtain ⟨st, hst, e1, e2, _, _, hstart⟩ := whitelistFilter_spec hwf hda h
  have hwlr : ∀ p ∈ wl.routes, ∀ r ∈ wlRouteIds g p.1 p.2, T r := fun p hp r hr =>
    hseeds r (mem_seeds.2 (Or.inl ⟨p, hp, Or.inr hr⟩))
  have hs : ∀ b, IsStart g wl b → T b := by
    rintro b (⟨p, hp, h | ⟨r, hr, h⟩⟩ | hd)
    · exact hseeds b (mem_seeds.2 (Or.inl ⟨p, hp, Or.inl h⟩))
    · -- a whitelisted route is a seed: its signature and what its doc refers to follow by closedness
      have hTr := hwlr p hp r hr
      obtain ⟨nd, hnd, hk, hns⟩ := wlRouteIds_route hwf hr
      rcases h with h | h
      · exact hT.walked hTr hnd (.inr (.inl (ioOf_route hnd (kind_of_isRoute hk) ▸ h)))
      · exact hT.walked hTr hnd (.inr (.inr (by simpa [docsOf, hnd, hns] using h)))
    · exact hseeds b (mem_seeds.2 (Or.inr hd))
  have := dfs_sound hwf hda hT hst
    (fun it hit => by
      obtain ⟨b, hb, rfl⟩ := List.mem_map.1 hit
      exact hs b ((hstart b).1 hb))
    (fun _ ht => nomatch ht) (fun _ ht => nomatch ht)
  refine ⟨by rw [e1]; exact this.1, fun rt hrt => ?_⟩
  rcases (e2 rt).1 hrt with h | h
  · obtain ⟨p, hp, hr⟩ := List.mem_flatMap.1 h
    exact hwlr p hp rt hr
  · exact this.2 rt h

end StoneVerif.Graph
