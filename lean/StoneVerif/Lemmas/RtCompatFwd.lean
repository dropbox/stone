import StoneVerif.Lemmas.RtCompatValidate
import StoneVerif.Lemmas.RtCompatReadings
import StoneVerif.Lemmas.RtCompatDocs
/-!
The forward simulation: whatever B's decoder accepts (in either mode), A's lenient decoder accepts as the A-view of what B
built, and A's strict decoder does the same on documents with nothing A does not know (`knownDoc`).  `decode_sub` is the
induction over the document behind `forward_compat`.
-/
namespace StoneVerif.Rt.Compat

/-- where B decoded a value, A decoded its A-view; where B has no member, A has none; where B failed, nothing is asked -/
def ChildRel (ρ : Rho) (A : Env) (cA cB : List (String × R PyVal)) (name : String) (tA : PTy) : Prop :=
  match childLookup name cB with
  | some (.ok x) => childLookup name cA = some (.ok (view ρ A tA x))
  | some (.error _) => True
  | none => childLookup name cA = none

theorem fieldStep_sub (E : Ext) {ρ : Rho} {A B : Env} (cx : Ctx ρ A B) {f g : FieldDef} (hsub : fieldSub ρ f g = true)
    (hw : tyWF A f.ty = true) {cA cB : List (String × R PyVal)} (hch : ChildRel ρ A cA cB f.name f.ty)
    (o : Option PyVal) (h : fieldStep E B cB g = .ok o) :
    fieldStep E A cA f = .ok (o.map (view ρ A f.ty)) := by
  obtain ⟨hty, _, hnul, hud, _⟩ := fieldSub_parts hsub
  unfold ChildRel at hch
  rw [fieldSub_name hsub] at hch
  exact fieldStep_transport (fieldSub_name hsub).symm hnul.symm hud.symm (isNoneV_view ρ A f.ty)
    (validateTypeOnly_sub cx.wfA hty hw) (validate_sub E cx (.of_eq_true hty) hw)
    (hasDefault_sub cx.compat cx.wfB hty hw).symm (view_getDefault (compat_wf cx.compat) hty) hch o h

theorem knownMembers_strict_ok (A : Env) (c : String) (kvs : List (String × JVal))
    (h : knownMembers A (structTable A c) kvs = true) :
    kvs.any (fun kx => !((publicFields A c).map (·.name)).contains kx.1 && !kx.1.startsWith ".tag") = false := by
  refine List.any_eq_false.2 fun kx hm => ?_
  have h1 := (knownMembers_iff A _ kvs).1 h kx hm
  rw [← table_contains]
  unfold structTable at h1
  cases hf : ((publicFields A c).map fun f => (f.name, f.ty)).find? (·.1 == kx.1) with
  | some p => simp
  | none => simp only [hf] at h1; simp [h1]

theorem finishStruct_sub (E : Ext) {ρ : Rho} {A B : Env} (cx : Ctx ρ A B) {a b : String} {sa sb : StructDef}
    (hsa : A.struct? a = some sa) (hsb : B.struct? b = some sb)
    (hcommon : ∀ f ∈ publicFields A a, ∃ g ∈ publicFields B b, fieldSub ρ f g = true)
    (kvs : List (String × JVal)) {cA cB : List (String × R PyVal)}
    (hch : ∀ f ∈ publicFields A a, ChildRel ρ A cA cB f.name f.ty) (sA sB : Bool) (w : PyVal)
    (hk : sA = true → knownMembers A (structTable A a) kvs = true)
    (h : finishStruct E B [] sB b kvs cB = .ok w) :
    ∃ slotsB, w = .struct b slotsB ∧
      finishStruct E A [] sA a kvs cA =
        .ok (.struct a (orderSlots (publicFields A a) (viewSlots ρ A (publicFields A a) slotsB))) := by
  refine finishStruct_transport E cx.wfB cx.wfA hsb hsa (lookupSlot_viewSlots ρ A _) kvs sB sA w ?_ ?_
    (fun slots hall => fieldsOk_view hcommon (publicFields_nodupS cx.wfA a) (fun f hf => List.mem_map.mpr ⟨f, hf, rfl⟩) slots hall) h
  · cases sA with
    | false => rfl
    | true => rw [Bool.true_and]; exact knownMembers_strict_ok A a kvs (hk rfl)
  · intro slotsB hrun f hf
    obtain ⟨g, hg, hsub⟩ := hcommon f hf
    have := fieldStep_sub E cx hsub (publicFields_tyWF cx.wfA hf) (hch f hf) _
      (runFields_steps E B cB _ slotsB hrun (publicFields_nodup cx.wfB b) g hg)
    rw [fieldSub_name hsub]; exact this

/-- quantified over the member tables: a union's nested payload is decoded with the one-entry table `[(tag, ty)]`, not a
struct table -/
def MembersIH (E : Ext) (ρ : Rho) (A B : Env) (sA sB : Bool) (kvs : List (String × JVal)) : Prop :=
  ∀ (tblA tblB : List (String × PTy)) (k : String) (ftA ftB : PTy),
    (sA = true → knownMembers A tblA kvs = true) →
    tblA.find? (·.1 == k) = some (k, ftA) → tblB.find? (·.1 == k) = some (k, ftB) →
    tySub ρ ftA ftB = true → tyWF A ftA = true →
    ChildRel ρ A (decodeMembers E A [] sA tblA kvs) (decodeMembers E B [] sB tblB kvs) k ftA

theorem children_struct {E : Ext} {ρ : Rho} {A B : Env} (cx : Ctx ρ A B) {a b : String} {sA sB : Bool}
    {kvs : List (String × JVal)} (hIH : MembersIH E ρ A B sA sB kvs)
    (hk : sA = true → knownMembers A (structTable A a) kvs = true)
    (hcommon : ∀ f ∈ publicFields A a, ∃ g ∈ publicFields B b, fieldSub ρ f g = true) :
    ∀ f ∈ publicFields A a, ChildRel ρ A (decodeMembers E A [] sA (structTable A a) kvs)
      (decodeMembers E B [] sB (structTable B b) kvs) f.name f.ty := by
  intro f hf
  obtain ⟨g, hg, hsub⟩ := hcommon f hf
  have h1 := structTable_find cx.wfA hf
  have h2 := structTable_find cx.wfB hg
  rw [← fieldSub_name hsub] at h2
  exact hIH _ _ f.name f.ty g.ty hk h1 h2 (fieldSub_parts hsub).1 (publicFields_tyWF cx.wfA hf)

theorem decode_struct_sub (E : Ext) {ρ : Rho} {A B : Env} (cx : Ctx ρ A B) {f g : Flags} {c c' : String}
    (hr : ρ.rel c c' = true) {sa : StructDef} (hsa : A.struct? c = some sa) (kvs : List (String × JVal)) (sA sB : Bool)
    (w : PyVal) (hIH : MembersIH E ρ A B sA sB kvs)
    (hk : sA = true → knownDoc A (.struct f c) (.obj kvs) = true)
    (h : decode E B [] sB (.struct g c') (.obj kvs) = .ok w) :
    decode E A [] sA (.struct f c) (.obj kvs) = .ok (view ρ A (.struct f c) w) := by
  obtain ⟨sb, hsb⟩ := struct_related cx.compat hr hsa
  have hrel := fieldsRel_public cx.compat cx.wfA cx.wfB hr hsa
  rw [knownDoc_struct_obj] at hk
  rw [decode_struct_obj_structTable E sB g hsb] at h
  rw [decode_struct_obj_structTable E sA f hsa]
  obtain ⟨slotsB, hw, hA⟩ := finishStruct_sub E cx hsa hsb hrel.common kvs
    (children_struct cx hIH hk hrel.common) sA sB w hk h
  rw [hA, hw, view_struct_struct]

/-- a strict A is only given documents with nothing it does not know (`hk`): on a document with something unknown, A is lenient -/
theorem lenient_of_unknown {sA b : Bool} (hk : sA = true → b = true) (hb : b = false) : sA = false := by
  cases sA with
  | false => rfl
  | true => rw [hk rfl] at hb; cases hb

theorem decode_tree_sub (E : Ext) {ρ : Rho} {A B : Env} (cx : Ctx ρ A B) {f g : Flags} {c c' : String}
    (hr : ρ.rel c c' = true) {sa : StructDef} (hsa : A.struct? c = some sa) (hta : sa.subtypes.isSome = true)
    (kvs : List (String × JVal)) (sA sB : Bool) (w : PyVal) (hIH : MembersIH E ρ A B sA sB kvs)
    (hk : sA = true → knownDoc A (.tree f c) (.obj kvs) = true)
    (h : decode E B [] sB (.tree g c') (.obj kvs) = .ok w) :
    decode E A [] sA (.tree f c) (.obj kvs) = .ok (view ρ A (.tree f c) w) := by
  obtain ⟨sb, hsb⟩ := struct_related cx.compat hr hsa
  obtain ⟨_, hsubs⟩ := subsRel (compat_struct cx.compat hr hsa) hsa hsb hta
  have hρ := compat_wf cx.compat
  obtain ⟨tag, ht⟩ := decode_tree_tag h
  rw [decode_tree_obj E B sB g c' kvs ht hsb] at h
  rw [decode_tree_obj E A sA f c kvs ht hsa]
  rw [knownDoc_tree_obj A f c kvs ht hsa] at hk
  have hlen : findSub [tag] (sa.subtypes.getD []) = none → sA = false := fun hfA =>
    lenient_of_unknown hk (by simp [hfA])
  cases hfB : findSub [tag] (sb.subtypes.getD []) with
  | some eB =>
    -- B lists the tag
    obtain ⟨tagsB, scB, trB⟩ := eB
    obtain ⟨hmB, htB⟩ := findSub_some hfB
    simp only at htB
    subst htB
    simp only [hfB] at h
    cases trB with
    | true => simp [verr] at h
    | false =>
      simp only [Bool.false_eq_true, if_false] at h
      obtain ⟨hsubB, dB, hdB⟩ := structSubclass_entry cx.wfB hsb hmB
      simp only at hsubB hdB
      cases hfA : findSub [tag] (sa.subtypes.getD []) with
      | some eA =>
        -- A lists it too: related leaves
        obtain ⟨tagsA, scA, trA⟩ := eA
        obtain ⟨hmA, htA⟩ := findSub_some hfA
        simp only at htA
        subst htA
        obtain ⟨e', hf', hr', htr'⟩ := hsubs.known _ hmA
        simp only at hf' hr' htr'
        rw [hfB] at hf'
        cases hf'
        simp only at hr' htr'
        subst htr'
        obtain ⟨_, dA, hdA⟩ := structSubclass_entry cx.wfA hsa hmA
        simp only at hdA
        have hrel := fieldsRel_public cx.compat cx.wfA cx.wfB hr' hdA
        simp only [hfA] at hk
        obtain ⟨slotsB, hw, hA⟩ := finishStruct_sub E cx hdA hdB hrel.common kvs
          (children_struct cx hIH hk hrel.common) sA sB w hk h
        simp only [Bool.false_eq_true, if_false, hA, hw, view_tree_struct,
          treeClassA_leaf hρ cx.wfA hsa hmA hr']
      | none =>
        -- A does not: A, a lenient catch-all, reads with its root's fields what B read with the leaf's
        obtain rfl := hlen hfA
        have hca : sa.catchAll = true := by
          rcases hsubs.fresh with h1 | h1
          · exact h1
          · have := h1 _ hmB
            simp only [hfA] at this
            cases this
        have hrel := fieldsRel_public cx.compat cx.wfA cx.wfB hr hsa
        -- B's leaf inherits the descriptors of B's root (`wfuB`), which are related to those of A's root
        have hcommon : ∀ f' ∈ publicFields A c, ∃ g' ∈ publicFields B scB, fieldSub ρ f' g' = true := by
          intro f' hf'
          obtain ⟨g0, hg0, hs0⟩ := hrel.common f' hf'
          obtain ⟨g', hg', hs'⟩ := publicFields_prefixU cx.wfuB hsubB g0 hg0
          exact ⟨g', hg', fieldSub_sameAttr hs0 hs'⟩
        obtain ⟨slotsB, hw, hA⟩ := finishStruct_sub E cx hsa hdB hcommon kvs
          (children_struct cx hIH (fun h => by cases h) hcommon) false sB w (fun h => by cases h) h
        simp only [Bool.false_eq_true, if_false, hca, if_true, hA, hw, view_tree_struct,
          treeClassA_fresh cx hsa hsb hsubs hmB hfA]
  | none =>
    -- B does not list the tag: both are lenient catch-alls and read the root
    simp only [hfB] at h
    cases sB with
    | true => simp [verr] at h
    | false =>
      simp only [Bool.false_eq_true, if_false] at h
      by_cases hcb : sb.catchAll = true
      · simp only [hcb, if_true] at h
        have hfA : findSub [tag] (sa.subtypes.getD []) = none := by
          cases hfA : findSub [tag] (sa.subtypes.getD []) with
          | none => rfl
          | some eA =>
            exfalso
            obtain ⟨hmA, htA⟩ := findSub_some hfA
            obtain ⟨e', hf', _⟩ := hsubs.known _ hmA
            rw [htA, hfB] at hf'
            cases hf'
        have hrel := fieldsRel_public cx.compat cx.wfA cx.wfB hr hsa
        obtain rfl := hlen hfA
        obtain ⟨slotsB, hw, hA⟩ := finishStruct_sub E cx hsa hsb hrel.common kvs
          (children_struct cx hIH (fun h => by cases h) hrel.common) false false w (fun h => by cases h) h
        simp only [hfA, Bool.false_eq_true, if_false, hsubs.catchAll, hcb, if_true, hA, hw, view_tree_struct,
          treeClassA_root hρ A hr]
      · simp [hcb, verr] at h

theorem mkUnion_sub (E : Ext) {ρ : Rho} {A B : Env} (cx : Ctx ρ A B) {a b tag : String} {ua ub : UnionDef} {tdA tdB : TagDef}
    (hua : A.union? a = some ua) (hub : B.union? b = some ub)
    (htA : publicTag? A a tag = some tdA) (htB : publicTag? B b tag = some tdB)
    (hty : tySub ρ tdA.ty tdB.ty = true) (x w : PyVal) (h : mkUnion E B b tag x = .ok w) :
    w = .union b tag x ∧ mkUnion E A a tag (view ρ A tdA.ty x) = .ok (.union a tag (view ρ A tdA.ty x)) :=
  have hw := publicTag_tyWF cx.wfA htA
  mkUnion_transport hub hua (ctorValidator_of_public cx.wfB hub htB) (ctorValidator_of_public cx.wfA hua htA)
    (tySub_nullable hty).symm (tySub_isVoid hty).symm (tySub_isUserTyC08 hty).symm (isNoneV_view ρ A tdA.ty)
    (validateTypeOnly_sub cx.wfA hty hw) (validate_sub E cx (.of_eq_true hty) hw) x w h

theorem void_strict_ok (tag : String) (htag : tag ≠ ".tag") : ∀ (kvs : List (String × JVal)),
    (kvs.all fun kx => kx.1 == ".tag" || (kx.1 == tag && (match kx.2 with | .null => true | _ => false))) = true →
    voidExtra tag kvs = false
  | [], _ => rfl
  | (k, x) :: rest, h => by
    simp only [List.all_cons, Bool.and_eq_true] at h
    have ih := void_strict_ok tag htag rest h.2
    unfold voidExtra at ih ⊢
    simp only [Bool.or_eq_false_iff] at ih
    by_cases hk : k = tag
    · subst hk
      have hx : x = .null := by
        have h1 := h.1
        have : (k == ".tag") = false := by simpa using htag
        simp only [this, Bool.false_or, beq_self_eq_true, Bool.true_and] at h1
        cases x <;> first | rfl | cases h1
      subst hx
      simp [jsonLookup, ih.2]
    · have hne : (k == tag) = false := by simpa using hk
      have hdot : k = ".tag" := by
        have h1 := h.1
        simpa [hne] using h1
      subst hdot
      simp only [jsonLookup, hne]
      simp [ih.1, ih.2]

theorem knownDoc_union_docTag_unknown (A : Env) (fl : Flags) (c : String) {j : JVal} {tag : String}
    (hj : docTag j = some tag) (ht : publicTag? A c tag = none) : knownDoc A (.union fl c) j = false := by
  rcases docTag_cases hj with rfl | ⟨kvs, rfl, hk⟩
  · rw [knownDoc_union_str, ht]; rfl
  · exact knownDoc_union_unknown A fl c hk ht

theorem decode_union_sub (E : Ext) {ρ : Rho} {A B : Env} (cx : Ctx ρ A B) {f g : Flags} {c c' : String}
    (hr : ρ.rel c c' = true) {ua : UnionDef} (hua : A.union? c = some ua) (j : JVal) (sA sB : Bool) (w : PyVal)
    (hnn : (g.nullable && isNullJ j) = false)
    (hIH : ∀ kvs, j = .obj kvs → MembersIH E ρ A B sA sB kvs)
    (hk : sA = true → knownDoc A (.union f c) j = true)
    (h : decode E B [] sB (.union g c') j = .ok w) :
    decode E A [] sA (.union f c) j = .ok (view ρ A (.union f c) w) := by
  obtain ⟨ub, hub, hcaEq, -⟩ := (unionSub_iff hua).1 (compat_union cx.compat hr hua)
  have hT := tagsRel cx hr hua
  have hcaA : catchAllOf A c = ua.catchAll := by simp [catchAllOf, hua]
  apply UnionOk.decode_eq cx.wfA hua f
  -- a tag A does not know is read as the catch-all (a strict A never sees one: `hk`)
  have hunknown : ∀ {tag ca : String}, docTag j = some tag → publicTag? A c tag = none → ua.catchAll = some ca →
      UnionOk E A sA c ua j (.union c ca .none) := fun hj htA hca =>
    .fallback hj htA (lenient_of_unknown hk (knownDoc_union_docTag_unknown A f c hj htA)) hca
  -- a tag of B: either A is done without looking at the payload (unknown tag, or Void in A), or A has it at an older type
  have hA : ∀ {tag : String} {tdB : TagDef} (p : PyVal), docTag j = some tag → publicTag? B c' tag = some tdB →
      (some tag == ub.catchAll) = false →
      UnionOk E A sA c ua j (view ρ A (.union f c) (.union c' tag p)) ∨
        ∃ tdA, publicTag? A c tag = some tdA ∧ tySub ρ tdA.ty tdB.ty = true ∧ isVoidT tdA.ty = false ∧
          view ρ A (.union f c) (.union c' tag p) = .union c tag (view ρ A tdA.ty p) := by
    intro tag tdB p hj htB hnc
    cases htA : publicTag? A c tag with
    | none =>
      obtain ⟨ca, hca⟩ := Option.isSome_iff_exists.mp (hT.fresh tag tdB htA htB)
      rw [view_union_unknown ρ A f _ _ htA, hca]
      exact .inl (hunknown hj htA (hcaA ▸ hca))
    | some tdA =>
      obtain ⟨tdB', h1, hty⟩ := hT.known tag tdA htA
      rw [htB] at h1; cases h1
      rw [view_union_known ρ A f _ _ htA]
      cases hvA : isVoidT tdA.ty with
      | false =>
        exact .inr ⟨tdA, rfl, hty.resolve_right (by simp [hvA]), hvA, if_neg Bool.false_ne_true⟩
      | true =>
        left
        rw [if_pos rfl]
        rcases docTag_cases hj with rfl | ⟨kvs, rfl, hkt⟩
        · exact .symbol htA (by simp [hvA]) (hcaEq ▸ hnc)
        · refine .void hkt htA (hcaEq ▸ hnc) hvA ?_
          cases sA with
          | false => rfl
          | true =>
            exact void_strict_ok tag (publicTag_ne_dotTag cx.wfA htA) kvs
              ((knownDoc_union_void A f c hkt htA hvA).symm.trans (hk rfl))
  cases UnionOk.of_decode cx.wfB hub hnn h with
  | @fallback j tag ca hj htB hs hca =>
    have htA : publicTag? A c tag = none := by
      cases htA : publicTag? A c tag with
      | none => rfl
      | some tdA => obtain ⟨tdB, h1, _⟩ := hT.known tag tdA htA; rw [htB] at h1; cases h1
    obtain ⟨tdA, htdA, _⟩ := catchAll_tag cx.wfA (hcaA.trans (hcaEq.trans hca))
    rw [view_union_none ρ A f c' htdA]
    exact hunknown hj htA (hcaEq.trans hca)
  | @symbol tag tdB htB hvn hnc =>
    rcases hA .none rfl htB hnc with hdone | ⟨tdA, htA, hty, hvA, hview⟩
    · exact hdone
    · rw [hview, view_none]
      exact .symbol htA (by rw [tySub_isVoid hty, tySub_nullable hty]; exact hvn) (hcaEq ▸ hnc)
  | @void kvs tag tdB hkt htB hnc hvB hs =>
    rcases hA .none (docTag_obj hkt) htB hnc with hdone | ⟨tdA, htA, hty, hvA, _⟩
    · exact hdone
    · rw [tySub_isVoid hty, hvB] at hvA; cases hvA
  | @bare tag tdB gB scB htB hnc hqB hnB =>
    rcases hA .none (docTag_obj (by simp [jsonLookup])) htB hnc with hdone | ⟨tdA, htA, hty, hvA, hview⟩
    · exact hdone
    · rw [hview, view_none]
      rw [hqB] at hty
      obtain ⟨fA, scA, hqA, hty⟩ := tySub_struct_right hty
      exact .bare htA (hcaEq ▸ hnc) hqA (hty.1 ▸ hnB)
  | @struct kvs tag tdB gB scB v w hkt htB hnc hqB hl hfin hmk =>
    obtain rfl := mkUnion_shape E hmk
    rcases hA v (docTag_obj hkt) htB hnc with hdone | ⟨tdA, htA, htySub, hvA, hview⟩
    · exact hdone
    · have hwA := publicTag_tyWF cx.wfA htA
      have hty := htySub
      rw [hqB] at hty
      obtain ⟨fA, scA, hqA, hty⟩ := tySub_struct_right hty
      rw [knownDoc_union_struct A f c hkt htA hqA] at hk
      obtain ⟨sa', hsa', -⟩ : ∃ sa', A.struct? scA = some sa' ∧ sa'.subtypes.isNone = true := tyWF_struct (hqA ▸ hwA)
      obtain ⟨sb', hsb'⟩ := struct_related cx.compat hty.2 hsa'
      have hrel := fieldsRel_public cx.compat cx.wfA cx.wfB hty.2 hsa'
      obtain ⟨slotsB, hvw, hfinA⟩ := finishStruct_sub E cx hsa' hsb' hrel.common kvs
        (children_struct cx (hIH kvs rfl) hk hrel.common) sA sB v hk hfin
      obtain ⟨-, hmkA⟩ := mkUnion_sub E cx hua hub htA htB htySub v _ hmk
      rw [hview]
      rw [hqA, hvw, view_struct_struct] at hmkA ⊢
      exact .struct hkt htA (hcaEq ▸ hnc) hqA (hty.1 ▸ hl) hfinA hmkA
  | @nested kvs tag tdB v w hkt htB hnc hvB hpB hpl hany hmk =>
    obtain rfl := mkUnion_shape E hmk
    rcases hA v (docTag_obj hkt) htB hnc with hdone | ⟨tdA, htA, hty, hvA, hview⟩
    · exact hdone
    · have hwA := publicTag_tyWF cx.wfA htA
      have hpA : isPlainStruct tdA.ty = false := tySub_isPlainStruct hty ▸ hpB
      rw [knownDoc_union_nested A f c hkt htA hvA hpA] at hk
      have hcr := hIH kvs rfl [(tag, tdA.ty.withFlags {})] [(tag, tdB.ty.withFlags {})] tag
        (tdA.ty.withFlags {}) (tdB.ty.withFlags {}) hk (by simp) (by simp) (tySub_withFlags hty)
        (tyWF_withFlags_empty hwA)
      unfold ChildRel at hcr
      have hplA := payloadOf_rel (view_none ρ A (tdA.ty.withFlags {})) hcr _ _ hpl
      rw [view_withFlags, ← tySub_nullable hty] at hplA
      obtain ⟨-, hmkA⟩ := mkUnion_sub E cx hua hub htA htB hty v _ hmk
      rw [hview]
      exact .nested hkt htA (hcaEq ▸ hnc) hvA hpA hplA hany hmkA

/-- primitives: `make_stone_friendly` without validation does not look at the environment -/
theorem msf_sub (E : Ext) (A B : Env) {ρ : Rho} {tA tB : PTy} (h : tySub ρ tA tB = true) (hp : isPrimTy tB = true)
    (sA sB : Bool) (j : JVal) (w : PyVal) (hk : sA = true → knownDoc A tA j = true)
    (hd : makeStoneFriendly E B [] sB false tB j = .ok w) :
    makeStoneFriendly E A [] sA false tA j = .ok w := by
  cases TySub.of_eq_true h with
  | list | map | struct | tree | union => cases hp
  | prim hp' =>
    by_cases hv : isVoidT tA = true
    · obtain ⟨fl, rfl⟩ : ∃ fl, tA = .void fl := by cases tA <;> first | exact ⟨_, rfl⟩ | cases hv
      -- a strict A finds `null` (`knownDoc`); a lenient one does not look
      have hA : (sA && !isNullJ j) = false := by
        cases sA with
        | false => rfl
        | true => have := hk rfl; rw [knownDoc_void] at this; rw [this]; rfl
      rw [makeStoneFriendly_void, hA]
      rw [PTy.withFlags, makeStoneFriendly_void] at hd
      split at hd
      · cases hd
      · exact hd
    · rw [msf_prim_indep E A B sA sB hp' (by simpa using hv)]; exact hd

def DecodeSubAt (E : Ext) (ρ : Rho) (A B : Env) (j : JVal) : Prop :=
  ∀ (tA tB : PTy) (sA sB : Bool) (w : PyVal), tySub ρ tA tB = true → tyWF A tA = true →
    (sA = true → knownDoc A tA j = true) →
    decode E B [] sB tB j = .ok w → decode E A [] sA tA j = .ok (view ρ A tA w)

theorem decodeList_sub_of_elems {E : Ext} {ρ : Rho} {A B : Env} : ∀ {xs : List JVal}, (∀ x ∈ xs, DecodeSubAt E ρ A B x) →
    ∀ (tA tB : PTy) (sA sB : Bool) (ys : List PyVal), tySub ρ tA tB = true → tyWF A tA = true →
      (sA = true → knownList A tA xs = true) →
      decodeList E B [] sB tB xs = .ok ys → decodeList E A [] sA tA xs = .ok (viewList ρ A tA ys)
  | [], _, _, _, _, _, _, _, _, _, hd => by cases hd; rfl
  | x :: xs, ih, tA, tB, sA, sB, ys, h, hw, hk, hd => by
    simp only [knownList, Bool.and_eq_true] at hk
    obtain ⟨y, ys', h1, h2, rfl⟩ := decodeList_cons_ok hd
    exact decodeList_cons_of (ih x List.mem_cons_self tA tB sA sB y h hw (fun hs => (hk hs).1) h1)
      (decodeList_sub_of_elems (fun x' hx' => ih x' (List.mem_cons_of_mem _ hx')) tA tB sA sB ys' h hw
        (fun hs => (hk hs).2) h2)

theorem decodeMap_sub_of_elems {E : Ext} {ρ : Rho} {A B : Env} : ∀ {kvs : List (String × JVal)},
    (∀ p ∈ kvs, DecodeSubAt E ρ A B p.2) →
    ∀ (tA tB : PTy) (sA sB : Bool) (ys : List (PyVal × PyVal)), tySub ρ tA tB = true →
      tyWF A tA = true → (sA = true → knownVals A tA kvs = true) → decodeMap E B [] sB tB kvs = .ok ys →
      decodeMap E A [] sA tA kvs = .ok (viewDict ρ A tA ys)
  | [], _, _, _, _, _, _, _, _, _, hd => by cases hd; rfl
  | (k, x) :: rest, ih, tA, tB, sA, sB, ys, h, hw, hk, hd => by
    simp only [knownVals, Bool.and_eq_true] at hk
    obtain ⟨y, ys', h1, h2, rfl⟩ := decodeMap_cons_ok hd
    exact decodeMap_cons_of (ih (k, x) List.mem_cons_self tA tB sA sB y h hw (fun hs => (hk hs).1) h1)
      (decodeMap_sub_of_elems (fun p hp => ih p (List.mem_cons_of_mem _ hp)) tA tB sA sB ys' h hw
        (fun hs => (hk hs).2) h2)

/-- no induction: both sides look the member up in the document (`childLookup_decodeMembers`) -/
theorem members_sub_of_elems {E : Ext} {ρ : Rho} {A B : Env} {kvs : List (String × JVal)}
    (ih : ∀ p ∈ kvs, DecodeSubAt E ρ A B p.2) (sA sB : Bool) : MembersIH E ρ A B sA sB kvs := by
  intro tblA tblB k ftA ftB hkm hfa hfb hty hw
  unfold ChildRel
  rw [childLookup_decodeMembers, childLookup_decodeMembers, hfa, hfb]
  cases hx : jsonLookup k kvs with
  | none => rfl
  | some x =>
    have hm := mem_of_jsonLookup hx
    cases hdx : decode E B [] sB ftB x with
    | error e => simp only [Option.bind_some, Option.map_some, hdx]
    | ok v =>
      have hkx : sA = true → knownDoc A ftA x = true := fun hs => by
        have := (knownMembers_iff A tblA kvs).1 (hkm hs) (k, x) hm
        simpa only [hfa] using this
      simp only [Option.bind_some, Option.map_some, hdx, ih (k, x) hm ftA ftB sA sB v hty hw hkx hdx]

theorem decode_sub (E : Ext) {ρ : Rho} {A B : Env} (cx : Ctx ρ A B) (j : JVal) : DecodeSubAt E ρ A B j := by
  induction j using JVal.children_induction with | _ j harr hobj
  intro tA tB sA sB w h hw hk hd
  have hn := tySub_nullable h
  by_cases hnull : (tB.flags.nullable && isNullJ j) = true
  · rw [Bool.and_eq_true] at hnull
    rw [eq_null_of_isNullJ hnull.2, decode_nullable_null E B [] sB hnull.1] at hd
    cases hd
    rw [eq_null_of_isNullJ hnull.2, decode_nullable_null E A [] sA (hn ▸ hnull.1), view_none]
  · simp only [Bool.not_eq_true] at hnull
    have hmem := fun kvs (hj : j = .obj kvs) => members_sub_of_elems (hobj kvs hj) sA sB
    cases TySub.of_eq_true h with
    | @prim _ g hp =>
      rw [decode_prim E B [] sB (by rw [isPrimTy_withFlags]; exact hp), hnull, if_neg Bool.false_ne_true] at hd
      rw [decode_prim E A [] sA hp, hn, hnull, if_neg Bool.false_ne_true,
        msf_sub E A B h (by rw [isPrimTy_withFlags]; exact hp) sA sB j w hk hd, view_prim ρ A hp]
    | @list f g ia ib lo hi _ hi' =>
      obtain ⟨xs, ys, rfl, rfl, hl⟩ := decode_list_ok hd hnull
      rw [knownDoc_list_arr] at hk
      rw [decode_list_arr, decodeList_sub_of_elems (harr xs rfl) ia ib sA sB ys hi'.eq_true hw hk hl, view_list_list]
      rfl
    | @map f g ka kb va vb _ _ hvt =>
      obtain ⟨kvs, ys, rfl, rfl, hl⟩ := decode_map_ok hd hnull
      rw [knownDoc_map_obj] at hk
      rw [decode_map_obj, decodeMap_sub_of_elems (hobj kvs rfl) va vb sA sB ys hvt.eq_true (tyWF_map hw).2.2 hk hl,
        view_map_dict]
      rfl
    | @struct f g c c' _ hr =>
      obtain ⟨sa, hsa, -⟩ := tyWF_struct hw
      rcases decode_struct_shape hd with rfl | ⟨kvs, rfl⟩
      · simp only [PTy.flags, isNullJ, Bool.and_true] at hnull hn
        rw [decode_struct_null, hnull] at hd
        rw [decode_struct_null, hn, hnull]
        simp only [Bool.false_eq_true, if_false] at hd ⊢
        rw [hasDefault_sub cx.compat cx.wfB (TySub.struct (f := {}) (g := {}) rfl hr).eq_true hw]
        split at hd
        · rename_i hdf
          cases hd
          simp only [hdf, if_true, view_struct_struct, viewSlots, orderSlots_nil]
        · cases hd
      · exact decode_struct_sub E cx hr hsa kvs sA sB w (hmem kvs rfl) hk hd
    | @tree f g c c' _ hr =>
      obtain ⟨sa, hsa, hta⟩ := tyWF_tree hw
      obtain ⟨kvs, rfl⟩ := decode_tree_shape hd hnull
      exact decode_tree_sub E cx hr hsa hta kvs sA sB w (hmem kvs rfl) hk hd
    | @union f g c c' _ hr =>
      obtain ⟨ua, hua⟩ := tyWF_union hw
      exact decode_union_sub E cx hr hua j sA sB w hnull hmem hk hd

theorem decodeList_sub (E : Ext) {ρ : Rho} {A B : Env} (cx : Ctx ρ A B) :
    ∀ (xs : List JVal) (tA tB : PTy) (sA sB : Bool) (ys : List PyVal), tySub ρ tA tB = true → tyWF A tA = true →
      (sA = true → knownList A tA xs = true) →
      decodeList E B [] sB tB xs = .ok ys → decodeList E A [] sA tA xs = .ok (viewList ρ A tA ys) :=
  fun _ => decodeList_sub_of_elems fun x _ => decode_sub E cx x

theorem decodeMap_sub (E : Ext) {ρ : Rho} {A B : Env} (cx : Ctx ρ A B) :
    ∀ (kvs : List (String × JVal)) (tA tB : PTy) (sA sB : Bool) (ys : List (PyVal × PyVal)), tySub ρ tA tB = true →
      tyWF A tA = true → (sA = true → knownVals A tA kvs = true) → decodeMap E B [] sB tB kvs = .ok ys →
      decodeMap E A [] sA tA kvs = .ok (viewDict ρ A tA ys) :=
  fun _ => decodeMap_sub_of_elems fun p _ => decode_sub E cx p.2

theorem members_sub (E : Ext) {ρ : Rho} {A B : Env} (cx : Ctx ρ A B) :
    ∀ (kvs : List (String × JVal)) (sA sB : Bool), MembersIH E ρ A B sA sB kvs :=
  fun _ => members_sub_of_elems fun p _ => decode_sub E cx p.2

end StoneVerif.Rt.Compat
