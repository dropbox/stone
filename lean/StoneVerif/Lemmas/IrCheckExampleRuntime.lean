import StoneVerif.Lemmas.RtWire
import StoneVerif.Lemmas.RtTables
import StoneVerif.Lemmas.RtFields
import StoneVerif.Lemmas.RtValidate
/-! C10, examples, the runtime side, starting from the document: a JSON object whose members are, field by field, tokens
that the strict decoder takes over unchanged, assignment accepts and the wire form gives back (`StepOK`) is decoded at
a struct type into the instance holding exactly those members, whose wire form is the object's members in declaration
order (`struct_roundtrip`); the four scalar tokens (`ScalarOK`); one tag of a union with `None` or a scalar payload.
Nothing here mentions the compiler, nor C04's round trip `RtRoundTrip`, which starts from a value. -/
namespace StoneVerif.IrCheck
open StoneVerif.Rt

def lk {α : Type} (name : String) : List (String × α) → Option α
  | [] => none
  | (k, v) :: rest => if k == name then some v else lk name rest

theorem lk_eq_find? {α : Type} (n : String) (l : List (String × α)) : lk n l = (l.find? (·.1 == n)).map (·.2) := by
  induction l with
  | nil => rfl
  | cons p rest ih => obtain ⟨k, v⟩ := p; rw [lk, List.find?_cons, ih]; cases k == n <;> rfl

theorem childLookup_eq_lk (n : String) (l : List (String × R PyVal)) : childLookup n l = lk n l :=
  (childLookup_eq_find? n l).trans (lk_eq_find? n l).symm

/-- the JSON token `j`, at the validator `vt`: the strict decoder takes it over as `pyOfJson j`, a valid value in
stored form that validates to itself, and whose wire form is `j` again -/
structure ScalarOK (E : Ext) (env : Env) (vt : PTy) (j : JVal) : Prop where
  dec : decode E env [] true vt j = .ok (pyOfJson j)
  val : validate E env vt (pyOfJson j) = .ok (pyOfJson j)
  wir : wire E env vt (pyOfJson j) = j
  nn : pyOfJson j ≠ .none
  vld : validB E env vt (pyOfJson j) = true
  nrm : normalB env vt (pyOfJson j) = true

structure StepSome (E : Ext) (env : Env) (fd : FieldDef) (j : JVal) : Prop extends ScalarOK E env fd.ty j where
  sto : storeVal E env fd (pyOfJson j) = .ok (some (pyOfJson j))

/-- `none`: the compiler's document writes defaults out, so only a nullable field lacks its key -/
def StepOK (E : Ext) (env : Env) (fd : FieldDef) : Option JVal → Prop
  | some j => StepSome E env fd j
  | none => fd.attrNullable = true ∧ fd.ty.flags.nullable = true

def slotsOf (fds : List FieldDef) (kvs : List (String × JVal)) : List (String × PyVal) :=
  fds.filterMap fun fd => ((jsonLookup fd.name kvs).map pyOfJson).map fun v => (fd.name, v)

theorem children_of_field (E : Ext) (env : Env) (fds : List FieldDef) (hnd : (fds.map (·.name)).Nodup)
    (kvs : List (String × JVal)) (fd : FieldDef) (h : fd ∈ fds) :
    childLookup fd.name (decodeMembers E env [] true (fds.map fun f => (f.name, f.ty)) kvs) =
      (jsonLookup fd.name kvs).map (decode E env [] true fd.ty) := by
  rw [childLookup_decodeMembers, find?_table_of_mem hnd h]; rfl

theorem lookupSlot_slotsOf (fds : List FieldDef) (hnd : (fds.map (·.name)).Nodup) (kvs : List (String × JVal))
    (fd : FieldDef) (h : fd ∈ fds) : lookupSlot fd.name (slotsOf fds kvs) = (jsonLookup fd.name kvs).map pyOfJson := by
  rw [lookupSlot_eq_find?]
  exact find?_filterMap_of_mem (·.name) (fun fd => (jsonLookup fd.name kvs).map pyOfJson) fds hnd fd h

theorem attrHas_slotsOf (E : Ext) (env : Env) (fds : List FieldDef) (hnd : (fds.map (·.name)).Nodup)
    (kvs : List (String × JVal)) (hstep : ∀ fd ∈ fds, StepOK E env fd (jsonLookup fd.name kvs)) :
    (fds.all fun f => attrHas f (slotsOf fds kvs)) = true := by
  rw [List.all_eq_true]
  intro fd hfd
  have hs := hstep fd hfd
  simp only [attrHas, attrGet, lookupSlot_slotsOf fds hnd kvs fd hfd]
  cases hj : jsonLookup fd.name kvs with
  | some j => simp
  | none => simp only [hj, StepOK] at hs; simp [hs.1]

theorem wireSlots_slotsOf (E : Ext) (env : Env) (fds : List FieldDef) (hnd : (fds.map (·.name)).Nodup)
    (kvs : List (String × JVal)) (hstep : ∀ fd ∈ fds, StepOK E env fd (jsonLookup fd.name kvs)) :
    wireSlots E env fds (slotsOf fds kvs) = pick fds kvs ∧
      validSlots E env fds (slotsOf fds kvs) = true ∧ normalSlots env fds (slotsOf fds kvs) = true := by
  suffices key : ∀ L : List FieldDef, (∀ fd ∈ L, fd ∈ fds) →
      wireSlots E env fds (slotsOf L kvs) = pick L kvs ∧
      validSlots E env fds (slotsOf L kvs) = true ∧ normalSlots env fds (slotsOf L kvs) = true from
    key fds fun _ h => h
  intro L
  induction L with
  | nil => intro _; simp [slotsOf, pick, wireSlots, validSlots, normalSlots]
  | cons fd rest ih =>
    intro hsub
    have hfd : fd ∈ fds := hsub fd (by simp)
    have ih' := ih (fun g hg => hsub g (List.mem_cons_of_mem _ hg))
    have hs := hstep fd hfd
    unfold slotsOf pick at ih' ⊢
    have hw : lookupW fd.name kvs = jsonLookup fd.name kvs := by rw [lookupW_eq_find?, jsonLookup_eq_find?]
    cases hj : jsonLookup fd.name kvs with
    | none => simpa [List.filterMap_cons, hw, hj] using ih'
    | some j =>
      simp only [hj, StepOK] at hs
      have hf := find?_key_of_mem (·.name) hnd hfd
      simp only [List.filterMap_cons, hw, hj, Option.map_some]
      rw [wireSlots_cons_some E env fds fd.name (pyOfJson j) _ fd hf hs.nn, hs.wir, ih'.1]
      simp only [validSlots, normalSlots, hf, hs.vld, hs.nrm, ih'.2.1, ih'.2.2]
      simp

theorem struct_roundtrip (E : Ext) (env : Env) (cls : String) (sd : StructDef) (kvs : List (String × JVal))
    (henv : env.struct? cls = some sd)
    (hnd : ((sd.fieldsFor []).map (·.name)).Nodup) (hkn : (kvs.map (·.1)).Nodup)
    (hkeys : ∀ kv ∈ kvs, kv.1 ∈ (sd.fieldsFor []).map (·.name))
    (hstep : ∀ fd ∈ sd.fieldsFor [], StepOK E env fd (jsonLookup fd.name kvs)) :
    decode E env [] true (.struct {} cls) (.obj kvs) = .ok (.struct cls (slotsOf (sd.fieldsFor []) kvs)) ∧
    wire E env (.struct {} cls) (.struct cls (slotsOf (sd.fieldsFor []) kvs)) = .obj (pick (sd.fieldsFor []) kvs) ∧
    (pick (sd.fieldsFor []) kvs).Perm kvs ∧
    normalB env (.struct {} cls) (.struct cls (slotsOf (sd.fieldsFor []) kvs)) = true ∧
    (cls ∈ sd.ancestors → validB E env (.struct {} cls) (.struct cls (slotsOf (sd.fieldsFor []) kvs)) = true) := by
  have hpf : publicFields env cls = sd.fieldsFor [] := by simp [publicFields, henv, fieldsFor_nil]
  refine ⟨?_, ?_, ?_, ?_⟩
  · rw [decode_struct_obj, memberTable_struct env [] true {} kvs henv]
    rw [finishStruct_eq E env [] true henv]
    have hstrict : (kvs.any fun x => match x with
        | (k, _) => !((sd.fieldsFor []).map (·.name)).contains k && !k.startsWith ".tag") = false := by
      rw [List.any_eq_false]
      rintro ⟨k, j⟩ hkv
      have := hkeys _ hkv
      simp only at this
      obtain ⟨x, hx, hxk⟩ := List.mem_map.mp this
      simp
      intro h
      exact absurd hxk (h x hx)
    have hff : finishFields E env (sd.fieldsFor [])
        (decodeMembers E env [] true ((sd.fieldsFor []).map fun f => (f.name, f.ty)) kvs) [] =
        .ok (slotsOf (sd.fieldsFor []) kvs) := by
      rw [finishFields_run E env _ _ hnd,
        runFields_of_steps E env _ (fun fd => (jsonLookup fd.name kvs).map pyOfJson)]
      · rfl
      · intro fd hfd
        have hs := hstep fd hfd
        rw [fieldStep, children_of_field E env _ hnd kvs fd hfd]
        cases hj : jsonLookup fd.name kvs with
        | some j =>
          simp only [hj, StepOK] at hs
          simp only [Option.map_some, hs.dec, hs.sto]
        | none =>
          simp only [hj, StepOK] at hs
          simp only [Option.map_none, hasDefault_nullable env hs.2, getDefault_nullable hs.2, if_true, storeVal, hs.1, isNoneV,
            Bool.and_self]
    simp only [hstrict, hff, R_bind_ok, attrHas_slotsOf E env _ hnd kvs hstep]
    simp
  · unfold wire
    simp only [hpf, (wireSlots_slotsOf E env _ hnd kvs hstep).1]
    exact congrArg JVal.obj (pick_congr _ _ _ fun f hf => lookupW_pick hnd _ hf)
  · exact pick_perm (sd.fieldsFor []) kvs hnd hkn hkeys
  · obtain ⟨_, h1, h2⟩ := wireSlots_slotsOf E env _ hnd kvs hstep
    refine ⟨?_, fun hself => ?_⟩
    · unfold normalB
      simp [hpf, h2]
    · unfold validB
      simp [PTy.flags, hpf, Env.structSubclass, henv, hself, h1, attrHas_slotsOf E env _ hnd kvs hstep]

theorem isJsonPrimTy_kind {t : PTy} (h : isJsonPrimTy t = true) :
    isVoidTy t = false ∧ isPlainStruct t = false ∧ isVoidT t = false ∧ isUserTyC08 t = false := by
  cases t with
  | bool | int | float | str => exact ⟨rfl, rfl, rfl, rfl⟩
  | _ => cases h

theorem scalarOK_bool (E : Ext) (env : Env) (fl : Flags) (b : Bool) : ScalarOK E env (.bool fl) (.bool b) where
  dec := by rw [decode_prim E env [] true rfl]; simp only [Bool.and_false, Bool.false_eq_true, if_false]; rfl
  val := validate_bool_val E env fl b
  wir := rfl
  nn := fun h => nomatch h
  vld := (ValidLeaf.bool fl b).validB
  nrm := rfl

theorem scalarOK_int (E : Ext) (env : Env) (fl : Flags) (cls : String) (lo hi n : Int) (h1 : lo ≤ n) (h2 : n ≤ hi) :
    ScalarOK E env (.int fl cls lo hi) (.int n) where
  dec := by rw [decode_prim E env [] true rfl]; simp only [Bool.and_false, Bool.false_eq_true, if_false]; rfl
  val := validate_int_val E env fl cls h1 h2
  wir := rfl
  nn := fun h => nomatch h
  vld := (ValidLeaf.int fl cls h1 h2).validB
  nrm := rfl

theorem scalarOK_float (E : Ext) (env : Env) (fl : Flags) (cls : String) (lo hi : Option FBits) (x : FBits)
    (hin : inRange E lo hi x = true) : ScalarOK E env (.float fl cls lo hi) (.flt x) where
  dec := by rw [decode_prim E env [] true rfl]; simp only [Bool.and_false, Bool.false_eq_true, if_false]; rfl
  val := validate_float_val E env fl cls rfl hin
  wir := rfl
  nn := fun h => nomatch h
  vld := (ValidLeaf.float fl cls hin).validB
  nrm := rfl

theorem scalarOK_str (E : Ext) (env : Env) (fl : Flags) (a b : Option Nat) (p : Option String) (s : String)
    (hge : geOpt b s.length = true) (hle : leOpt a s.length = true)
    (hp : ∀ q, p = some q → q ≠ "" → E.patMatch q s = true) :
    ScalarOK E env (.str fl a b p) (.str s) where
  dec := by rw [decode_prim E env [] true rfl]; simp only [Bool.and_false, Bool.false_eq_true, if_false]; rfl
  val := validate_str_val E env fl a b p s hge hle hp
  wir := rfl
  nn := fun h => nomatch h
  vld := (ValidLeaf.str fl hle hge fun q hq => (Decidable.em (q = "")).imp_right (hp q hq)).validB
  nrm := rfl

theorem storeVal_of_validate (E : Ext) (env : Env) (fd : FieldDef) (x : PyVal) (hx : x ≠ .none)
    (hud : fd.attrUserDefined = false) (hv : validate E env fd.ty x = .ok x) :
    storeVal E env fd x = .ok (some x) :=
  storeVal_ok (.inl (isNoneV_of_ne hx)) (by unfold AttrOK; rw [hud]; exact hv)

/-- what the decoder, the constructor and the wire form find in the tables of class `cls` for the tag `tag`:
a public tag (`td`), not the catch-all -/
structure TagOK (env : Env) (cls : String) (ud : UnionDef) (tag : String) (td : TagDef) : Prop where
  reg : env.union? cls = some ud
  present : ud.isTagPresent tag [] = true
  vdt : ud.valDataType tag [] = some td.ty
  ctor : ud.ctorValidator tag = some td.ty
  pub : publicTag? env cls tag = some td
  notCatchAll : ¬ some tag = ud.catchAll
  notDotTag : tag ≠ ".tag"

section
variable (E : Ext) {env : Env} {cls : String} {ud : UnionDef} {tag : String} {td : TagDef} (h : TagOK env cls ud tag td)
include h

theorem decode_union_tagonly (hft : isVoidTy td.ty = true ∨ td.ty.flags.nullable = true) :
    decode E env [] true (.union {} cls) (.obj [(".tag", .str tag)]) = mkUnion E env cls tag .none := by
  have h1' : ¬ ".tag" = tag := fun e => h.notDotTag e.symm
  have h1 : (".tag" == tag) = false := by simp [h1']
  have hca : (some tag == ud.catchAll) = false := beq_false_of_ne h.notCatchAll
  rw [decode_union_obj E env [] true {} cls h.reg (by rw [jsonLookup, beq_self_eq_true, if_pos rfl]) h.present hca h.vdt]
  cases hv : isVoidTy td.ty
  · have hn : td.ty.flags.nullable = true := by simpa [hv] using hft
    cases hp : isPlainStruct td.ty <;>
      simp [hn, hp, memberTable, h.reg, h.present, h.vdt, decodeMembers, childLookup, jsonLookup, h1, h.notDotTag]
  · simp [jsonLookup, h1]

/-- `memberTable` has the tag's validator without its wrappers: hence `withFlags {}` -/
theorem decode_union_value (hsp : isJsonPrimTy td.ty = true) (j : JVal) :
    decode E env [] true (.union {} cls) (.obj [(".tag", .str tag), (tag, j)]) =
      (decode E env [] true (td.ty.withFlags {}) j).bind (mkUnion E env cls tag) := by
  have h1 : (".tag" == tag) = false := by simp; exact fun e => h.notDotTag e.symm
  have h2 : (tag == ".tag") = false := by simp [h.notDotTag]
  obtain ⟨hv, hp, _⟩ := isJsonPrimTy_kind hsp
  have hca : (some tag == ud.catchAll) = false := beq_false_of_ne h.notCatchAll
  rw [decode_union_obj E env [] true {} cls h.reg (by rw [jsonLookup, beq_self_eq_true, if_pos rfl]) h.present hca h.vdt]
  simp only [Bool.false_eq_true, if_false, h.reg, jsonLookup, beq_self_eq_true, if_true, h.present,
    Bool.not_true, h.vdt, hv, hp, memberTable, decodeMembers, List.find?, h1, h2, childLookup]
  cases decode E env [] true (td.ty.withFlags {}) j <;> simp [Except.bind]

theorem wire_union_tagonly : wire E env (.union {} cls) (.union cls tag .none) = .obj [(".tag", .str tag)] := by
  rw [wire_union E env h.pub, isNoneV_none, Bool.or_true, if_pos rfl]

theorem wire_union_value (hsp : isJsonPrimTy td.ty = true) {x : PyVal} (hx : x ≠ .none) :
    wire E env (.union {} cls) (.union cls tag x) = .obj [(".tag", .str tag), (tag, wire E env td.ty x)] := by
  obtain ⟨_, hp, hv, _⟩ := isJsonPrimTy_kind hsp
  rw [wire_union E env h.pub, hv, isNoneV_of_ne hx, hp]
  rfl

theorem validB_union (x : PyVal) (hself : cls ∈ ud.ancestors)
    (hx : (if isVoidT td.ty then isNoneV x else validB E env td.ty x) = true) :
    validB E env (.union {} cls) (.union cls tag x) = true := by
  rw [validB_union_union, h.pub, Env.unionSubclass, h.reg]
  exact Bool.and_eq_true_iff.2 ⟨List.contains_iff_mem.2 hself, hx⟩

theorem normalB_union (x : PyVal) (hx : normalB env td.ty x = true) :
    normalB env (.union {} cls) (.union cls tag x) = true := by
  unfold normalB
  simp [h.pub, hx]

theorem union_tagonly_roundtrip (hft : td.ty = .void {} ∨ td.ty.flags.nullable = true) :
    decode E env [] true (.union {} cls) (.obj [(".tag", .str tag)]) = .ok (.union cls tag .none) ∧
      wire E env (.union {} cls) (.union cls tag .none) = .obj [(".tag", .str tag)] ∧
      normalB env (.union {} cls) (.union cls tag .none) = true ∧
      (cls ∈ ud.ancestors → validB E env (.union {} cls) (.union cls tag .none) = true) := by
  refine ⟨?_, wire_union_tagonly E h, normalB_union h .none (normalB_none env _), fun hs => validB_union E h .none hs ?_⟩
  · rw [decode_union_tagonly E h (hft.imp_left fun e => by rw [e]; rfl), V8.mkUnion_none_ok E env cls tag ud h.reg td.ty h.ctor (hft.imp_left fun e => by rw [e]; rfl)]
  · rcases hft with hv | hn
    · rw [hv]; rfl
    · cases hvd : isVoidT td.ty
      · exact validB_nullable_none E env hn
      · rfl

theorem union_value_roundtrip (hsp : isJsonPrimTy td.ty = true) {j : JVal} (sc : ScalarOK E env td.ty j)
    (hdec : decode E env [] true (td.ty.withFlags {}) j = .ok (pyOfJson j)) :
    decode E env [] true (.union {} cls) (.obj [(".tag", .str tag), (tag, j)]) = .ok (.union cls tag (pyOfJson j)) ∧
      wire E env (.union {} cls) (.union cls tag (pyOfJson j)) = .obj [(".tag", .str tag), (tag, j)] ∧
      normalB env (.union {} cls) (.union cls tag (pyOfJson j)) = true ∧
      (cls ∈ ud.ancestors → validB E env (.union {} cls) (.union cls tag (pyOfJson j)) = true) := by
  have hnv := (isJsonPrimTy_kind hsp).2.2.1
  refine ⟨?_, ?_, normalB_union h _ sc.nrm, fun hs => validB_union E h _ hs (by rw [hnv]; exact sc.vld)⟩
  · rw [decode_union_value E h hsp, hdec]; exact V8.mkUnion_ok E env h.reg h.ctor sc.val fun hv => by rw [hnv] at hv; cases hv
  · rw [wire_union_value E h hsp sc.nn, sc.wir]

end

end StoneVerif.IrCheck
