import StoneVerif.Model.FeNames
import StoneVerif.Lemmas.Path
import StoneVerif.Lemmas.ListFacts
/-!
# Name registration: acceptance = `NoClash` (C01), order independence, crash layer (C03)

Every function of the pass gets one statement of one shape, `Decides r P Q`: `.ok x` with `Q x` when `P` holds, a
specification error when it does not; acceptance and the absence of Python exceptions are read off it (`Q`, the
resulting state, is what `Decides.bind` hands to the next step).  For the whole pass `P` is `NCk (decls fs)`, the rules as the pass applies
them; on namespace names without `/` this is the documented `NoClash`.  `Q` is `Inv st D N`: the two dictionaries key
by key, given the declarations `D` and namespace lines `N` with that key (`EntryOf`, `CanonOf`).  Every step stores
under the key of what it processes (`lookup_snoc`); the separator turns "equal key" into "equal canonical parts".
-/
namespace StoneVerif.FeNames
open StoneVerif.FeParams (PyExc)

theorem sep_eq : sep = ['/'] := by rw [sep, Tables.feCanonicalSep, String.toList_ofList]

theorem toLower_ne_slash (c : Char) (h : c ≠ '/') : c.toLower ≠ '/' := by
  intro e
  unfold Char.toLower at e
  split at e
  · rename_i hc
    have h1 := congrArg (fun x => x.val.toNat) e
    simp only [UInt32.toNat_add] at h1
    have h2 : 65 ≤ c.val.toNat := UInt32.le_iff_toNat_le.mp hc.1
    have h3 : c.val.toNat ≤ 90 := UInt32.le_iff_toNat_le.mp hc.2
    have h4 : ('a'.val - 'A'.val).toNat = 32 := by decide
    have h5 : ('/' : Char).val.toNat = 47 := by decide
    rw [h4, h5] at h1
    omega
  · exact h e

theorem slash_not_mem_lower {l : Name} (h : '/' ∉ l) : '/' ∉ lower l := by
  intro hm
  obtain ⟨c, hc, e⟩ := List.mem_map.mp hm
  exact toLower_ne_slash c (fun e' => h (e' ▸ hc)) e

theorem slash_not_mem_canonName (s : Name) : '/' ∉ canonName s := by
  apply slash_not_mem_lower
  intro hm
  have := (List.mem_filter.mp hm).2
  simp at this

theorem slash_not_mem_canonNs {m : Name} (h : '/' ∉ m) : '/' ∉ canonNs m := by
  apply slash_not_mem_lower
  intro hm
  exact h (List.mem_filter.mp hm).1

theorem sep_split {a a' b b' : Name} (ha : '/' ∉ a) (ha' : '/' ∉ a') (h : a ++ sep ++ b = a' ++ sep ++ b') :
    a = a' ∧ b = b' := by
  rw [sep_eq, List.append_assoc, List.append_assoc] at h
  obtain rfl := Path.first_comp_unique ha ha' (.inr ⟨b, rfl⟩) (.inr ⟨b', rfl⟩) h
  exact ⟨rfl, by simpa using h⟩

theorem key_eq_iff {n n' ns ns' : Name} :
    key n ns = key n' ns' ↔ canonName n = canonName n' ∧ canonNs ns = canonNs ns' :=
  ⟨sep_split (slash_not_mem_canonName n) (slash_not_mem_canonName n'), fun ⟨h1, h2⟩ => by rw [key, key, h1, h2]⟩

theorem canonName_eq_filter (s : Name) : canonName s = (canonNs s).filter (· != '/') := by
  unfold canonName canonNs lower
  rw [List.filter_map, List.filter_filter]
  congr 1
  apply List.filter_congr
  intro c _
  by_cases h : c = '/'
  · subst h; decide
  · simp only [Function.comp, bne_iff_ne.2 h, bne_iff_ne.2 (toLower_ne_slash c h), Bool.and_true, Bool.true_and]

theorem canonName_eq_canonNs {m : Name} (h : '/' ∉ m) : canonName m = canonNs m := by
  rw [canonName_eq_filter, List.filter_eq_self]
  intro c hc
  simpa using fun e : c = '/' => slash_not_mem_canonNs h (e ▸ hc)

/-- the key of a declaration in `_item_by_canonical_name` -/
def dkey (a : Decl) : Name := key a.item.name a.ns
/-- the slot of a declaration in the environment of its namespace -/
def exactOf (a : Decl) : Name × Name := (a.ns, a.item.name)

/-- which namespace lines have been read does not matter to the canonical-name test -/
theorem key_ns_eq_dkey {m : Name} {a : Decl} (h : key m m = dkey a) : key a.ns a.ns = dkey a := by
  obtain ⟨h1, h2⟩ := key_eq_iff.1 h
  refine key_eq_iff.2 ⟨?_, rfl⟩
  rw [← h1, canonName_eq_filter, canonName_eq_filter, h2]

/-- a declaration fits after the declarations `D`: what the tests of `addItem` decide (`Inv`, `addItem_spec`) -/
def Fits (D : List Decl) (a : Decl) : Prop :=
  (∀ b ∈ D, clash b a = false) ∧ redefinesBuiltin a = false ∧ key a.ns a.ns ≠ dkey a

/-- the rules as the pass applies them: `NoClash` with "named like a namespace it lives in" read off the keys, for
the declaration's own namespace line only -/
def NCk (D : List Decl) : Prop :=
  D.Pairwise (fun a b => clash a b = false) ∧ ∀ a ∈ D, redefinesBuiltin a = false ∧ key a.ns a.ns ≠ dkey a

theorem NCk_snoc (D : List Decl) (a : Decl) : NCk (D ++ [a]) ↔ NCk D ∧ Fits D a := by
  simp only [NCk, Fits, List.pairwise_append, List.mem_append, List.mem_singleton, List.pairwise_cons, List.Pairwise.nil]
  grind

theorem NCk.prefix {D D' : List Decl} (h : NCk (D ++ D')) : NCk D :=
  ⟨h.1.sublist (List.sublist_append_left _ _), fun a ha => h.2 a (List.mem_append_left _ ha)⟩

theorem clash_routes {b a : Decl} {w v} (hb : b.item.kind = .route w) (ha : a.item.kind = .route v) :
    clash b a = (b.ns == a.ns && b.item.name == a.item.name && w == v) := by
  unfold clash; rw [hb, ha]

theorem clash_of_nonroute {b a : Decl} (h : b.item.kind.isRoute = false ∨ a.item.kind.isRoute = false) :
    clash b a = (canonName b.item.name == canonName a.item.name && canonNs b.ns == canonNs a.ns) := by
  unfold clash
  split
  · rename_i hb ha
    rw [hb, ha] at h
    cases h <;> contradiction
  · rfl

theorem isRoute_iff {k : ItemKind} : k.isRoute = true ↔ ∃ v, k = .route v := by
  cases k <;> simp [ItemKind.isRoute]

theorem not_both_routes {k k' : ItemKind} (h : ¬(k.isRoute = true ∧ k'.isRoute = true)) :
    k.isRoute = false ∨ k'.isRoute = false := by
  cases hk : k.isRoute
  · exact .inl rfl
  · exact .inr (Bool.eq_false_iff.2 fun hk' => h ⟨hk, hk'⟩)

theorem clash_symm (a b : Decl) : clash a b = clash b a := by
  by_cases h : a.item.kind.isRoute = true ∧ b.item.kind.isRoute = true
  · obtain ⟨v, hv⟩ := isRoute_iff.1 h.1
    obtain ⟨w, hw⟩ := isRoute_iff.1 h.2
    rw [clash_routes hv hw, clash_routes hw hv, BEq.comm (a := a.ns), BEq.comm (a := a.item.name), BEq.comm (a := v)]
  · have h' := not_both_routes h
    rw [clash_of_nonroute h', clash_of_nonroute h'.symm, BEq.comm (a := canonName a.item.name),
      BEq.comm (a := canonNs a.ns)]

theorem clash_false_iff (b a : Decl) : clash b a = false ↔
    (exactOf b = exactOf a → b.item.kind.isRoute = true ∧ a.item.kind.isRoute = true ∧ b.item.kind ≠ a.item.kind) ∧
    (dkey b = dkey a → b.item.kind.isRoute = true ∧ a.item.kind.isRoute = true) := by
  have hex : exactOf b = exactOf a → dkey b = dkey a := fun h => by
    simp only [exactOf, Prod.mk.injEq] at h
    rw [dkey, dkey, h.1, h.2]
  by_cases h : b.item.kind.isRoute = true ∧ a.item.kind.isRoute = true
  · obtain ⟨w, hw⟩ := isRoute_iff.1 h.1
    obtain ⟨v, hv⟩ := isRoute_iff.1 h.2
    rw [clash_routes hw hv]
    simp [exactOf, hw, hv, ItemKind.isRoute]
  · rw [clash_of_nonroute (not_both_routes h)]
    have hl : (canonName b.item.name == canonName a.item.name && canonNs b.ns == canonNs a.ns) = false ↔
        dkey b ≠ dkey a := by
      rw [← Bool.not_eq_true, Bool.and_eq_true, beq_iff_eq, beq_iff_eq, ← key_eq_iff]; rfl
    rw [hl]
    exact ⟨fun hne => ⟨fun he => absurd (hex he) hne, fun hk => absurd hk hne⟩, fun ⟨_, hk⟩ e => h (hk e)⟩

def Decides {α} (r : Except Err α) (P : Prop) (Q : α → Prop) : Prop :=
  (P ∧ ∃ x, r = .ok x ∧ Q x) ∨ (¬P ∧ ∃ e, r = .error (.specerr e))

theorem Decides.isOk_iff {α} {r : Except Err α} {P Q} (h : Decides r P Q) : isOk r = true ↔ P := by
  rcases h with ⟨hp, x, rfl, -⟩ | ⟨hp, e, rfl⟩
  · exact iff_of_true rfl hp
  · exact iff_of_false nofun hp

theorem Decides.ne_crash {α} {r : Except Err α} {P Q} (h : Decides r P Q) (e : PyExc) : r ≠ .error (.crash e) := by
  rcases h with ⟨-, x, rfl, -⟩ | ⟨-, e', rfl⟩ <;> nofun

theorem Decides.bind {α β} {r : Except Err α} {k : α → Except Err β} {P P' : Prop} {Q : α → Prop} {Q' : β → Prop}
    (h : Decides r P Q) (hP : P' → P) (hk : ∀ x, P → Q x → Decides (k x) P' Q') :
    Decides (r >>= k) P' Q' := by
  rcases h with ⟨hp, x, rfl, hq⟩ | ⟨hp, e, rfl⟩
  · exact hk x hp hq
  · exact .inr ⟨fun h => hp (hP h), e, rfl⟩

theorem Decides.mono {α} {r : Except Err α} {P P' : Prop} {Q Q' : α → Prop} (h : Decides r P Q) (hP : P' ↔ P)
    (hQ : ∀ x, Q x → Q' x) : Decides r P' Q' :=
  h.imp (fun ⟨hp, x, hr, hq⟩ => ⟨hP.2 hp, x, hr, hQ x hq⟩) fun ⟨hp, e⟩ => ⟨fun h => hp (hP.1 h), e⟩

theorem Decides.ret {α} {P : Prop} {Q : α → Prop} (x : α) (hp : P) (hq : Q x) : Decides (.ok x) P Q :=
  .inl ⟨hp, x, rfl, hq⟩

theorem Decides.err {α} {P : Prop} {Q : α → Prop} (e : Reason) (hp : ¬P) : Decides (.error (.specerr e)) P Q :=
  .inr ⟨hp, e, rfl⟩

theorem Decides.ite {α} {P : Prop} {Q : α → Prop} {c : Prop} [Decidable c] (x : α) (e : Reason) (hc : c ↔ P)
    (hq : P → Q x) : Decides (if c then .ok x else .error (.specerr e)) P Q := by
  by_cases h : c
  · rw [if_pos h]; exact .ret x (hc.1 h) (hq (hc.1 h))
  · rw [if_neg h]; exact .err e fun hp => h (hc.2 hp)

theorem Decides.ite' {α} {P : Prop} {Q : α → Prop} {c : Prop} [Decidable c] (x : α) (e : Reason) (hc : ¬c ↔ P)
    (hq : P → Q x) : Decides (if c then .error (.specerr e) else .ok x) P Q := by
  by_cases h : c
  · rw [if_pos h]; exact .err e fun hp => hc.2 hp h
  · rw [if_neg h]; exact .ret x (hc.1 h) (hq (hc.1 h))

theorem lookup_cons_of_lookup {α β} [BEq α] [LawfulBEq α] [DecidableEq α] {k : α} {v : β} {l : List (α × β)}
    (h : l.lookup k = some v) (q : α) : List.lookup q ((k, v) :: l) = l.lookup q := by
  rw [lookup_cons_eq]
  split
  · next e => rw [e, h]
  · rfl

/-- A dictionary described key by key through the elements (of a list processed so far) that belong to the key:
storing a value under the key of a new element keeps the description, if the value fits that key. -/
theorem lookup_snoc {κ β α} [BEq κ] [LawfulBEq κ] [DecidableEq κ] (P : κ → Option β → List α → Prop) (f : α → κ)
    {l : List (κ × β)} {D : List α} (h : ∀ k, P k (l.lookup k) (D.filter (f · == k))) (a : α) (v : β)
    (hv : P (f a) (some v) (D.filter (f · == f a) ++ [a])) (k : κ) :
    P k (List.lookup k ((f a, v) :: l)) ((D ++ [a]).filter (f · == k)) := by
  rw [lookup_cons_eq, List.filter_append]
  by_cases hk : k = f a
  · subst hk
    simpa using hv
  · have : [a].filter (f · == k) = [] := by simp [Ne.symm hk]
    rw [if_neg hk, this, List.append_nil]
    exact h k

/-- what an environment holds under a name, given the declarations of that name in order: nothing; one definition
that is not a route; or the versions of its routes, latest first -/
def EntryOf : Option EnvEntry → List Decl → Prop
  | none, l => l = []
  | some .user, l => ∃ b, l = [b] ∧ b.item.kind.isRoute = false
  | some (.routes vs), l => vs ≠ [] ∧ l.map (·.item.kind) = (vs.map .route).reverse

def InvE (en : List ((Name × Name) × EnvEntry)) (D : List Decl) : Prop :=
  ∀ p, EntryOf (en.lookup p) (D.filter (exactOf · == p))

/-- the exact-name test of `addItem`: the new environment entry, or the error -/
def envCheck (k : ItemKind) (old : Option EnvEntry) (name : Name) : Except Err EnvEntry :=
  match k, old with
  | .route v, some (.routes vs) =>
    if vs.contains v then .error (.specerr .routeVersionDefined) else .ok (.routes (v :: vs))
  | .route v, none => .ok (.routes [v])
  | _, some e => .error (symbolAlreadyDefined (some e))
  | k, none =>
    if k == .annotationType && builtinAnnotations.contains name then .error (.specerr .builtinAnnotation)
    else .ok .user

/-- `envCheck` raises nothing: a stored `ApiRoutesByVersion` is never empty (`EntryOf`) -/
theorem EntryOf.check {old l} (h : EntryOf old l) (a : Decl) :
    Decides (envCheck a.item.kind old a.item.name)
      ((∀ b ∈ l, b.item.kind.isRoute = true ∧ a.item.kind.isRoute = true ∧ b.item.kind ≠ a.item.kind) ∧
        ¬(a.item.kind = .annotationType ∧ builtinAnnotations.contains a.item.name = true))
      fun ent => EntryOf (some ent) (l ++ [a]) := by
  obtain ⟨ns, k, name⟩ := a
  dsimp only
  rcases old with _ | _ | vs
  · obtain rfl : l = [] := h
    cases k
    case route v => exact Decides.ret (EnvEntry.routes [v]) (by simp) ⟨by simp, by simp⟩
    case annotationType =>
      simp only [envCheck]
      refine .ite' _ _ (by simp) fun _ => ⟨_, rfl, rfl⟩
    all_goals exact Decides.ret EnvEntry.user (by simp) ⟨_, rfl, rfl⟩
  · obtain ⟨b, rfl, hb⟩ := h
    have : envCheck k (some .user) name = .error (.specerr .symbolDefined) := by cases k <;> rfl
    rw [this]
    exact .err _ (by simp [hb])
  · obtain ⟨hne, hm⟩ := h
    -- the kinds under the name are the routes of the stored versions
    have hall : ∀ P : ItemKind → Prop, (∀ b ∈ l, P b.item.kind) ↔ ∀ w ∈ vs, P (.route w) := fun P => by
      rw [← List.forall_mem_map (f := fun b : Decl => b.item.kind) (P := P), hm]; simp
    obtain ⟨w0, hw0⟩ := List.exists_mem_of_ne_nil vs hne
    by_cases hk : k.isRoute = true
    · obtain ⟨v, rfl⟩ := isRoute_iff.1 hk
      simp only [envCheck]
      refine .ite' _ _ ?_ fun _ => ⟨by simp, by simp [hm]⟩
      rw [hall fun k' => k'.isRoute = true ∧ (ItemKind.route v).isRoute = true ∧ k' ≠ .route v]
      simp only [List.contains_iff_mem, ItemKind.isRoute, ne_eq, ItemKind.route.injEq, true_and, reduceCtorEq,
        false_and, not_false_eq_true, and_true]
      exact ⟨fun hv w hw e => hv (e ▸ hw), fun h hv => h v hv rfl⟩
    · have : envCheck k (some (.routes vs)) name = .error (.specerr .symbolDefined) := by
        cases vs with
        | nil => exact absurd rfl hne
        | cons => cases k <;> first | rfl | exact absurd rfl hk
      rw [this]
      exact .err _ fun h => hk (((hall fun k' => k'.isRoute = true ∧ k.isRoute = true ∧ k' ≠ k).1 h.1 w0 hw0).2.1)

theorem cls_eq_route_iff {k : ItemKind} : k.cls = .route ↔ k.isRoute = true := by
  cases k <;> simp [ItemKind.cls, ItemKind.isRoute]

theorem cls_ne_ns (k : ItemKind) : k.cls ≠ .ns := by cases k <;> simp [ItemKind.cls]

/-- what `_item_by_canonical_name` holds under a key, given the declarations `ds` and the namespace lines `ms` with
that key: nothing; the namespace (stored unconditionally, so it wins); or the common class of the declarations -/
def CanonOf : Option Cls → List Decl → List Name → Prop
  | none, ds, ms => ds = [] ∧ ms = []
  | some c, ds, ms => (c = .ns ∧ ms ≠ []) ∨ (ms = [] ∧ ds ≠ [] ∧ ∀ b ∈ ds, b.item.kind.cls = c)

/-- `w`: a declaration comes after the line of its namespace -/
structure InvC (cn : List (Name × Cls)) (D : List Decl) (N : List Name) : Prop where
  w : ∀ a ∈ D, a.ns ∈ N
  at_key : ∀ k, CanonOf (cn.lookup k) (D.filter (dkey · == k)) (N.filter fun m => key m m == k)

theorem InvC.pushNs {cn D N} (h : InvC cn D N) (m : Name) : InvC ((key m m, .ns) :: cn) D (N ++ [m]) :=
  ⟨fun a ha => List.mem_append_left _ (h.w a ha),
    lookup_snoc (fun k o ms => CanonOf o (D.filter (dkey · == k)) ms) (fun m => key m m) h.at_key m .ns
      (.inl ⟨rfl, by simp⟩)⟩

/-- the left side is what `checkCanon` tests -/
theorem CanonOf.ok_iff {o ds ms} {k : ItemKind} (h : CanonOf o ds ms) :
    (o = none ∨ (k.cls = o ∧ k.isRoute = true)) ↔
      (∀ b ∈ ds, b.item.kind.isRoute = true ∧ k.isRoute = true) ∧ ms = [] := by
  constructor
  · rintro (rfl | ⟨rfl, hr⟩)
    · exact ⟨by rw [h.1]; nofun, h.2⟩
    · rcases h with ⟨hc, -⟩ | ⟨hm, -, hall⟩
      · exact absurd hc (cls_ne_ns k)
      · exact ⟨fun b hb => ⟨cls_eq_route_iff.1 ((hall b hb).trans (cls_eq_route_iff.2 hr)), hr⟩, hm⟩
  · rintro ⟨hall, hm⟩
    rcases o with _ | c
    · exact .inl rfl
    · rcases h with ⟨-, hne⟩ | ⟨-, hne, hc⟩
      · exact absurd hm hne
      · obtain ⟨b0, hb0⟩ := List.exists_mem_of_ne_nil _ hne
        obtain ⟨h0, hr⟩ := hall b0 hb0
        exact .inr ⟨by rw [← hc b0 hb0, cls_eq_route_iff.2 h0, cls_eq_route_iff.2 hr], hr⟩

theorem CanonOf.snoc {ds ms} {a : Decl}
    (h : (∀ b ∈ ds, b.item.kind.isRoute = true ∧ a.item.kind.isRoute = true) ∧ ms = []) :
    CanonOf (some a.item.kind.cls) (ds ++ [a]) ms :=
  .inr ⟨h.2, by simp, fun b hb => (List.mem_append.1 hb).elim
    (fun hb => by rw [cls_eq_route_iff.2 (h.1 b hb).1, cls_eq_route_iff.2 (h.1 b hb).2])
    fun hb => by rw [List.mem_singleton.1 hb]⟩

theorem InvC.check {st : State} {D N} (h : InvC st.canon D N) (a : Decl) (ha : a.ns ∈ N) :
    Decides (checkCanon st a.item.kind.cls a.item.name a.ns a.item.kind.isRoute)
      ((∀ b ∈ D.filter (dkey · == dkey a), b.item.kind.isRoute = true ∧ a.item.kind.isRoute = true) ∧
        key a.ns a.ns ≠ dkey a)
      fun st' => st'.env = st.env ∧ InvC st'.canon (D ++ [a]) N := by
  have hw : ∀ b ∈ D ++ [a], b.ns ∈ N := by simpa [or_imp, forall_and] using ⟨h.w, ha⟩
  have hms : (N.filter fun m => key m m == dkey a) = [] ↔ key a.ns a.ns ≠ dkey a := by
    simp only [List.filter_eq_nil_iff, beq_iff_eq]
    exact ⟨fun h => h _ ha, fun h m _ e => h (key_ns_eq_dkey e)⟩
  have hk := (h.at_key (dkey a)).ok_iff (k := a.item.kind)
  have hnew := fun hp => lookup_snoc (fun k o ds => CanonOf o ds (N.filter fun m => key m m == k)) dkey h.at_key a _
    (CanonOf.snoc hp)
  rw [← hms]
  unfold checkCanon
  simp only
  -- the scrutinee written with `dkey a`, as `hk` and `hnew` have it, so that `cases hl` finds it
  change Decides (match st.canon.lookup (dkey a) with | none => _ | some stored => _) _ _
  cases hl : st.canon.lookup (dkey a) with
  | none =>
    have hp := hk.1 (.inl hl)
    exact .ret _ hp ⟨rfl, hw, hnew hp⟩
  | some c =>
    simp only [hl, reduceCtorEq, false_or] at hk
    simp only [Bool.and_eq_true, beq_iff_eq]
    refine .ite _ _ ((and_congr_left' ⟨congrArg some, Option.some.inj⟩).trans hk) fun hp => ⟨rfl, hw, fun k => ?_⟩
    -- a route joining routes: the class is there already
    rw [← lookup_cons_of_lookup (hl.trans (hk.2 hp).1.symm) k]
    exact hnew hp k

def Inv (st : State) (D : List Decl) (N : List Name) : Prop :=
  InvC st.canon D N ∧ InvE st.env D

theorem Inv.init : Inv {} [] [] := ⟨⟨nofun, fun _ => ⟨rfl, rfl⟩⟩, fun _ => rfl⟩

theorem addItem_eq (st : State) (ns : Name) (x : Item) : addItem st ns x =
    if builtinTypes.contains x.name then .error (.specerr .symbolDefined) else
    envCheck x.kind (st.env.lookup (ns, x.name)) x.name >>= fun ent =>
      checkCanon { st with env := ((ns, x.name), ent) :: st.env } x.kind.cls x.name ns x.kind.isRoute := by
  unfold addItem envCheck
  split
  · rfl
  · generalize st.env.lookup (ns, x.name) = o
    rcases x with ⟨k, name⟩
    cases k <;> rcases o with _ | (_ | vs) <;> simp only [ItemKind.cls, ItemKind.isRoute] <;>
      first | rfl | (split <;> rfl)

theorem addItem_spec {st D N} (hI : Inv st D N) (a : Decl) (ha : a.ns ∈ N) :
    Decides (addItem st a.ns a.item) (Fits D a) fun st' => Inv st' (D ++ [a]) N := by
  rw [addItem_eq]
  have hfit : Fits D a ↔ builtinTypes.contains a.item.name = false ∧
      ((∀ b ∈ D.filter (exactOf · == exactOf a),
          b.item.kind.isRoute = true ∧ a.item.kind.isRoute = true ∧ b.item.kind ≠ a.item.kind) ∧
        ¬(a.item.kind = .annotationType ∧ builtinAnnotations.contains a.item.name = true)) ∧
      (∀ b ∈ D.filter (dkey · == dkey a), b.item.kind.isRoute = true ∧ a.item.kind.isRoute = true) ∧
        key a.ns a.ns ≠ dkey a := by
    simp only [Fits, clash_false_iff, forall_and, List.mem_filter, beq_iff_eq, and_imp, redefinesBuiltin,
      Bool.or_eq_false_iff, Bool.and_eq_false_iff, beq_eq_false_iff_ne, ne_eq, Decidable.not_and_iff_not_or_not,
      Bool.not_eq_true]
    exact ⟨fun ⟨⟨b, c⟩, ⟨d, e⟩, f⟩ => ⟨d, ⟨b, e⟩, c, f⟩, fun ⟨d, ⟨b, e⟩, c, f⟩ => ⟨⟨b, c⟩, ⟨d, e⟩, f⟩⟩
  split
  · rename_i hb
    exact .err _ fun h => by rw [(hfit.1 h).1] at hb; cases hb
  · rename_i hb
    refine ((hI.2 (exactOf a)).check a).bind (fun h => (hfit.1 h).2.1) fun ent hE hent => ?_
    refine (InvC.check (st := { st with env := (exactOf a, ent) :: st.env }) hI.1 a ha).mono
      ⟨fun h => (hfit.1 h).2.2, fun hC => hfit.2 ⟨by simpa using hb, hE, hC⟩⟩ fun st' hst' => ?_
    exact ⟨hst'.2, hst'.1 ▸ lookup_snoc (fun _ => EntryOf) exactOf hI.2 a ent hent⟩

theorem addItems_cons (st : State) (ns : Name) (x : Item) (xs : List Item) :
    addItems st ns (x :: xs) = addItem st ns x >>= (addItems · ns xs) := by
  rw [addItems]; cases addItem st ns x <;> rfl

theorem registerFrom_cons (st : State) (f : File) (fs : List File) :
    registerFrom st (f :: fs) = addItems { st with canon := (key f.ns f.ns, .ns) :: st.canon } f.ns f.items >>=
      (registerFrom · fs) := by
  rw [registerFrom, addFile]; cases addItems _ f.ns f.items <;> rfl

theorem decls_cons (f : File) (fs : List File) :
    decls (f :: fs) = f.items.map (fun x => (⟨f.ns, x⟩ : Decl)) ++ decls fs := by
  simp [decls]

theorem addItems_spec {st D N ns} (xs : List Item) (hI : Inv st D N) (hns : ns ∈ N) (hD : NCk D) :
    Decides (addItems st ns xs) (NCk (D ++ xs.map (fun x => (⟨ns, x⟩ : Decl))))
      fun st' => Inv st' (D ++ xs.map (fun x => (⟨ns, x⟩ : Decl))) N := by
  induction xs generalizing st D with
  | nil => simpa [addItems] using Decides.ret st hD hI
  | cons x xs ih =>
    rw [addItems_cons, List.map_cons, List.append_cons]
    exact (addItem_spec hI ⟨ns, x⟩ hns).bind (fun h => ((NCk_snoc D _).1 h.prefix).2)
      fun st1 hf h1 => ih h1 ((NCk_snoc D _).2 ⟨hD, hf⟩)

theorem registerFrom_spec {st D N} (fs : List File) (hI : Inv st D N) (hD : NCk D) :
    Decides (registerFrom st fs) (NCk (D ++ decls fs)) fun st' => Inv st' (D ++ decls fs) (N ++ namespaces fs) := by
  induction fs generalizing st D N with
  | nil => simpa [registerFrom, decls, namespaces] using Decides.ret st hD hI
  | cons f fs ih =>
    have hN : N ++ namespaces (f :: fs) = N ++ [f.ns] ++ namespaces fs := List.append_cons ..
    rw [registerFrom_cons, decls_cons, ← List.append_assoc, hN]
    exact (addItems_spec (st := { st with canon := (key f.ns f.ns, .ns) :: st.canon }) f.items
      ⟨hI.1.pushNs f.ns, hI.2⟩ (List.mem_append_right N (.head _)) hD).bind NCk.prefix
      fun st1 hD1 h1 => ih h1 hD1

theorem register_spec (fs : List File) :
    Decides (register fs) (NCk (decls fs)) fun st => Inv st (decls fs) (namespaces fs) := by
  simpa [register] using registerFrom_spec fs Inv.init ⟨.nil, nofun⟩

/-- Namespace names come from the lexer token `ID` (`[a-zA-Z_][a-zA-Z0-9_-]*`): no `/`. -/
def NsLexical (fs : List File) : Prop := ∀ m ∈ namespaces fs, '/' ∉ m

instance (fs : List File) : Decidable (NsLexical fs) := by unfold NsLexical; infer_instance

theorem decls_ns_mem {fs : List File} {a : Decl} (h : a ∈ decls fs) : a.ns ∈ namespaces fs := by
  obtain ⟨f, hf, ha⟩ := List.mem_flatMap.1 h
  obtain ⟨x, -, rfl⟩ := List.mem_map.1 ha
  exact List.mem_map.2 ⟨f, hf, rfl⟩

theorem clashNs_own {a : Decl} {m : Name} (h : clashNs a m = true) : clashNs a a.ns = true := by
  simp only [clashNs, Bool.and_eq_true, beq_iff_eq] at h ⊢
  exact ⟨h.1.trans h.2.symm, trivial⟩

theorem clashNs_own_iff {a : Decl} (h : '/' ∉ a.ns) : clashNs a a.ns = false ↔ key a.ns a.ns ≠ dkey a := by
  rw [dkey, ne_eq, key_eq_iff, canonName_eq_canonNs h, ← Bool.not_eq_true]
  simp only [clashNs, Bool.and_eq_true, beq_iff_eq]
  exact not_congr ⟨fun h => ⟨h.1.symm, trivial⟩, fun h => ⟨h.1.symm, trivial⟩⟩

theorem NCk_iff_noClash (fs : List File) (hl : NsLexical fs) : NCk (decls fs) ↔ NoClash fs := by
  have : (∀ a ∈ decls fs, ∀ m ∈ namespaces fs, clashNs a m = false) ↔ ∀ a ∈ decls fs, key a.ns a.ns ≠ dkey a :=
    forall₂_congr fun a ha => by
      rw [← clashNs_own_iff (hl _ (decls_ns_mem ha))]
      exact ⟨fun h => h _ (decls_ns_mem ha), fun h m _ => Bool.eq_false_iff.2 fun hm => Bool.eq_false_iff.1 h (clashNs_own hm)⟩
  rw [NoClash, this, NCk]
  exact and_congr_right fun _ => ⟨fun h => ⟨fun a ha => (h a ha).2, fun a ha => (h a ha).1⟩, fun h a ha => ⟨h.2 a ha, h.1 a ha⟩⟩

/-- **C01.** The registration pass accepts a set of files iff its names obey the documented rules
(`NoClash`: A8 - A10, B19).  `NsLexical` is not a restriction on compiler inputs: namespace names are `ID` tokens
of the lexer, which cannot contain `/` (`nsLexical_needed` shows what the hypothesis keeps out). -/
theorem register_ok_iff_noclash (fs : List File) (hl : NsLexical fs) :
    isOk (register fs) = true ↔ NoClash fs :=
  (register_spec fs).isOk_iff.trans (NCk_iff_noClash fs hl)

theorem NCk.perm {D D' : List Decl} (hp : D.Perm D') (h : NCk D) : NCk D' :=
  ⟨(hp.pairwise_iff (fun {x y} h => by rw [clash_symm]; exact h)).mp h.1, fun a ha => h.2 a (hp.mem_iff.mpr ha)⟩

/-- **C01.** Acceptance does not depend on the order of declarations or files, nor on how a
namespace is split into files. -/
theorem register_perm_decls {fs fs' : List File} (h : (decls fs).Perm (decls fs')) :
    isOk (register fs) = isOk (register fs') := by
  rw [Bool.eq_iff_iff, (register_spec fs).isOk_iff, (register_spec fs').isOk_iff]
  exact ⟨.perm h, .perm h.symm⟩

theorem register_perm (fs fs' : List File) (h : SameDecls fs fs') (hl : NsLexical fs) :
    isOk (register fs) = isOk (register fs') :=
  register_perm_decls h.1

theorem builtin_type_not_redefinable (fs : List File) (f : File) (hf : f ∈ fs) (x : Item) (hx : x ∈ f.items)
    (hb : x.name ∈ builtinTypes) : isOk (register fs) = false := by
  refine Bool.eq_false_iff.2 fun h => ?_
  have := ((register_spec fs).isOk_iff.1 h).2 ⟨f.ns, x⟩ (List.mem_flatMap.2 ⟨f, hf, List.mem_map.2 ⟨x, hx, rfl⟩⟩)
  simp only [redefinesBuiltin, List.contains_iff_mem.2 hb, Bool.true_or] at this
  cases this.1

/-- **C03.** For every list of files the registration pass ends normally or with a specification
error, never with a Python exception of another class: the one partial operation left in the pass
(`min(existing.at_version)` in `_raise_symbol_already_defined`) is never applied to an empty dictionary, because an
`ApiRoutesByVersion` enters an environment together with its first route. -/
theorem register_no_crash (fs : List File) : ∀ e, register fs ≠ .error (.crash e) :=
  (register_spec fs).ne_crash

theorem isOk_ok {ε α} (a : α) : isOk (Except.ok a : Except ε α) = true := rfl
theorem isOk_error {ε α} (e : ε) : isOk (Except.error e : Except ε α) = false := rfl


theorem concatUnambiguous_of_nsLexical (fs : List File) (hl : NsLexical fs) : ConcatUnambiguous fs := by
  have hfree : ∀ p ∈ keyParts fs, '/' ∉ p.1 := by
    intro p hp
    simp only [keyParts, List.mem_append, List.mem_map] at hp
    rcases hp with ⟨a, _, rfl⟩ | ⟨m, hm, rfl⟩
    · exact slash_not_mem_canonName _
    · exact slash_not_mem_canonNs (hl m hm)
  intro p hp q hq h
  obtain ⟨h1, h2⟩ := sep_split (hfree p hp) (hfree q hq) h
  exact Prod.ext h1 h2

theorem SameDecls.concatUnambiguous {fs fs' : List File} (h : SameDecls fs fs') (hu : ConcatUnambiguous fs) :
    ConcatUnambiguous fs' := by
  have hsub : ∀ p ∈ keyParts fs', p ∈ keyParts fs := by
    intro p hp
    simp only [keyParts, List.mem_append, List.mem_map] at hp ⊢
    rcases hp with ⟨a, ha, rfl⟩ | ⟨m, hm, rfl⟩
    · exact .inl ⟨a, h.1.mem_iff.mpr ha, rfl⟩
    · exact .inr ⟨m, (h.2 m).mpr hm, rfl⟩
  exact fun p hp q hq => hu p (hsub p hp) q (hsub q hq)

theorem SameDecls.nsLexical {fs fs' : List File} (h : SameDecls fs fs') (hl : NsLexical fs) : NsLexical fs' :=
  fun m hm => hl m ((h.2 m).mpr hm)

/-- type `Ab` in namespace `c` and type `A` in namespace `bc` (both keys used to be `abc`): accepted; type `abc` of
namespace `abcabcabc` against the namespace line of `abcabc` (used to be accepted in one file order and refused in
the other): accepted in both -/
theorem concat_accepted :
    NoClash [⟨"c".toList, [⟨.type, "Ab".toList⟩]⟩, ⟨"bc".toList, [⟨.type, "A".toList⟩]⟩] ∧
    isOk (register [⟨"c".toList, [⟨.type, "Ab".toList⟩]⟩, ⟨"bc".toList, [⟨.type, "A".toList⟩]⟩]) = true ∧
    isOk (register [⟨"abcabcabc".toList, [⟨.type, "abc".toList⟩]⟩, ⟨"abcabc".toList, [⟨.type, "X".toList⟩]⟩]) = true ∧
    isOk (register [⟨"abcabc".toList, [⟨.type, "X".toList⟩]⟩, ⟨"abcabcabc".toList, [⟨.type, "abc".toList⟩]⟩]) = true := by
  decide +kernel

/-- a namespace name with `/` (impossible for the lexer) breaks the equivalence: the namespace line is keyed by
`canonName ns` (which strips the `/`), the documented rule compares with `canonNs ns` -/
theorem nsLexical_needed : ∃ fs, ConcatUnambiguous fs ∧ NoClash fs ∧ isOk (register fs) = false :=
  ⟨[⟨"a/".toList, [⟨.route 1, "a/".toList⟩]⟩], by decide +kernel⟩

/-- whether a result is a given error is decidable without comparing states -/
local instance decEqError {ε α} [DecidableEq ε] (x : Except ε α) (e : ε) : Decidable (x = .error e) :=
  match x with
  | .error e' => if h : e' = e then isTrue (h ▸ rfl) else isFalse fun h' => h (Except.error.inj h')
  | .ok _ => isFalse nofun

/-- the statement is about a model that can fail: from a state that holds an empty `ApiRoutesByVersion` (which the
pass never builds) a same-named definition ends in `ValueError` -/
theorem addItem_crashes : addItem { env := [(("a".toList, "r".toList), .routes [])] } "a".toList ⟨.type, "r".toList⟩
    = .error (.crash .valueError) := by decide +kernel

example : addItem { env := [(("a".toList, "r".toList), .routes [])] } "a".toList ⟨.type, "r".toList⟩
    = .error (.crash .valueError) := addItem_crashes

/-- a canonical clash that involves an annotation (was `AssertionError`); `struct String`, `alias List`,
`route Void`, `annotation_type Int32`; `route r` then `struct r`; `annotation_type T` then `struct T` (were
`AttributeError`s) -/
theorem crash_sites_refused :
    register [⟨"a".toList, [⟨.annotation, "Foo".toList⟩, ⟨.type, "foo".toList⟩]⟩]
      = .error (.specerr .nameConflict) ∧
    register [⟨"a".toList, [⟨.type, "String".toList⟩]⟩] = .error (.specerr .symbolDefined) ∧
    register [⟨"a".toList, [⟨.alias, "List".toList⟩]⟩] = .error (.specerr .symbolDefined) ∧
    register [⟨"a".toList, [⟨.route 1, "Void".toList⟩]⟩] = .error (.specerr .symbolDefined) ∧
    register [⟨"a".toList, [⟨.annotationType, "Int32".toList⟩]⟩] = .error (.specerr .symbolDefined) ∧
    register [⟨"a".toList, [⟨.route 1, "r".toList⟩, ⟨.type, "r".toList⟩]⟩] = .error (.specerr .symbolDefined) ∧
    register [⟨"a".toList, [⟨.annotationType, "T".toList⟩, ⟨.type, "T".toList⟩]⟩]
      = .error (.specerr .symbolDefined) := by decide +kernel

def exampleFiles : List File :=
  [⟨"files".toList, [⟨.route 1, "get_a".toList⟩, ⟨.route 2, "get_a".toList⟩, ⟨.route 1, "getA".toList⟩,
      ⟨.type, "Meta".toList⟩]⟩,
   ⟨"users".toList, [⟨.type, "Meta".toList⟩, ⟨.alias, "Id".toList⟩, ⟨.annotationType, "Tag".toList⟩]⟩,
   ⟨"files".toList, [⟨.type, "Entry".toList⟩]⟩]

theorem exampleFiles_nsLexical : NsLexical exampleFiles := by decide +kernel

theorem exampleFiles_accepted : isOk (register exampleFiles) = true := by decide +kernel

example : ConcatUnambiguous exampleFiles := concatUnambiguous_of_nsLexical _ exampleFiles_nsLexical
example : NsLexical exampleFiles := exampleFiles_nsLexical
example : NoClash exampleFiles := (register_ok_iff_noclash _ exampleFiles_nsLexical).1 exampleFiles_accepted
example : isOk (register exampleFiles) = true := exampleFiles_accepted
example : ConcatUnambiguous [⟨"a".toList, [⟨.type, "Foo".toList⟩, ⟨.route 1, "foo".toList⟩]⟩] ∧
    ¬ NoClash [⟨"a".toList, [⟨.type, "Foo".toList⟩, ⟨.route 1, "foo".toList⟩]⟩] :=
  ⟨concatUnambiguous_of_nsLexical _ (by decide +kernel), by decide +kernel⟩

end StoneVerif.FeNames
