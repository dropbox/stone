import StoneVerif.Model.IrCheck
import StoneVerif.Lemmas.RtModel
/-! C10, defaults: `setRedact` does not change `validate`, the two bound tables are one; what `check` accepts, literal by
literal; the validator generated for the type accepts the stored value (`check_valid`; a tag default:
`check_union_instance`); what `fieldDefault` accepts, and what the example side needs of `checkPrimExample`, `fieldDefOfC`. -/
namespace StoneVerif.IrCheck
open StoneVerif.Rt

theorem setRedact_nullable (r : Option Redactor) (t : PTy) : (setRedact r t).flags.nullable = t.flags.nullable := by
  cases r with
  | none => rfl
  | some r =>
    simp only [setRedact]
    split <;> simp [flags_withFlags, *]

theorem setRedact_withFlags (r : Option Redactor) (t : PTy) (fl : Flags) : (setRedact r t).withFlags fl = t.withFlags fl := by
  cases r with
  | none => rfl
  | some r =>
    simp only [setRedact]
    split <;> exact withFlags_withFlags t _ fl

theorem validate_setRedact (E : Ext) (env : Env) (r : Option Redactor) (t : PTy) (v : PyVal) :
    validate E env (setRedact r t) v = validate E env t v := by
  rw [validate_nullable E env (setRedact r t), validate_nullable E env t, setRedact_nullable, setRedact_withFlags]

/-- `bv.Nullable(inner)` as `generate_validator_constructor` builds it -/
theorem validatorOf_nullable {t : IrTy} {vt : PTy} (h : validatorOf (.nullable t) = some vt) :
    ∃ vt0, validatorOf t = some vt0 ∧ vt = vt0.withFlags { vt0.flags with nullable := true } := by
  unfold validatorOf at h
  cases hvt : validatorOf t with
  | none => simp [hvt] at h
  | some vt0 =>
    simp only [hvt] at h
    refine ⟨vt0, rfl, ?_⟩
    split at h
    · cases h
    · split at h
      · cases h
      · cases h; rfl

/-- With this rule `simp only` turns an accepted chain of refusals `if c then invalid … else …` into the conjunction of
the negated tests. -/
@[local simp] theorem ite_error_eq_ok {α} {c : Prop} [Decidable c] {e : CheckErr} {x : CR α} {a : α} :
    ((if c then Except.error e else x) = Except.ok a) ↔ (¬c ∧ x = Except.ok a) := by
  by_cases h : c <;> simp [h]

theorem intBounds_tables : Tables.irIntBounds = Tables.rtIntBounds := rfl

theorem floatBounds_tables : Tables.irFloatBounds = Tables.rtFloatBounds := rfl

theorem irIntBounds_eq (cls : String) : irIntBounds cls = intDefaults cls := by
  rw [irIntBounds, intDefaults, intBounds_tables]

theorem irFloatBounds_eq (cls : String) : irFloatBounds cls = floatDefaults cls := by
  rw [irFloatBounds, floatDefaults, floatBounds_tables]

theorem check_bool_ok {E : Ext} {C : CExt} {us : List CUnion} {lit : Lit} (h : check E C us .bool lit = .ok ()) :
    ∃ b, lit = .bool b := by
  cases lit with
  | bool b => exact ⟨b, rfl⟩
  | _ => cases h

theorem check_int_ok {E : Ext} {C : CExt} {us : List CUnion} {cls : String} {mn mx : Option Int} {lit : Lit}
    (h : check E C us (.int cls mn mx) lit = .ok ()) : ∃ n, lit = .int n ∧ checkIntVal cls mn mx n = .ok () := by
  cases lit with
  | int n => exact ⟨n, rfl, h⟩
  | _ => cases h

theorem check_float_ok {E : Ext} {C : CExt} {us : List CUnion} {cls : String} {mn mx : Option FBits} {lit : Lit}
    (h : check E C us (.float cls mn mx) lit = .ok ()) :
    ∃ x, checkFloatVal E cls mn mx x = .ok () ∧
      (lit = .flt x ∨ ∃ n, lit = .int n ∧ E.fltOfInt n = some x ∧ C.intExact n = true) := by
  cases lit with
  | flt x => exact ⟨x, h, Or.inl rfl⟩
  | int n =>
    unfold check at h
    simp only at h
    cases hx : E.fltOfInt n with
    | none => rw [hx] at h; cases h
    | some x =>
      simp only [hx] at h
      split at h
      · exact ⟨x, h, Or.inr ⟨n, rfl, hx, ‹_›⟩⟩
      · cases h
  | _ => cases h

theorem check_str_ok {E : Ext} {C : CExt} {us : List CUnion} {a b : Option Nat} {p : Option String} {lit : Lit}
    (h : check E C us (.str a b p) lit = .ok ()) :
    ∃ s, lit = .str s ∧ geOpt b s.length = true ∧ leOpt a s.length = true ∧
      ∀ q, p = some q → q ≠ "" → E.patMatch q s = true := by
  cases lit with
  | str s =>
    unfold check at h
    simp only [invalid, ite_error_eq_ok, Bool.not_eq_true', Bool.not_eq_false] at h
    refine ⟨s, rfl, h.1, h.2.1, ?_⟩
    rintro q rfl hq
    simpa [hq] using h.2.2
  | _ => cases h

theorem check_void_ok {E : Ext} {C : CExt} {us : List CUnion} {lit : Lit} (h : check E C us .void lit = .ok ()) :
    lit = .null := by
  cases lit with
  | null => rfl
  | _ => cases h

theorem check_union_ok {E : Ext} {C : CExt} {us : List CUnion} {cls : String} {lit : Lit}
    (h : check E C us (.union cls) lit = .ok ()) : ∃ tag, lit = .tagref tag := by
  cases lit with
  | tagref tag => exact ⟨tag, rfl⟩
  | _ => cases h

theorem check_nullable {E : Ext} {C : CExt} {us : List CUnion} {t : IrTy} {lit : Lit} (hn : lit ≠ .null) :
    check E C us (.nullable t) lit = check E C us t lit := by
  cases lit with
  | null => exact absurd rfl hn
  | _ => rfl

theorem checkIntVal_ok {cls : String} {mn mx : Option Int} {n : Int} (h : checkIntVal cls mn mx n = .ok ()) :
    ∃ lo hi, intDefaults cls = some (lo, hi) ∧ mn.getD lo ≤ n ∧ n ≤ mx.getD hi := by
  unfold checkIntVal at h
  rw [irIntBounds_eq] at h
  cases hb : intDefaults cls with
  | none => simp [hb, ccrash] at h
  | some b =>
    obtain ⟨lo, hi⟩ := b
    simp only [hb, invalid, ite_error_eq_ok, Bool.not_eq_true', Bool.not_eq_false, Bool.and_eq_true, decide_eq_true_eq] at h
    obtain ⟨⟨h1, h2⟩, h3, h4, -⟩ := h
    refine ⟨lo, hi, rfl, ?_, ?_⟩
    · cases mn with
      | none => exact h1
      | some m => exact Int.not_lt.mp (by simpa using h3)
    · cases mx with
      | none => exact h2
      | some m => exact Int.not_lt.mp (by simpa using h4)

theorem inRange_of_checks {E : Ext} {lo hi : Option FBits} {x : FBits} (hnan : E.fltIsNan x = false)
    (hinf : E.fltIsInf x = false) (hlo : (match lo with | some l => E.fltLt x l | none => false) = false)
    (hhi : (match hi with | some u => E.fltLt u x | none => false) = false) : inRange E lo hi x = true := by
  cases lo <;> cases hi <;> simp_all [inRange]

/-- what `_BoundedFloat.check` establishes, in the form the generated validator tests it -/
theorem checkFloatVal_ok {E : Ext} {cls : String} {mn mx : Option FBits} {x : FBits}
    (h : checkFloatVal E cls mn mx x = .ok ()) :
    ∃ tlo thi, floatDefaults cls = some (tlo, thi) ∧
      inRange E (match (generalizing := false) mn with | some m => some m | none => tlo)
        (match (generalizing := false) mx with | some m => some m | none => thi) x = true := by
  unfold checkFloatVal at h
  rw [irFloatBounds_eq] at h
  cases hb : floatDefaults cls with
  | none => rw [hb] at h; simp [invalid, ccrash] at h
  | some b =>
    obtain ⟨tlo, thi⟩ := b
    simp only [hb, invalid, ite_error_eq_ok, Bool.not_eq_true, Bool.or_eq_false_iff] at h
    obtain ⟨⟨h1, h2⟩, h3, h4, h5, h6, -⟩ := h
    -- the narrower of the type's bound and `min_value` / `max_value` is the one written, when one is written
    exact ⟨tlo, thi, rfl, inRange_of_checks h1 h2 (by cases mn <;> assumption) (by cases mx <;> assumption)⟩

theorem pyOfStored_tagref {us : List CUnion} {t : IrTy} {tag : String} {v : PyVal} (h : pyOfStored us t (.tagref tag) = some v) :
    ∃ c u d, unionOfTy t = some c ∧ us.find? (·.cls == c) = some u ∧ u.declClass tag = some d ∧ v = .union d tag .none := by
  simp only [pyOfStored, Option.bind_eq_bind, Option.bind_eq_some_iff, Option.pure_def, Option.some.injEq] at h
  obtain ⟨c, hc, u, hu, d, hd, rfl⟩ := h
  exact ⟨c, u, d, hc, hu, hd, rfl⟩

theorem pyOfStored_alias {us : List CUnion} {n : String} {r : Option Redactor} {t : IrTy} {lit : Lit} :
    pyOfStored us (.alias n r t) lit = pyOfStored us t lit := by
  cases lit <;> rfl

theorem pyOfStored_not_none {us : List CUnion} {t : IrTy} {lit : Lit} {v : PyVal} (h : pyOfStored us t lit = some v)
    (hn : lit ≠ .null) : isNoneV v = false := by
  cases lit with
  | null => exact absurd rfl hn
  | tagref tag => obtain ⟨_, _, _, _, _, _, rfl⟩ := pyOfStored_tagref h; rfl
  | _ => cases h; rfl

theorem pyOfStored_nontag {us : List CUnion} {t t' : IrTy} {lit : Lit} (h : ∀ tag, lit ≠ .tagref tag) :
    pyOfStored us t lit = pyOfStored us t' lit := by
  cases lit with
  | tagref tag => exact absurd rfl (h tag)
  | _ => rfl

theorem declClass_mem {u : CUnion} {tag d : String} (h : u.declClass tag = some d) : d ∈ u.chain.map (·.1) := by
  unfold CUnion.declClass at h
  cases hf : u.chain.find? (fun x => x.2.any (·.name == tag)) with
  | none => simp [hf] at h
  | some e =>
    simp [hf] at h
    subst h
    exact List.mem_map.2 ⟨e, List.mem_of_find?_eq_some hf, rfl⟩

theorem tag_instance_typeOk {us : List CUnion} {env : Env} (hU : unionsAgree us env = true) {cls tag d : String} {u : CUnion}
    (hu : us.find? (·.cls == cls) = some u) (hd : u.declClass tag = some d) :
    unionTypeOk env cls (.union d tag .none) = true := by
  have hag := List.all_eq_true.1 hU u (List.mem_of_find?_eq_some hu)
  obtain rfl : u.cls = cls := by simpa using List.find?_some hu
  cases he : env.union? u.cls with
  | none => rw [he] at hag; cases hag
  | some ud =>
    rw [he] at hag
    have hchain : ud.levels.map (·.cls) = u.chain.map (·.1) := beq_iff_eq.1 hag
    show env.unionSubclass u.cls d = true
    rw [Env.unionSubclass, he]
    show (ud.levels.map (·.cls)).contains d = true
    rw [hchain]
    exact List.contains_iff_mem.2 (declClass_mem hd)

theorem check_union_instance (E : Ext) (C : CExt) (us : List CUnion) (env : Env) (hU : unionsAgree us env = true)
    (cls : String) (lit : Lit) (v : PyVal)
    (hc : check E C us (.union cls) lit = .ok ()) (hp : pyOfStored us (.union cls) lit = some v) :
    ∃ d tag, lit = .tagref tag ∧ v = .union d tag .none ∧ unionTypeOk env cls v = true := by
  obtain ⟨tag, rfl⟩ := check_union_ok hc
  obtain ⟨c, u, d, hc', hu, hd, rfl⟩ := pyOfStored_tagref hp
  cases hc'
  exact ⟨d, tag, rfl, rfl, tag_instance_typeOk hU hu hd⟩

theorem check_union_valid (E : Ext) (C : CExt) (us : List CUnion) (env : Env) (hU : unionsAgree us env = true)
    (cls : String) (lit : Lit) (v : PyVal)
    (hc : check E C us (.union cls) lit = .ok ()) (hp : pyOfStored us (.union cls) lit = some v) :
    validate E env (.union {} cls) v = .ok v ∧ validateTypeOnly env (.union {} cls) v = .ok () := by
  obtain ⟨_, _, _, _, hok⟩ := check_union_instance E C us env hU cls lit v hc hp
  constructor
  · rw [validate_union]; simp only [Bool.false_and, Bool.false_eq_true, if_false, hok, if_true]
  · rw [validateTypeOnly_union]; simp only [Bool.false_and, Bool.false_eq_true, if_false, hok, if_true]

theorem acceptedAs_refl (E : Ext) (v : PyVal) : acceptedAs E v v := Or.inl rfl

theorem check_valid (E : Ext) (C : CExt) (us : List CUnion) (env : Env) (hU : unionsAgree us env = true) :
    ∀ (t : IrTy) (lit : Lit) (vt : PTy) (v : PyVal),
      noTextual t = true →
      check E C us t lit = .ok () → validatorOf t = some vt → pyOfStored us t lit = some v →
      ∃ v', validate E env vt v = .ok v' ∧ acceptedAs E v v' := by
  intro t
  induction t with
  | bool =>
    intro lit vt v _ hc hv hp
    obtain ⟨b, rfl⟩ := check_bool_ok hc
    cases hv; cases hp
    exact ⟨_, validate_bool_val E env _ b, acceptedAs_refl E _⟩
  | int cls mn mx =>
    intro lit vt v _ hc hv hp
    obtain ⟨n, rfl, hn⟩ := check_int_ok hc
    obtain ⟨lo, hi, hb, h1, h2⟩ := checkIntVal_ok hn
    cases hp
    unfold validatorOf at hv
    rw [hb] at hv
    cases hv
    exact ⟨_, validate_int_val E env _ cls h1 h2, acceptedAs_refl E _⟩
  | float cls mn mx =>
    intro lit vt v _ hc hv hp
    obtain ⟨x, hx, hlit⟩ := check_float_ok hc
    obtain ⟨tlo, thi, hb, hin⟩ := checkFloatVal_ok hx
    unfold validatorOf at hv
    rw [hb] at hv
    cases hv
    -- a float literal is its own value; an integer literal is the float `float()` makes of it
    have hf : fltOf E v = some (some x) := by
      rcases hlit with rfl | ⟨n, rfl, hn, _⟩ <;> cases hp
      · rfl
      · exact congrArg some hn
    exact ⟨.flt x, validate_float_val E env _ cls hf hin, Or.inr ⟨x, hf, rfl⟩⟩
  | str a b p =>
    intro lit vt v _ hc hv hp
    obtain ⟨s, rfl, hge, hle, hpat⟩ := check_str_ok hc
    cases hv; cases hp
    exact ⟨_, validate_str_val E env _ a b p s hge hle hpat, acceptedAs_refl E _⟩
  | bytes | ts => intro lit vt v hn; cases hn
  | void =>
    intro lit vt v _ hc hv hp
    cases check_void_ok hc; cases hv; cases hp
    exact ⟨_, rfl, acceptedAs_refl E _⟩
  | list | map | struct => intro lit vt v _ hc; cases hc
  | union cls =>
    intro lit vt v _ hc hv hp
    cases hv
    exact ⟨v, (check_union_valid E C us env hU cls lit v hc hp).1, acceptedAs_refl E v⟩
  | nullable t ih =>
    intro lit vt v hn hc hv hp
    obtain ⟨vt0, hvt, rfl⟩ := validatorOf_nullable hv
    by_cases hnull : lit = .null
    · subst hnull
      cases hp
      exact ⟨.none, validate_nullable_none E env (by rw [flags_withFlags]), acceptedAs_refl E _⟩
    · -- a tag reference has no value at a `T?` (no class is bound through a Nullable)
      have hnt : ∀ tag, lit ≠ .tagref tag := by
        rintro tag rfl; cases hp
      obtain ⟨v', h1, h2⟩ := ih lit vt0 v hn (check_nullable hnull ▸ hc) hvt (pyOfStored_nontag hnt ▸ hp)
      exact ⟨v', by rw [validate_withFlags E env vt0 _ (pyOfStored_not_none hp hnull)]; exact h1, h2⟩
  | alias n r t ih =>
    intro lit vt v hn hc hv hp
    unfold validatorOf at hv
    cases hvt : validatorOf t with
    | none => simp [hvt] at hv
    | some vt0 =>
      simp [hvt] at hv; subst hv
      obtain ⟨v', h1, h2⟩ := ih lit vt0 v hn hc hvt (pyOfStored_alias ▸ hp)
      exact ⟨v', by rw [validate_setRedact]; exact h1, h2⟩

theorem match_check_ok {r : CR Unit} {l d : Lit}
    (h : r.map (fun _ => l) = .ok d) : r = .ok () ∧ l = d := by
  cases r with
  | error e => simp [Except.map] at h
  | ok u => cases u; simp [Except.map] at h; exact ⟨rfl, h⟩

theorem check_coerced {E : Ext} {C : CExt} {us : List CUnion} {t : IrTy} {lit d : Lit}
    (hc : check E C us t lit = .ok ()) (hd : coerceDefault E t lit = .ok d) : check E C us t d = .ok () := by
  unfold coerceDefault at hd
  split at hd
  · -- `f Float = n`: the converted number is the one `check` has tested
    obtain ⟨x, hx, hlit⟩ := check_float_ok hc
    obtain ⟨n, hn, hfx, _⟩ := hlit.resolve_left (fun h => by cases h)
    cases hn
    rw [hfx] at hd
    cases hd
    exact hx
  · cases hc
  · cases hd; exact hc

theorem populateDefault_ok {E : Ext} {C : CExt} {us : List CUnion} {t : IrTy} {lit d : Lit}
    (h : populateDefault E C us t lit = .ok d) :
    coerceDefault E t lit = .ok d ∧ check E C us t d = .ok () ∧
      (unwrapAliases t).isNullableLit = false ∧ defaultable (unwrapAll t) = true ∧ isVoidLit (unwrapAliases t) = false := by
  simp only [populateDefault, invalid, ite_error_eq_ok, Bool.not_eq_true, Bool.not_eq_true', Bool.not_eq_false] at h
  obtain ⟨h0, h1, h2, h⟩ := h
  cases hc : check E C us t lit with
  | error e => rw [hc] at h; cases h
  | ok u => rw [hc] at h; exact ⟨h, check_coerced hc h, h1, h2, h0⟩

/-- the two refusals of `_create_struct_field` are, message for message, the first two tests of
`_populate_field_defaults` -/
theorem fieldDefault_eq (E : Ext) (C : CExt) (us : List CUnion) (t : IrTy) (lit : Lit) :
    fieldDefault E C us t lit = populateDefault E C us t lit := by
  cases t <;> rfl

theorem fieldDefault_ok {E : Ext} {C : CExt} {us : List CUnion} {t : IrTy} {lit d : Lit}
    (h : fieldDefault E C us t lit = .ok d) :
    coerceDefault E t lit = .ok d ∧ check E C us t d = .ok () ∧ t.isNullableLit = false ∧
      (unwrapAliases t).isNullableLit = false ∧ defaultable (unwrapAll t) = true ∧ isVoidLit (unwrapAliases t) = false := by
  obtain ⟨h1, h2, h3⟩ := populateDefault_ok (fieldDefault_eq E C us t lit ▸ h)
  exact ⟨h1, h2, by cases t <;> first | rfl | exact h3.1, h3⟩

theorem checkPrimExample_lit (E : Ext) (C : CExt) (us : List CUnion) (t : IrTy) (l : Lit) :
    checkPrimExample E C us t (.lit l) = check E C us t l := by
  simp only [checkPrimExample]
  cases check E C us t l with
  | ok u => rfl
  | error e => cases e <;> rfl

theorem fieldDefault_check {E : Ext} {C : CExt} {us : List CUnion} {t : IrTy} {lit d : Lit}
    (h : fieldDefault E C us t lit = .ok d) : check E C us t d = .ok () := (fieldDefault_ok h).2.1

theorem fieldDefault_not_nullable {E : Ext} {C : CExt} {us : List CUnion} {t : IrTy} {lit d : Lit}
    (h : fieldDefault E C us t lit = .ok d) : t.isNullableLit = false := (fieldDefault_ok h).2.2.1

theorem validateTypeOnly_union_setRedact (env : Env) (r : Option Redactor) (cls : String) (v : PyVal) :
    validateTypeOnly env (setRedact r (.union {} cls)) v = validateTypeOnly env (.union {} cls) v := by
  cases r with
  | none => rfl
  | some r => exact (validateTypeOnly_union env _ cls v).trans (validateTypeOnly_union env {} cls v).symm

theorem fieldDefOfC_inv {us : List CUnion} {cf : CField} {fd : FieldDef} (h : fieldDefOfC us cf = some fd) :
    validatorOf cf.ty = some fd.ty ∧ fd.name = cf.name ∧ fd.attrNullable = cf.ty.isNullableLit ∧
      fd.attrUserDefined = cf.ty.isUserDefinedLit ∧ fd.omitted = cf.omitted ∧
      (match cf.dflt with
       | none => fd.dflt = none
       | some l => ∃ v, pyOfStored us cf.ty l = some v ∧ fd.dflt = some v) := by
  unfold fieldDefOfC at h
  cases hvt : validatorOf cf.ty with
  | none => simp [hvt] at h
  | some vt =>
    cases hd : cf.dflt with
    | none =>
      simp [hvt, hd] at h
      subst h
      exact ⟨rfl, rfl, rfl, rfl, rfl, by simp⟩
    | some l =>
      cases hp : pyOfStored us cf.ty l with
      | none => simp [hvt, hd, hp] at h
      | some v =>
        simp [hvt, hd, hp] at h
        subst h
        exact ⟨rfl, rfl, rfl, rfl, rfl, ⟨v, hp, rfl⟩⟩

theorem check_userDefined_union {E : Ext} {C : CExt} {us : List CUnion} {t : IrTy} {d : Lit}
    (hc : check E C us t d = .ok ()) (hnn : t.isNullableLit = false) (hu : t.isUserDefinedLit = true) :
    ∃ cls, t = .union cls := by
  cases t
  case union cls => exact ⟨cls, rfl⟩
  case struct => cases hc
  case nullable => cases hnn
  all_goals cases hu

end StoneVerif.IrCheck
