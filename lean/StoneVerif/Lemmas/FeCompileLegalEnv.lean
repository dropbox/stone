import StoneVerif.Lemmas.FeCompileGraph
import StoneVerif.Lemmas.FeCompileReg
import StoneVerif.Lemmas.FeNames
/-!
Passes 1 and 2 of the compileCore model accept exactly the inputs whose names and imports obey the rules
(`buildEnv_ok_iff`).  Pass 1 is the registration pass of C01's name model (`FeNames.register`) on the projection
`toNames` -- the same symbols bound, the same canonical keys taken --, so it succeeds exactly when the names obey
`FeNames.NoClash`.  For pass 2 the checks against the imports bound so far are, taken together, the order-free
`importsLegal`.
-/
namespace StoneVerif.FeCompile.L
open StoneVerif.FeParams (TyKind)

def eraseItem : Item → FeNames.EnvEntry
  | .routes vs => .routes vs
  | _ => .user

/-- the same canonical keys, and under every name the same entry up to what the name model keeps of it (`eraseItem`:
the versions of a route, else only that the name is bound); `nobuiltin`: `lookupSym` asks the table first, the name model
the built-in names first; they agree because a bound name is never built-in -/
structure Sim (st : RegSt) (st' : FeNames.State) : Prop where
  canon : st'.canon = st.canon
  env : ∀ ns name : String, st'.env.lookup (ns.toList, name.toList) = (st.items.lookup (ns, name)).map eraseItem
  nobuiltin : ∀ (ns name : String) i, st.items.lookup (ns, name) = some i → TyKind.ofName? name = none

theorem builtin_contains (name : String) :
    FeNames.builtinTypes.contains name.toList = (TyKind.ofName? name).isSome := by
  have ht : Tables.feBuiltinTypes = TyKind.all.map (·.pyName) := rfl
  rw [Bool.eq_iff_iff, List.contains_iff_mem]
  unfold FeNames.builtinTypes TyKind.ofName?
  rw [ht, List.find?_isSome]
  simp only [List.map_map, List.mem_map, Function.comp, beq_iff_eq]
  constructor
  · rintro ⟨k, hk, he⟩
    exact ⟨k, hk, String.toList_inj.mp he⟩
  · rintro ⟨k, hk, he⟩
    exact ⟨k, hk, by rw [he]⟩

theorem builtinAnnot_contains (name : String) :
    FeNames.builtinAnnotations.contains name.toList = Tables.feBuiltinAnnotations.contains name := by
  rw [Bool.eq_iff_iff, List.contains_iff_mem, List.contains_iff_mem]
  unfold FeNames.builtinAnnotations
  simp only [List.mem_map]
  constructor
  · rintro ⟨s, hs, he⟩
    rw [← String.toList_inj.mp he]; exact hs
  · intro h; exact ⟨name, h, rfl⟩

/-- both succeed, with related results, or both fail, with whatever errors: only acceptance is carried over -/
inductive Agree {α β} (P : α → β → Prop) : Except Err α → Except FeNames.Err β → Prop
  | ok {x y} : P x y → Agree P (.ok x) (.ok y)
  | error {e e'} : Agree P (.error e) (.error e')

theorem Agree.elim {α β} {P : α → β → Prop} {a : Except Err α} {b : Except FeNames.Err β} {C : Prop} (h : Agree P a b)
    (ok : ∀ x y, a = .ok x → b = .ok y → P x y → C) (err : ∀ e e', a = .error e → b = .error e' → C) : C := by
  cases h with
  | ok h => exact ok _ _ rfl rfl h
  | error => exact err _ _ rfl rfl

theorem key_pair_ne {ns name ns' name' : String} (h : (ns', name') ≠ (ns, name)) :
    (ns'.toList, name'.toList) ≠ (ns.toList, name.toList) := by
  intro he
  apply h
  simp only [Prod.mk.injEq] at he ⊢
  exact ⟨String.toList_inj.mp he.1, String.toList_inj.mp he.2⟩

theorem Sim.push {st st'} (hS : Sim st st') (ns name : String) (i : Item) (e : FeNames.EnvEntry) (he : eraseItem i = e)
    (hnb : TyKind.ofName? name = none) :
    Sim { st with items := ((ns, name), i) :: st.items } { st' with env := ((ns.toList, name.toList), e) :: st'.env } := by
  refine ⟨hS.canon, ?_, ?_⟩
  · intro ns' name'
    by_cases hk : (ns', name') = (ns, name)
    · cases hk
      simp [he]
    · rw [lookup_cons_ne (key_pair_ne hk), lookup_cons_ne hk]
      exact hS.env ns' name'
  · intro ns' name' i' hl
    by_cases hk : (ns', name') = (ns, name)
    · cases hk; exact hnb
    · exact hS.nobuiltin ns' name' i' ((lookup_cons_ne hk).symm.trans hl)

theorem checkCanon_sim {st st'} (hS : Sim st st') (c : FeNames.Cls) (name ns : String) (dup : Bool) :
    Agree Sim (checkCanon st c name ns dup) (FeNames.checkCanon st' c name.toList ns.toList dup) := by
  unfold checkCanon FeNames.checkCanon
  simp only [hS.canon]
  cases hl : st.canon.lookup (FeNames.key name.toList ns.toList) with
  | none => exact .ok ⟨by simp, hS.env, hS.nobuiltin⟩
  | some stored =>
    simp only
    by_cases hc : (c == stored && dup) = true
    · simp only [hc, ↓reduceIte]; exact .ok hS
    · simp only [hc]; exact .error

theorem lookupSym_none_sim {st st'} (hS : Sim st st') {ns name : String} (h : lookupSym st.items ns name = none) :
    FeNames.builtinTypes.contains name.toList = false ∧ st'.env.lookup (ns.toList, name.toList) = none ∧
      TyKind.ofName? name = none := by
  obtain ⟨hi, hk⟩ := lookupSym_none h
  exact ⟨by rw [builtin_contains, hk]; rfl, by rw [hS.env, hi]; rfl, hk⟩

theorem lookupSym_some_sim {st st'} (hS : Sim st st') {ns name : String} {e} (h : lookupSym st.items ns name = some e) :
    (∃ k, e = .builtin k ∧ FeNames.builtinTypes.contains name.toList = true) ∨
      ∃ i, e = .item i ∧ FeNames.builtinTypes.contains name.toList = false ∧ TyKind.ofName? name = none ∧
        st'.env.lookup (ns.toList, name.toList) = some (eraseItem i) := by
  rcases lookupSym_cases h with ⟨i, rfl, hi⟩ | ⟨k, rfl, _, hk⟩
  · have hnb := hS.nobuiltin ns name i hi
    exact .inr ⟨i, rfl, by rw [builtin_contains, hnb]; rfl, hnb, by rw [hS.env, hi]; rfl⟩
  · exact .inl ⟨k, rfl, by rw [builtin_contains, hk]; rfl⟩

theorem bindNew_sim {st st' ns name i} (k : FeNames.ItemKind) (hk : k = .type ∨ k = .alias ∨ k = .annotation)
    (hS : Sim st st') (hi : eraseItem i = .user) :
    Agree Sim (bindNew st ns name i k.cls) (FeNames.addItem st' ns.toList ⟨k, name.toList⟩) := by
  unfold bindNew
  cases hl : lookupSym st.items ns name with
  | some e =>
    simp only
    rcases lookupSym_some_sim hS hl with ⟨_, _, hb⟩ | ⟨i', _, _, _, he⟩
    · rcases hk with rfl | rfl | rfl <;> simp only [FeNames.addItem, hb, ↓reduceIte] <;> exact .error
    · rcases hk with rfl | rfl | rfl <;>
        (simp only [FeNames.addItem, he]; split <;> exact .error)
  | none =>
    obtain ⟨hb, he, hnb⟩ := lookupSym_none_sim hS hl
    simp only
    have hsim := fun c => checkCanon_sim (hS.push ns name i .user hi hnb) c name ns false
    rcases hk with rfl | rfl | rfl <;>
      (simp only [FeNames.addItem, hb, he, Bool.false_eq_true, ↓reduceIte]; exact hsim _)

theorem regDecl_sim {st st' ns d x} (hS : Sim st st') (hx : declItem d = some x) :
    Agree Sim (regDecl st ns d) (FeNames.addItem st' ns.toList x) := by
  cases d <;> simp only [declItem, Option.some.injEq, reduceCtorEq] at hx <;> subst hx
  case type td => exact bindNew_sim .type (Or.inl rfl) hS rfl
  case «alias» n r => exact bindNew_sim .alias (Or.inr (Or.inl rfl)) hS rfl
  case annot n ak => exact bindNew_sim .annotation (Or.inr (Or.inr rfl)) hS rfl
  case annotType n =>
    simp only [regDecl]
    cases hl : lookupSym st.items ns n with
    | some e =>
      simp only
      rcases lookupSym_some_sim hS hl with ⟨_, _, hb⟩ | ⟨i', _, _, _, he⟩
      · simp only [FeNames.addItem, hb, ↓reduceIte]; exact .error
      · simp only [FeNames.addItem, he]; split <;> exact .error
    | none =>
      obtain ⟨hb, he, hnb⟩ := lookupSym_none_sim hS hl
      simp only [FeNames.addItem, hb, he, Bool.false_eq_true, ↓reduceIte, builtinAnnot_contains]
      by_cases ha : n ∈ Tables.feBuiltinAnnotations
      · simp [ha]; exact .error
      · simp [ha]
        exact checkCanon_sim (hS.push ns n .other .user rfl hnb) .annotationType n ns false
  case route r =>
    simp only [regDecl]
    cases hl : lookupSym st.items ns r.name with
    | some e =>
      rcases lookupSym_some_sim hS hl with ⟨k, rfl, hb⟩ | ⟨i', rfl, hb, hnb, he⟩
      · simp only [FeNames.addItem, hb, ↓reduceIte]; exact .error
      · cases i' with
        | routes vs =>
          simp only [FeNames.addItem, hb, he, eraseItem, Bool.false_eq_true, ↓reduceIte]
          by_cases hv : r.version ∈ vs
          · simp [hv]; exact .error
          · simp [hv]
            exact checkCanon_sim (hS.push ns r.name (.routes (r.version :: vs)) (.routes (r.version :: vs)) rfl hnb)
              .route r.name ns true
        | type _ | «alias» _ | other | annot _ =>
          simp only [FeNames.addItem, hb, he, eraseItem, Bool.false_eq_true, ↓reduceIte]; exact .error
    | none =>
      obtain ⟨hb, he, hnb⟩ := lookupSym_none_sim hS hl
      simp only [FeNames.addItem, hb, he, Bool.false_eq_true, ↓reduceIte]
      exact checkCanon_sim (hS.push ns r.name (.routes [r.version]) (.routes [r.version]) rfl hnb) .route r.name ns true

theorem regDecls_sim {ns} : ∀ {ds : List Decl} {st st'}, Sim st st' →
    Agree Sim (regDecls st ns ds) (FeNames.addItems st' ns.toList (ds.filterMap declItem))
  | [], st, st', hS => .ok hS
  | d :: ds, st, st', hS => by
    cases hx : declItem d with
    | none =>
      cases d <;> simp [declItem] at hx <;>
        (simp only [regDecls, regDecl, List.filterMap_cons, declItem]; exact regDecls_sim hS)
    | some x =>
      simp only [regDecls, List.filterMap_cons, hx, FeNames.addItems]
      refine (regDecl_sim (ns := ns) hS hx).elim (fun a b hr ha h1 => ?_) (fun e e' hr ha => ?_)
      · simp only [hr, ha]; exact regDecls_sim h1
      · simp only [hr, ha]; exact .error

theorem regFiles_sim : ∀ {fs : List File} {st st'}, Sim st st' →
    Agree Sim (regFiles st fs) (FeNames.registerFrom st' (toNames fs))
  | [], st, st', hS => .ok hS
  | f :: fs, st, st', hS => by
    simp only [regFiles, toNames, List.map_cons, FeNames.registerFrom]
    have hS1 : Sim { st with nss := if st.nss.contains f.ns then st.nss else st.nss ++ [f.ns],
                             canon := (FeNames.key f.ns.toList f.ns.toList, .ns) :: st.canon }
        { st' with canon := (FeNames.key f.ns.toList f.ns.toList, .ns) :: st'.canon } :=
      ⟨by simp [hS.canon], hS.env, hS.nobuiltin⟩
    unfold regFile FeNames.addFile
    refine (regDecls_sim (ns := f.ns) (ds := f.decls) hS1).elim (fun a b hr ha h1 => ?_) (fun e e' hr ha => ?_)
    · simp only [hr, ha]; exact regFiles_sim h1
    · simp only [hr, ha]; exact .error

theorem regFiles_isOk (fs : List File) : isOk (regFiles {} fs) = FeNames.isOk (FeNames.register (toNames fs)) := by
  have h := regFiles_sim (fs := fs) (st := {}) (st' := {}) ⟨rfl, by intro _ _; rfl, by intro _ _ _ h; simp at h⟩
  unfold FeNames.register
  exact h.elim (fun _ _ hr ha _ => by rw [hr, ha]; rfl) (fun _ _ hr ha => by rw [hr, ha]; rfl)

theorem nsLexical_iff (fs : List File) : nsLexical fs = true ↔ FeNames.NsLexical (toNames fs) := by
  unfold nsLexical FeNames.NsLexical FeNames.namespaces toNames
  simp only [List.all_eq_true, Bool.not_eq_eq_eq_not, Bool.not_true, List.map_map, List.mem_map, Function.comp,
    forall_exists_index, and_imp, forall_apply_eq_imp_iff₂]
  constructor
  · intro h f hf hm
    have := h f hf
    rw [List.contains_iff_mem.mpr hm] at this
    cases this
  · intro h f hf
    cases hc : f.ns.toList.contains '/' with
    | false => rfl
    | true => exact absurd (List.contains_iff_mem.mp hc) (h f hf)

theorem regFiles_ok_iff (fs : List File) (hl : nsLexical fs = true) : isOk (regFiles {} fs) = namesLegal fs := by
  rw [regFiles_isOk, Bool.eq_iff_iff, FeNames.register_ok_iff_noclash _ ((nsLexical_iff fs).mp hl)]
  unfold namesLegal
  simp

theorem mem_importsOf {I : List (String × String)} {n m : String} : m ∈ importsOf I n ↔ (n, m) ∈ I := by
  unfold importsOf
  simp only [List.mem_map, List.mem_filter, beq_iff_eq]
  constructor
  · rintro ⟨p, ⟨hp, rfl⟩, rfl⟩; exact hp
  · intro h; exact ⟨(n, m), ⟨h, rfl⟩, rfl⟩

def ImportsOK (nss : List String) (G : List (String × String)) : Prop :=
  ∀ p, p ∈ G → p.1 ≠ p.2 ∧ nss.contains p.2 = true ∧
    anyTri (search (importsOf G) p.1 (nss.length + 1)) (importsOf G p.2) = .no

theorem importsLegal_iff (fs : List File) : importsLegal fs = true ↔ ImportsOK (nsNames fs []) (importPairs fs) := by
  unfold importsLegal ImportsOK
  simp only [List.all_eq_true, Bool.and_eq_true, bne_iff_ne, ne_eq, beq_iff_eq]
  constructor
  · intro h p hp; have := h p hp; exact ⟨this.1.1, this.1.2, this.2⟩
  · intro h p hp; have := h p hp; exact ⟨⟨this.1, this.2.1⟩, this.2.2⟩

theorem foldImports_ok_of_legal {nss G} (hG : ImportsOK nss G) {ps I} (hps : ∀ p, p ∈ ps → p ∈ G)
    (hI : ∀ p, p ∈ I → p ∈ G) : ∃ I', foldImports nss I ps = .ok I' := by
  refine (foldE_ok (P := fun I => ∀ p, p ∈ I → p ∈ G) (fun p I hp hI => ?_) hI).imp fun _ h => h.1
  obtain ⟨h1, h2, h3⟩ := hG p (hps p hp)
  have hsub : ∀ x y, y ∈ importsOf I x → y ∈ importsOf G x := fun x y hy => by
    rw [mem_importsOf] at hy ⊢; exact hI _ hy
  refine ⟨_, addImport_ok_iff.mpr ⟨h1, h2, Gr.anyTri_search_mono hsub (f := nss.length + 1) (hsub p.2) h3, rfl⟩,
    fun q hq => ?_⟩
  rcases List.mem_cons.mp hq with rfl | hq
  · exact hps p hp
  · exact hI q hq

theorem foldImports_acyclic {nss ps I I'} (h : foldImports nss I ps = .ok I') (hA : Gr.Acyclic (importsOf I)) :
    Gr.Acyclic (importsOf I') ∧ ∀ p, p ∈ ps → p.1 ≠ p.2 ∧ nss.contains p.2 = true := by
  have := foldE_progress (I := fun I => Gr.Acyclic (importsOf I)) (R := fun _ _ => True)
    (Q := fun p _ => p.1 ≠ p.2 ∧ nss.contains p.2 = true) (fun _ => trivial) (fun _ _ => trivial)
    (fun {p _ _} _ (h : p.1 ≠ p.2 ∧ nss.contains p.2 = true) => h) (fun p I I1 _ hA hadd => by
      obtain ⟨hne, hc, hno, rfl⟩ := addImport_ok_iff.mp hadd
      refine ⟨Gr.acyclic_push (a := p.1) hA ?_ ?_, trivial, hne, hc⟩
      · intro x hx y hy
        rw [mem_importsOf] at hy ⊢
        simp only [List.mem_cons, Prod.mk.injEq] at hy
        rcases hy with ⟨rfl, _⟩ | hy
        · exact absurd rfl hx
        · exact hy
      · intro m hm hr
        rw [mem_importsOf] at hm
        simp only [List.mem_cons, Prod.mk.injEq, true_and] at hm
        rcases hm with rfl | hm
        · -- the new edge: its target reaches the importer
          rcases hr.cases' with he | ⟨m', he, hrest⟩
          · exact hne (by simp [he])
          · exact Gr.search_no _ (Gr.anyTri_no_iff.mp hno _ he) hrest
        · exact hA p.1 (Gr.path_of_edge_reach (mem_importsOf.mpr hm) hr)) hA h
  exact ⟨this.1, this.2.2⟩

theorem imports_ok_iff (fs : List File) : isOk (addImportsFiles (nsNames fs []) [] fs) = importsLegal fs := by
  rw [Bool.eq_iff_iff, importsLegal_iff, addImportsFiles_fold]
  constructor
  -- ⇒: accepted imports keep the graph acyclic, so the search on the WHOLE graph says `no` within `nss.length + 1`
  -- (only namespaces have successors); ⇐: a `no` survives the removal of edges
  · intro hok
    obtain ⟨I', hf⟩ := isOk_iff.mp hok
    obtain ⟨hA, hloc⟩ := foldImports_acyclic hf (Gr.acyclic_of_no_edge fun _ => rfl)
    have hmem := foldImports_mem hf
    have hsame : ∀ x y, y ∈ importsOf (importPairs fs) x → y ∈ importsOf I' x := by
      intro x y hy
      rw [mem_importsOf] at hy ⊢
      exact (hmem _).mpr (Or.inr hy)
    have hAG : Gr.Acyclic (importsOf (importPairs fs)) := fun a p => hA a (p.mono hsame)
    intro p hp
    obtain ⟨h1, h2⟩ := hloc p hp
    refine ⟨h1, h2, ?_⟩
    rw [Gr.anyTri_no_iff]
    intro m hm
    apply Gr.search_no_of_acyclic (dom := nsNames fs []) hAG
    · intro x hx
      cases hs : importsOf (importPairs fs) x with
      | nil => exact absurd hs hx
      | cons y l =>
        have : y ∈ importsOf (importPairs fs) x := by rw [hs]; exact List.mem_cons_self
        rw [mem_importsOf, mem_importPairs] at this
        exact ns_of_decl (mem_declsOf.mpr this)
    · omega
    · intro hr
      have he : p.2 ∈ importsOf (importPairs fs) p.1 := mem_importsOf.mpr hp
      exact hAG p.1 (.cons he (Gr.path_of_edge_reach hm hr))
  · intro hG
    obtain ⟨I', hI'⟩ := foldImports_ok_of_legal hG (ps := importPairs fs) (I := []) (fun p hp => hp) (by simp)
    rw [hI']; rfl

theorem buildEnv_ok_iff (fs : List File) (hl : nsLexical fs = true) :
    isOk (buildEnv fs) = (namesLegal fs && importsLegal fs) := by
  unfold buildEnv
  have h1 := regFiles_ok_iff fs hl
  cases hr : regFiles {} fs with
  | error e =>
    rw [hr] at h1
    simp only [isOk] at h1
    simp only [isOk, ← h1, Bool.false_and]
  | ok st =>
    rw [hr] at h1
    have hn : st.nss = nsNames fs [] := regFiles_nss hr
    simp only [isOk] at h1
    simp only [← h1, hn, Bool.true_and, ← imports_ok_iff]
    cases addImportsFiles (nsNames fs []) [] fs <;> rfl

end StoneVerif.FeCompile.L
