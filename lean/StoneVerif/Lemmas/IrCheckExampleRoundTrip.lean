import StoneVerif.Lemmas.IrCheckExampleCompiler
import StoneVerif.Lemmas.RtEncodeWire
/-! C10: round trip of the examples the compiler computes: flat structs over scalar fields, flat union examples
(one tag; Void or scalar payload), and `tag = null` for a nullable struct member of a union.

Here `IrCheckExampleRuntime` (what the runtime makes of a document that is good member by member) and
`IrCheckExampleCompiler` (what the compiler accepted is a good member; the generated class tables) meet: first against
the wire form, then through the real entry point `json_compat_obj_encode`, whose output on a valid instance in stored
form is the wire form in a well-formed environment (`encode_wire`; `struct_encode`, `union_encode`). -/
namespace StoneVerif.IrCheck
open StoneVerif.Rt

/-
FULL STATEMENT (not proved): every example the compiler computes for a struct or a union, of every shape,
round-trips through the generated classes —

    theorem example_roundtrip (hapi : the API `api` was accepted by the compiler) (henv : envOfC api = some env)
        (hs : cs ∈ api.structs) (hex : `label` is an example of `cs`) :
        ∃ doc v, Struct._compute_example(label) = doc ∧
          jsonCompatObjDecode E env [] true (validatorOf cs) doc = .ok v ∧
          jsonCompatObjEncode E env [] false (validatorOf cs) v = .ok doc' ∧ doc' ≈ doc     (same members)

    and the same for every union example.

WHAT IS MISSING in `example_roundtrip_partial` below:
* references to other examples (`ExVal.ref`: fields of struct / union type take their value from the labelled
  example of the field's type; `structExampleDoc` answers `none` for them — the resolution of labels, with its
  recursion through the API, is outside the model);
* list and map fields (`ExVal.list` / `ExVal.map`), Timestamp and Bytes fields (the document holds the text,
  the instance a datetime / bytes object; the round trip needs the `strptime`/`strftime` and base64 laws);
* aliases as field types (`scalarTy` is the literal Boolean / integer / float / String, optionally `?`);
* structs with enumerated subtypes (the document of a subtype carries `.tag`; decoded at the `StructTree`);
* literals of an inexact kind (`exactKind`): `1` written for a Float64 field — the compiler accepts it and the
  decoder accepts it, but the instance re-encodes as `1.0`, a different JSON token (`true` for an Int32 field,
  the other such case, is refused by the compiler since the repair of `_BoundedInteger.check`);
* fields omitted for a caller class (`omitted`): the example document lists them, a caller without
  permissions neither decodes (strict) nor encodes them;
-/

/-- For a struct (any inheritance chain, no enumerated subtypes) whose fields are scalar (optionally `?`), public and
distinctly named, with defaults the compiler accepted (`hdef`), in the environment that holds the class table
python_types generates for it (`hsd`, `henv`): every raw example that `_add_example` accepts with literals of exactly
the kind of their field (`hexact`) gives a document the strict decoder accepts; the instance is valid and in stored
form, and its wire form has exactly the members of the document (declaration order instead of `all_fields` order: a
permutation). -/
theorem example_roundtrip_partial (E : Ext) (C : CExt) (us : List CUnion) (env : Env) (cs : CStruct) (sd : StructDef)
    (ex : List (String × ExVal))
    (hsd : structDefOfC us cs = some sd) (henv : env.struct? cs.cls = some sd)
    (hscalar : ∀ f ∈ cs.allFields, scalarTy f.ty = true)
    (hpub : ∀ f ∈ cs.allFields, f.omitted = none)
    (hnd : (cs.allFields.map (·.name)).Nodup)
    (hdef : ∀ f ∈ cs.allFields, ∀ d, f.dflt = some d → ∃ lit, fieldDefault E C us f.ty lit = .ok d)
    (hexact : ∀ f ∈ cs.allFields, (∀ l, exLookup f.name ex = some (.lit l) → exactKind f.ty l = true) ∧
      (∀ d, exLookup f.name ex = none → f.dflt = some d → exactKind f.ty d = true))
    (hadd : addStructExample E C us cs ex = .ok ()) :
    ∃ kvs slots, structExampleDoc cs ex = some (.obj kvs) ∧
      decode E env [] true (.struct {} cs.cls) (.obj kvs) = .ok (.struct cs.cls slots) ∧
      jsonCompatObjDecode E env [] true (.struct {} cs.cls) (.obj kvs) = .ok (.struct cs.cls slots) ∧
      (∃ kvs', wire E env (.struct {} cs.cls) (.struct cs.cls slots) = .obj kvs' ∧ kvs'.Perm kvs) ∧
      normalB env (.struct {} cs.cls) (.struct cs.cls slots) = true ∧
      (cs.cls ∈ cs.chain.map (·.1) → validB E env (.struct {} cs.cls) (.struct cs.cls slots) = true) := by
  let kvs := cs.allFields.filterMap fun f => (docVal ex f).map fun j => (f.name, j)
  obtain ⟨hflat, hcls, -, -, -⟩ := structDefOfC_inv hsd
  obtain ⟨hnames, hright, hleft⟩ := mapM_some_spec (g := fieldDefOfC us) (·.name) (·.name)
    (fun a b h => (fieldDefOfC_inv h).2.1) hflat
  have hperm := allFields_perm cs
  have hmem : ∀ f, f ∈ cs.allFields ↔ f ∈ cs.chain.flatMap (·.2) := fun f => hperm.mem_iff
  -- the table the decoder and the encoder walk: every declared field, in declaration order
  have hfor : sd.fieldsFor [] = sd.levels.flatMap (·.fields) := by
    rw [fieldsFor_nil, fieldsSpec_nil]
    apply List.filter_eq_self.mpr
    intro fd hfd
    obtain ⟨f, hf, hg⟩ := hright fd hfd
    obtain ⟨_, _, _, _, hom, _⟩ := fieldDefOfC_inv hg
    simp [hom, hpub f ((hmem f).mpr hf)]
  have hndf : ((sd.fieldsFor []).map (·.name)).Nodup := by
    rw [hfor, hnames]; exact (hperm.map _).nodup_iff.mp hnd
  have hchk := addStructExample_fields hadd
  have hfield : ∀ f ∈ cs.allFields, ∀ fd, fieldDefOfC us f = some fd →
      structExampleMember ex f = some ((docVal ex f).map fun j => (f.name, j)) ∧ StepOK E env fd (docVal ex f) :=
    fun f hf fd hfd => field_stepOK E C us env ex f fd (hscalar f hf) hfd (hdef f hf) (hexact f hf).1 (hexact f hf).2
      (hchk f hf)
  have hdoc : structExampleDoc cs ex = some (.obj kvs) := by
    unfold structExampleDoc
    rw [collectMembers_filterMap ex (docVal ex) cs.allFields]
    · rfl
    · intro f hf
      obtain ⟨fd, _, hfd⟩ := hleft f ((hmem f).mp hf)
      exact (hfield f hf fd hfd).1
  have hkeys : ∀ kv ∈ kvs, kv.1 ∈ (sd.fieldsFor []).map (·.name) := fun kv hkv => by
    rw [hfor, hnames, ← (hperm.map _).mem_iff]
    exact (keys_filterMap_sublist (·.name) (docVal ex) cs.allFields).subset (List.mem_map_of_mem hkv)
  have hkn : (kvs.map (·.1)).Nodup := List.Nodup.sublist (keys_filterMap_sublist (·.name) (docVal ex) cs.allFields) hnd
  have hstep : ∀ fd ∈ sd.fieldsFor [], StepOK E env fd (jsonLookup fd.name kvs) := by
    intro fd hfd
    rw [hfor] at hfd
    obtain ⟨f, hf, hg⟩ := hright fd hfd
    have hf' := (hmem f).mpr hf
    obtain ⟨_, hname, _⟩ := fieldDefOfC_inv hg
    have : jsonLookup fd.name kvs = docVal ex f := by
      rw [hname, jsonLookup_eq_find?]
      exact find?_filterMap_of_mem (·.name) (docVal ex) cs.allFields hnd f hf'
    rw [this]
    exact (hfield f hf' fd hg).2
  obtain ⟨h1, h2, h3, h4, h5⟩ := struct_roundtrip E env cs.cls sd kvs henv hndf hkn hkeys hstep
  exact ⟨kvs, _, hdoc, h1, (jsonCompatObjDecode_eq E env [] true _ _).trans (by rw [h1]; rfl), ⟨_, h2, h3⟩, h4,
    fun hself => h5 (by rw [StructDef.ancestors, hcls]; exact hself)⟩

def exactOK (ex : List (String × ExVal)) (f : CField) : Bool :=
  match exLookup f.name ex with
  | some (.lit l) => exactKind f.ty l
  | some _ => true
  | none => match f.dflt with
    | some d => exactKind f.ty d
    | none => true

/-- the field's default is one the compiler stores: `fieldDefault` of it as the literal gives it back -/
def dfltOK (E : Ext) (C : CExt) (us : List CUnion) (f : CField) : Bool :=
  match f.dflt with
  | none => true
  | some d => match fieldDefault E C us f.ty d with
    | .ok d' => d' == d
    | .error _ => false

theorem exactKind_of_exactOK {ex : List (String × ExVal)} {f : CField} (h : exactOK ex f = true) :
    (∀ l, exLookup f.name ex = some (.lit l) → exactKind f.ty l = true) ∧
    (∀ d, exLookup f.name ex = none → f.dflt = some d → exactKind f.ty d = true) := by
  unfold exactOK at h
  constructor
  · intro l hl; simpa [hl] using h
  · intro d hl hd; simpa [hl, hd] using h

theorem fieldDefault_of_dfltOK {E : Ext} {C : CExt} {us : List CUnion} {f : CField} (h : dfltOK E C us f = true) :
    ∀ d, f.dflt = some d → ∃ lit, fieldDefault E C us f.ty lit = .ok d := by
  intro d hd
  unfold dfltOK at h
  simp only [hd] at h
  refine ⟨d, ?_⟩
  cases hf : fieldDefault E C us f.ty d with
  | error e => simp [hf] at h
  | ok d' => simp [hf] at h; rw [h]

theorem fields_of_test {E : Ext} {C : CExt} {us : List CUnion} {cs : CStruct} {ex : List (String × ExVal)}
    (h : (cs.allFields.all fun f => scalarTy f.ty && f.omitted.isNone && dfltOK E C us f && exactOK ex f) = true) :
    (∀ f ∈ cs.allFields, scalarTy f.ty = true) ∧ (∀ f ∈ cs.allFields, f.omitted = none) ∧
    (∀ f ∈ cs.allFields, ∀ d, f.dflt = some d → ∃ lit, fieldDefault E C us f.ty lit = .ok d) ∧
    (∀ f ∈ cs.allFields, (∀ l, exLookup f.name ex = some (.lit l) → exactKind f.ty l = true) ∧
      (∀ d, exLookup f.name ex = none → f.dflt = some d → exactKind f.ty d = true)) := by
  simp only [List.all_eq_true, Bool.and_eq_true, Option.isNone_iff_eq_none] at h
  exact ⟨fun f m => (h f m).1.1.1, fun f m => (h f m).1.1.2, fun f m => fieldDefault_of_dfltOK (h f m).1.2,
    fun f m => exactKind_of_exactOK (h f m).2⟩

/-- the per-field hypotheses as one Boolean test, which a concrete instance settles by `rfl` -/
theorem example_roundtrip_partial' (E : Ext) (C : CExt) (us : List CUnion) (env : Env) (cs : CStruct) (sd : StructDef)
    (ex : List (String × ExVal))
    (hsd : structDefOfC us cs = some sd) (henv : env.struct? cs.cls = some sd)
    (hfields : (cs.allFields.all fun f => scalarTy f.ty && f.omitted.isNone && dfltOK E C us f && exactOK ex f) = true)
    (hnd : (cs.allFields.map (·.name)).Nodup)
    (hadd : addStructExample E C us cs ex = .ok ()) :
    ∃ kvs slots, structExampleDoc cs ex = some (.obj kvs) ∧
      decode E env [] true (.struct {} cs.cls) (.obj kvs) = .ok (.struct cs.cls slots) ∧
      jsonCompatObjDecode E env [] true (.struct {} cs.cls) (.obj kvs) = .ok (.struct cs.cls slots) ∧
      (∃ kvs', wire E env (.struct {} cs.cls) (.struct cs.cls slots) = .obj kvs' ∧ kvs'.Perm kvs) ∧
      normalB env (.struct {} cs.cls) (.struct cs.cls slots) = true ∧
      (cs.cls ∈ cs.chain.map (·.1) → validB E env (.struct {} cs.cls) (.struct cs.cls slots) = true) := by
  obtain ⟨h1, h2, h3, h4⟩ := fields_of_test hfields
  exact example_roundtrip_partial E C us env cs sd ex hsd henv h1 h2 hnd h3 h4 hadd

/-- `<` on bit patterns (adequate for non-negative floats), an anchored pattern test -/
def rtE : Ext where
  fltLt a b := a < b
  fltIsNan _ := false
  fltIsInf _ := false
  fltOfInt n := if n = 0 then some 0 else none
  patMatch p s := p == "[a-z]{2}" && s == "ab"
  b64enc h := h
  b64dec s := some (some s)
  strftime _ _ := ""
  strptime _ _ := none
  md5 s := s
  reSearch _ _ := none
  strOfInt _ := ""
  strOfFlt _ := ""

/-- the compile-time external calls (the pattern test is the runtime's own, `E.patMatch`) -/
def rtC : CExt where
  intExact _ := true
  strptimeOk _ _ := false

/-- `struct Base { id Int64; note String? }`,
`struct Item extends Base { flag Boolean = false; name String(pattern="[a-z]{2}"); score Float64; n UInt32? }` -/
def rtItem : CStruct :=
  { cls := "ns.Item",
    chain := [("ns.Base", [{ name := "id", ty := .int "Int64" none none },
                           { name := "note", ty := .nullable (.str none none none) }]),
              ("ns.Item", [{ name := "flag", ty := .bool, dflt := some (.bool false) },
                           { name := "name", ty := .str none none (some "[a-z]{2}") },
                           { name := "score", ty := .float "Float64" none none },
                           { name := "n", ty := .nullable (.int "UInt32" none none) }])] }

def rtItemDef : StructDef := (structDefOfC [] rtItem).getD { cls := "", levels := [], subtypes := none, catchAll := false }

def rtEnv : Env := { structs := [rtItemDef], unions := [] }

/-- the raw example: `note` explicitly null, `flag` and `n` not mentioned -/
def rtEx : List (String × ExVal) :=
  [("name", .lit (.str "ab")), ("id", .lit (.int 7)), ("score", .lit (.flt 4609434218613702656)), ("note", .lit .null)]

theorem rtItem_nodup : (rtItem.allFields.map (·.name)).Nodup := by decide +kernel

theorem rtItem_inst : structDefOfC [] rtItem = some rtItemDef ∧ rtEnv.struct? rtItem.cls = some rtItemDef ∧
    (rtItem.allFields.all fun f => scalarTy f.ty && f.omitted.isNone && dfltOK rtE rtC [] f && exactOK rtEx f) = true ∧
    addStructExample rtE rtC [] rtItem rtEx = .ok () :=
  ⟨rfl, rfl, rfl, rfl⟩

example : structDefOfC [] rtItem = some rtItemDef ∧ rtEnv.struct? rtItem.cls = some rtItemDef ∧
    (rtItem.allFields.all fun f => scalarTy f.ty && f.omitted.isNone && dfltOK rtE rtC [] f && exactOK rtEx f) = true ∧
    addStructExample rtE rtC [] rtItem rtEx = .ok () := by
  exact rtItem_inst

theorem rtItem_doc :
    structExampleDoc rtItem rtEx = some (.obj [("id", .int 7), ("name", .str "ab"), ("score", .flt 4609434218613702656),
      ("flag", .bool false)]) ∧
    decode rtE rtEnv [] true (.struct {} "ns.Item") (.obj [("id", .int 7), ("name", .str "ab"),
        ("score", .flt 4609434218613702656), ("flag", .bool false)]) =
      .ok (.struct "ns.Item" [("id", .int 7), ("flag", .bool false), ("name", .str "ab"), ("score", .flt 4609434218613702656)]) ∧
    wire rtE rtEnv (.struct {} "ns.Item")
        (.struct "ns.Item" [("id", .int 7), ("flag", .bool false), ("name", .str "ab"), ("score", .flt 4609434218613702656)]) =
      .obj [("id", .int 7), ("flag", .bool false), ("name", .str "ab"), ("score", .flt 4609434218613702656)] :=
  ⟨rfl, rfl, rfl⟩

/-- The document is in `all_fields` order (required `id`, `name`, `score`, then the default of `flag`; no key for the
null `note` and the absent `n`), the wire form in declaration order (`id`, `flag`, `name`, `score`): a genuine
permutation. -/
example :
    structExampleDoc rtItem rtEx = some (.obj [("id", .int 7), ("name", .str "ab"), ("score", .flt 4609434218613702656),
      ("flag", .bool false)]) ∧
    decode rtE rtEnv [] true (.struct {} "ns.Item") (.obj [("id", .int 7), ("name", .str "ab"),
        ("score", .flt 4609434218613702656), ("flag", .bool false)]) =
      .ok (.struct "ns.Item" [("id", .int 7), ("flag", .bool false), ("name", .str "ab"), ("score", .flt 4609434218613702656)]) ∧
    wire rtE rtEnv (.struct {} "ns.Item")
        (.struct "ns.Item" [("id", .int 7), ("flag", .bool false), ("name", .str "ab"), ("score", .flt 4609434218613702656)]) =
      .obj [("id", .int 7), ("flag", .bool false), ("name", .str "ab"), ("score", .flt 4609434218613702656)] :=
  rtItem_doc

example : ∃ kvs slots, structExampleDoc rtItem rtEx = some (.obj kvs) ∧
    decode rtE rtEnv [] true (.struct {} rtItem.cls) (.obj kvs) = .ok (.struct rtItem.cls slots) ∧
    jsonCompatObjDecode rtE rtEnv [] true (.struct {} rtItem.cls) (.obj kvs) = .ok (.struct rtItem.cls slots) ∧
    (∃ kvs', wire rtE rtEnv (.struct {} rtItem.cls) (.struct rtItem.cls slots) = .obj kvs' ∧ kvs'.Perm kvs) ∧
    normalB rtEnv (.struct {} rtItem.cls) (.struct rtItem.cls slots) = true ∧
    (rtItem.cls ∈ rtItem.chain.map (·.1) → validB rtE rtEnv (.struct {} rtItem.cls) (.struct rtItem.cls slots) = true) :=
  example_roundtrip_partial' rtE rtC [] rtEnv rtItem rtItemDef rtEx rtItem_inst.1 rtItem_inst.2.1 rtItem_inst.2.2.1 rtItem_nodup
    rtItem_inst.2.2.2

def rtB : CStruct := { cls := "ns.B", chain := [("ns.B", [{ name := "k", ty := .int "Int32" none none }])] }
def rtBEnv : Env := { structs := ((structDefOfC [] rtB).map fun sd => [sd]).getD [], unions := [] }

theorem rtB_regression :
    (structDefOfC [] rtB).isSome = true ∧ rtBEnv.struct? "ns.B" = structDefOfC [] rtB ∧
    addStructExample rtE rtC [] rtB [("k", .lit (.bool true))] =
      .error (.invalid "Bad example for field: boolean is not a valid integer") ∧
    decode rtE rtBEnv [] true (.struct {} "ns.B") (.obj [("k", .bool true)]) = .ok (.struct "ns.B" [("k", .bool true)]) ∧
    wire rtE rtBEnv (.struct {} "ns.B") (.struct "ns.B" [("k", .bool true)]) = .obj [("k", .int 1)] :=
  ⟨rfl, rfl, rfl, rfl, rfl⟩

/-- regression: `true` written for an integer field used to be accepted by the compiler; the strict decoder still takes
the document and the instance re-encodes as `1`, not the document. Since the repair of `_BoundedInteger.check` the
compiler refuses the example. -/
example :
    (structDefOfC [] rtB).isSome = true ∧ rtBEnv.struct? "ns.B" = structDefOfC [] rtB ∧
    addStructExample rtE rtC [] rtB [("k", .lit (.bool true))] =
      .error (.invalid "Bad example for field: boolean is not a valid integer") ∧
    decode rtE rtBEnv [] true (.struct {} "ns.B") (.obj [("k", .bool true)]) = .ok (.struct "ns.B" [("k", .bool true)]) ∧
    wire rtE rtBEnv (.struct {} "ns.B") (.struct "ns.B" [("k", .bool true)]) = .obj [("k", .int 1)] :=
  rtB_regression

/-
MISSING for unions: tags whose type is a struct or a union (their example is a reference to a labelled example of that
type, flattened beside `.tag` for a struct), list / map / Timestamp / Bytes payloads, aliases, the catch-all tag
(the strict decoder refuses it: "unexpected use of the catch-all tag"), tags omitted for a caller class, literals of
an inexact kind.
-/

/-- For a union (any inheritance chain) whose tags are public and distinctly named, in the environment that holds the
class table python_types generates for it: an example `tag = v` that `_add_example` accepts, for a tag that is not the
catch-all and whose type is Void or scalar (the literal then of exactly the type's kind), gives the document
`{".tag": tag}` (Void, or null for a `T?`) or `{".tag": tag, tag: j}`; the strict decoder turns it into the instance of
that tag, which is valid and in stored form and whose wire form is the document itself. -/
theorem example_union_roundtrip_partial (E : Ext) (C : CExt) (us : List CUnion) (env : Env) (cu : CUnion) (ud : UnionDef)
    (tag : String) (v : ExVal) (t : CTag)
    (hud : unionDefOfC cu = some ud) (henv : env.union? cu.cls = some ud)
    (hpub : ∀ t ∈ cu.allTags, t.omitted = none) (hnd : (cu.allTags.map (·.name)).Nodup)
    (ht : cu.allTags.find? (·.name == tag) = some t)
    (hty : t.ty = .void ∨ scalarTy t.ty = true)
    (hca : some tag ≠ cu.catchAll) (htne : tag ≠ ".tag")
    (hexact : scalarTy t.ty = true → ∀ l, v = .lit l → exactKind t.ty l = true)
    (hadd : addUnionExample E C us cu [(tag, v)] = .ok ()) :
    ∃ kvs payload, unionExampleDoc cu [(tag, v)] = some (.obj kvs) ∧
      decode E env [] true (.union {} cu.cls) (.obj kvs) = .ok (.union cu.cls tag payload) ∧
      jsonCompatObjDecode E env [] true (.union {} cu.cls) (.obj kvs) = .ok (.union cu.cls tag payload) ∧
      wire E env (.union {} cu.cls) (.union cu.cls tag payload) = .obj kvs ∧
      normalB env (.union {} cu.cls) (.union cu.cls tag payload) = true ∧
      (cu.cls ∈ cu.chain.map (·.1) → validB E env (.union {} cu.cls) (.union cu.cls tag payload) = true) := by
  have hchk : checkExample E C us t.ty v = .ok () := by
    simp only [addUnionExample, ht] at hadd
    cases hc : checkExample E C us t.ty v with
    | ok u => rfl
    | error e => cases e <;> simp [hc, invalid] at hadd
  obtain ⟨td, hvt, hT⟩ := union_tables hud henv hpub hnd ht hca htne
  have hself : cu.cls ∈ cu.chain.map (·.1) → cu.cls ∈ ud.ancestors := (unionDefOfC_ancestors hud).2 ▸ id
  -- the document is the tag alone, at a Void or nullable tag, or the tag with a payload that round-trips
  suffices h : (unionExampleDoc cu [(tag, v)] = some (.obj [(".tag", .str tag)]) ∧
        (td.ty = .void {} ∨ td.ty.flags.nullable = true)) ∨
      ∃ j, unionExampleDoc cu [(tag, v)] = some (.obj [(".tag", .str tag), (tag, j)]) ∧ isJsonPrimTy td.ty = true ∧
        ∀ fl, ScalarOK E env (td.ty.withFlags fl) j by
    rcases h with ⟨hdoc, hft⟩ | ⟨j, hdoc, hsp, sc⟩
    · obtain ⟨h1, h2, h3, h4⟩ := union_tagonly_roundtrip E hT hft
      exact ⟨_, .none, hdoc, h1, (jsonCompatObjDecode_eq E env [] true _ _).trans (by rw [h1]; rfl), h2, h3, fun hs => h4 (hself hs)⟩
    · obtain ⟨h1, h2, h3, h4⟩ := union_value_roundtrip E hT hsp (withFlags_self td.ty ▸ sc td.ty.flags) (sc {}).dec
      exact ⟨_, _, hdoc, h1, (jsonCompatObjDecode_eq E env [] true _ _).trans (by rw [h1]; rfl), h2, h3, fun hs => h4 (hself hs)⟩
  rcases hty with hvoid | hsc
  · rw [hvoid] at hchk hvt
    have hv : v = .lit .null := by
      unfold checkExample at hchk
      split at hchk
      · rfl
      · cases hchk
    subst hv
    exact Or.inl ⟨by rw [unionExampleDoc_lit ht (by rw [hvoid]; exact fun c h => nomatch h)]; rfl,
      Or.inl (Option.some.inj hvt).symm⟩
  · obtain ⟨l, rfl, hcl⟩ := scalar_example_lit hsc hchk
    obtain ⟨hsp, hfln⟩ := validatorOf_scalar hsc hvt
    have hdoc0 := unionExampleDoc_lit ht (fun c => scalar_not_struct hsc c false) l
    by_cases hn : l = .null
    · subst hn
      exact Or.inl ⟨hdoc0, Or.inr (by rw [hfln]; exact scalar_null hsc hcl)⟩
    · refine Or.inr ⟨jsonOfLit l, ?_, hsp, scalar_value E C us env hsc hvt hcl (hexact hsc l rfl) hn⟩
      rw [hdoc0]; cases l with | null => exact absurd rfl hn | _ => rfl

/-- The union example `tag = null` for a nullable struct member: the compiler accepts it without hypothesis (`null`
passes `Nullable.check_example`), the computed example is `{".tag": tag}`, and it round-trips as above. -/
theorem example_union_null_struct_roundtrip (E : Ext) (C : CExt) (us : List CUnion) (env : Env) (cu : CUnion) (ud : UnionDef)
    (tag : String) (t : CTag) (c : String)
    (hud : unionDefOfC cu = some ud) (henv : env.union? cu.cls = some ud)
    (hpub : ∀ t ∈ cu.allTags, t.omitted = none) (hnd : (cu.allTags.map (·.name)).Nodup)
    (ht : cu.allTags.find? (·.name == tag) = some t)
    (hty : t.ty = .nullable (.struct c false))
    (hca : some tag ≠ cu.catchAll) (htne : tag ≠ ".tag") :
    unionExample E C us cu [(tag, .lit .null)] = .ok (some (.obj [(".tag", .str tag)])) ∧
      decode E env [] true (.union {} cu.cls) (.obj [(".tag", .str tag)]) = .ok (.union cu.cls tag .none) ∧
      jsonCompatObjDecode E env [] true (.union {} cu.cls) (.obj [(".tag", .str tag)]) = .ok (.union cu.cls tag .none) ∧
      wire E env (.union {} cu.cls) (.union cu.cls tag .none) = .obj [(".tag", .str tag)] ∧
      normalB env (.union {} cu.cls) (.union cu.cls tag .none) = true ∧
      (cu.cls ∈ cu.chain.map (·.1) → validB E env (.union {} cu.cls) (.union cu.cls tag .none) = true) := by
  obtain ⟨td, hvt, hT⟩ := union_tables hud henv hpub hnd ht hca htne
  have hself : cu.cls ∈ cu.chain.map (·.1) → cu.cls ∈ ud.ancestors := (unionDefOfC_ancestors hud).2 ▸ id
  have hn : td.ty.flags.nullable = true := by
    rw [hty] at hvt
    rw [← Option.some.inj hvt]
    rfl
  have hex : unionExample E C us cu [(tag, .lit .null)] = .ok (some (.obj [(".tag", .str tag)])) := by
    simp [unionExample, addUnionExample, ht, hty, checkExample, unionExampleDoc, jsonOfEx, jsonOfLit]
  obtain ⟨h1, h2, h3, h4⟩ := union_tagonly_roundtrip E hT (Or.inr hn)
  exact ⟨hex, h1, (jsonCompatObjDecode_eq E env [] true _ _).trans (by rw [h1]; rfl), h2, h3, fun hs => h4 (hself hs)⟩

/-- `union Color { red; green Int32; name String?; other* }` and `union Tint extends Color { pale Float64 }` -/
def rtTint : CUnion :=
  { cls := "ns.Tint",
    chain := [("ns.Color", [{ name := "red", ty := .void }, { name := "green", ty := .int "Int32" none none },
                            { name := "name", ty := .nullable (.str none none none) }, { name := "other", ty := .void }]),
              ("ns.Tint", [{ name := "pale", ty := .float "Float64" none none }])],
    catchAll := some "other" }

def rtUEnv : Env := { structs := [], unions := ((unionDefOfC rtTint).map fun ud => [ud]).getD [] }

example : (unionDefOfC rtTint).isSome = true ∧ rtUEnv.union? "ns.Tint" = unionDefOfC rtTint ∧
    addUnionExample rtE rtC [] rtTint [("green", .lit (.int 5))] = .ok () ∧
    addUnionExample rtE rtC [] rtTint [("red", .lit .null)] = .ok () ∧
    addUnionExample rtE rtC [] rtTint [("name", .lit .null)] = .ok () ∧
    addUnionExample rtE rtC [] rtTint [("pale", .lit (.flt 4609434218613702656))] = .ok () :=
  ⟨rfl, rfl, rfl, rfl, rfl, rfl⟩

/-- the conclusion on the inherited tag `green` (declared by the parent, decoded at the child) -/
example :
    unionExampleDoc rtTint [("green", .lit (.int 5))] = some (.obj [(".tag", .str "green"), ("green", .int 5)]) ∧
    decode rtE rtUEnv [] true (.union {} "ns.Tint") (.obj [(".tag", .str "green"), ("green", .int 5)]) =
      .ok (.union "ns.Tint" "green" (.int 5)) ∧
    wire rtE rtUEnv (.union {} "ns.Tint") (.union "ns.Tint" "green" (.int 5)) = .obj [(".tag", .str "green"), ("green", .int 5)] ∧
    unionExampleDoc rtTint [("name", .lit .null)] = some (.obj [(".tag", .str "name")]) ∧
    decode rtE rtUEnv [] true (.union {} "ns.Tint") (.obj [(".tag", .str "name")]) = .ok (.union "ns.Tint" "name" .none) ∧
    -- the catch-all is excluded for a reason: its own example does not decode strictly
    unionExampleDoc rtTint [("other", .lit .null)] = some (.obj [(".tag", .str "other")]) ∧
    decode rtE rtUEnv [] true (.union {} "ns.Tint") (.obj [(".tag", .str "other")]) =
      verr "unexpected use of the catch-all tag" :=
  ⟨rfl, rfl, rfl, rfl, rfl, rfl, rfl⟩

example : ∃ kvs payload, unionExampleDoc rtTint [("green", .lit (.int 5))] = some (.obj kvs) ∧
    decode rtE rtUEnv [] true (.union {} rtTint.cls) (.obj kvs) = .ok (.union rtTint.cls "green" payload) ∧
    jsonCompatObjDecode rtE rtUEnv [] true (.union {} rtTint.cls) (.obj kvs) = .ok (.union rtTint.cls "green" payload) ∧
    wire rtE rtUEnv (.union {} rtTint.cls) (.union rtTint.cls "green" payload) = .obj kvs ∧
    normalB rtUEnv (.union {} rtTint.cls) (.union rtTint.cls "green" payload) = true ∧
    (rtTint.cls ∈ rtTint.chain.map (·.1) → validB rtE rtUEnv (.union {} rtTint.cls) (.union rtTint.cls "green" payload) = true) :=
  example_union_roundtrip_partial rtE rtC [] rtUEnv rtTint ((unionDefOfC rtTint).getD default) "green" (.lit (.int 5))
    { name := "green", ty := .int "Int32" none none } rfl rfl (by decide) (by decide) rfl
    (Or.inr rfl) (by decide) (by decide) (by intro _ l h; cases h; rfl) rfl

/-- The premise of `hv`, the struct's class in its own chain, holds in a well-formed environment (`envWF`, `envWFX`: what
C01/C02 guarantee and the driver evaluates on every environment). -/
theorem struct_encode (E : Ext) {us : List CUnion} {env : Env} {cs : CStruct} {sd : StructDef}
    (hwf : envWF env = true) (hchain : envWFX env = true) (hsub : cs.subtypes = none)
    (hsd : structDefOfC us cs = some sd) (henv : env.struct? cs.cls = some sd) {v : PyVal} {doc : JVal}
    (hw : wire E env (.struct {} cs.cls) v = doc) (hn : normalB env (.struct {} cs.cls) v = true)
    (hv : cs.cls ∈ cs.chain.map (·.1) → validB E env (.struct {} cs.cls) v = true) :
    jsonCompatObjEncode E env [] false (.struct {} cs.cls) v = .ok doc := by
  obtain ⟨-, hcls, -, hst, -⟩ := structDefOfC_inv hsd
  -- a well-formed environment registers each class under a chain that ends in the class itself
  have hself : cs.cls ∈ cs.chain.map (·.1) := by
    have := StructDef.cls_mem_ancestors (envWF_struct hwf henv)
    rwa [(struct?_some henv).2, List.contains_iff_mem, StructDef.ancestors, hcls] at this
  have htwf : tyWF env (.struct {} cs.cls) = true := by
    simp [tyWF, henv, hst, hsub]
  rw [jsonCompatObjEncode, encode_wire E env hwf hchain _ _ false htwf (hv hself) hn, hw]

theorem union_encode (E : Ext) {env : Env} {cu : CUnion} {ud : UnionDef} (hwf : envWF env = true) (hchain : envWFX env = true)
    (hud : unionDefOfC cu = some ud) (henv : env.union? cu.cls = some ud) {u : PyVal} {doc : JVal}
    (hw : wire E env (.union {} cu.cls) u = doc) (hn : normalB env (.union {} cu.cls) u = true)
    (hv : cu.cls ∈ cu.chain.map (·.1) → validB E env (.union {} cu.cls) u = true) :
    jsonCompatObjEncode E env [] false (.union {} cu.cls) u = .ok doc := by
  have hself : cu.cls ∈ cu.chain.map (·.1) := by
    have := UnionDef.cls_mem_ancestors (envWF_union hwf henv)
    rwa [(union?_some henv).2, List.contains_iff_mem, (unionDefOfC_ancestors hud).2] at this
  have htwf : tyWF env (.union {} cu.cls) = true := by simp [tyWF, henv]
  rw [jsonCompatObjEncode, encode_wire E env hwf hchain _ _ false htwf (hv hself) hn, hw]

/-! the generated environment of an API with the struct, its parent and the union -/

def rtBase : CStruct :=
  { cls := "ns.Base", chain := [("ns.Base", [{ name := "id", ty := .int "Int64" none none },
                                             { name := "note", ty := .nullable (.str none none none) }])] }

def rtColor : CUnion :=
  { cls := "ns.Color",
    chain := [("ns.Color", [{ name := "red", ty := .void }, { name := "green", ty := .int "Int32" none none },
                            { name := "name", ty := .nullable (.str none none none) }, { name := "other", ty := .void }])],
    catchAll := some "other" }

def rtApi : CApi := { structs := [rtBase, rtItem], unions := [rtColor, rtTint] }

def rtApiEnv : Env := (envOfC rtApi).getD { structs := [], unions := [] }

theorem rtApiEnv_wf : (envOfC rtApi).isSome = true ∧ envWF rtApiEnv = true ∧ envWFX rtApiEnv = true := by
  decide +kernel

theorem rtApiEnv_eq : envOfC rtApi = some rtApiEnv := by
  unfold rtApiEnv
  cases h : envOfC rtApi with
  | none => have := rtApiEnv_wf.1; simp [h] at this
  | some e => rfl

theorem rtItem_hyps : ∃ sd, structDefOfC rtApi.unions rtItem = some sd ∧ rtApiEnv.struct? rtItem.cls = some sd ∧
    (rtItem.allFields.all fun f => scalarTy f.ty && f.omitted.isNone && dfltOK rtE rtC rtApi.unions f && exactOK rtEx f) = true ∧
    addStructExample rtE rtC rtApi.unions rtItem rtEx = .ok () := by
  obtain ⟨sd, hsd, henv⟩ := envOfC_struct rtApiEnv_eq (by decide) (cs := rtItem) (by simp [rtApi])
  exact ⟨sd, hsd, henv, rfl, rfl⟩

example : ∃ kvs v kvs', structExampleDoc rtItem rtEx = some (.obj kvs) ∧
    jsonCompatObjDecode rtE rtApiEnv [] true (.struct {} rtItem.cls) (.obj kvs) = .ok v ∧
    jsonCompatObjEncode rtE rtApiEnv [] false (.struct {} rtItem.cls) v = .ok (.obj kvs') ∧ kvs'.Perm kvs := by
  obtain ⟨sd, hsd, henv, hf, hadd⟩ := rtItem_hyps
  obtain ⟨h1, h2, h3, h4⟩ := fields_of_test hf
  obtain ⟨kvs, slots, d1, _, d3, ⟨kvs', d4, d5⟩, d6, d7⟩ :=
    example_roundtrip_partial rtE rtC rtApi.unions rtApiEnv rtItem sd rtEx hsd henv h1 h2 rtItem_nodup h3 h4 hadd
  exact ⟨kvs, _, kvs', d1, d3, struct_encode rtE rtApiEnv_wf.2.1 rtApiEnv_wf.2.2 rfl hsd henv d4 d6 d7, d5⟩

example : ∃ doc u, unionExampleDoc rtTint [("pale", .lit (.flt 4609434218613702656))] = some doc ∧
    jsonCompatObjDecode rtE rtApiEnv [] true (.union {} rtTint.cls) doc = .ok u ∧
    jsonCompatObjEncode rtE rtApiEnv [] false (.union {} rtTint.cls) u = .ok doc := by
  obtain ⟨ud, hud, henv⟩ := envOfC_union rtApiEnv_eq (by decide) (cu := rtTint) (by simp [rtApi])
  obtain ⟨kvs, payload, d1, _, d3, d4, d5, d6⟩ := example_union_roundtrip_partial rtE rtC [] rtApiEnv rtTint ud "pale"
    (.lit (.flt 4609434218613702656))
    { name := "pale", ty := .float "Float64" none none } hud henv
    (by decide) (by decide) rfl (Or.inr rfl) (by decide) (by decide) (by intro _ l h; cases h; rfl) rfl
  exact ⟨_, _, d1, d3, union_encode rtE rtApiEnv_wf.2.1 rtApiEnv_wf.2.2 hud henv d4 d5 d6⟩

/-! `struct Pt { x Int32 }`, `union Shape { dot Pt?; other* }` in the generated environment -/

def rtPt : CStruct := { cls := "ns.Pt", chain := [("ns.Pt", [{ name := "x", ty := .int "Int32" none none }])] }

def rtShape : CUnion :=
  { cls := "ns.Shape",
    chain := [("ns.Shape", [{ name := "dot", ty := .nullable (.struct "ns.Pt" false) }, { name := "other", ty := .void }])],
    catchAll := some "other" }

def rtNullApi : CApi := { structs := [rtPt], unions := [rtShape] }

def rtNullEnv : Env := (envOfC rtNullApi).getD { structs := [], unions := [] }

theorem rtNullEnv_wf : (envOfC rtNullApi).isSome = true ∧ envWF rtNullEnv = true ∧ envWFX rtNullEnv = true := by
  decide +kernel

theorem rtNullEnv_eq : envOfC rtNullApi = some rtNullEnv := by
  unfold rtNullEnv
  cases h : envOfC rtNullApi with
  | none => have := rtNullEnv_wf.1; simp [h] at this
  | some e => rfl

example : ∃ doc u, unionExample rtE rtC [] rtShape [("dot", .lit .null)] = .ok (some doc) ∧ doc = .obj [(".tag", .str "dot")] ∧
    jsonCompatObjDecode rtE rtNullEnv [] true (.union {} rtShape.cls) doc = .ok u ∧
    jsonCompatObjEncode rtE rtNullEnv [] false (.union {} rtShape.cls) u = .ok doc := by
  obtain ⟨ud, hud, henv⟩ := envOfC_union rtNullEnv_eq (by decide) (cu := rtShape) (by simp [rtNullApi])
  obtain ⟨d1, _, d3, d4, d5, d6⟩ := example_union_null_struct_roundtrip rtE rtC [] rtNullEnv rtShape ud "dot"
    { name := "dot", ty := .nullable (.struct "ns.Pt" false) } "ns.Pt" hud henv
    (by decide) (by decide) rfl rfl (by decide) (by decide)
  exact ⟨_, _, d1, rfl, d3, union_encode rtE rtNullEnv_wf.2.1 rtNullEnv_wf.2.2 hud henv d4 d5 d6⟩

end StoneVerif.IrCheck
