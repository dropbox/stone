import StoneVerif.Lemmas.FeCompileResolve
/-!
`compileCore fs = .ok api → denoteCore fs = some api`: what the model of the IR generator builds is what the
declarations denote.  A resolved reference is the denoted type, whatever aliases were set at that moment
(`resolve_ok_iff`), and so is an accepted member.  Pass 3 is taken apart once -- one population step for structs and
unions alike (`populateStep_ok_iff`), `populate` (`populate_induct`), the loops (`pass3Nss_induct`) -- and everything it
puts into its tables is the image of the declaration registered under that key (`Inv`), whatever the order of
population; passes 5 and 6 and the assembly of the Api follow (`compile_denote`).
-/
namespace StoneVerif.FeCompile.L

structure Inv (rx : String → Bool) (E : Env) (fs : List File) (st : St) : Prop where
  done : ∀ k c, (k, c) ∈ st.done → ∃ d, E.items.lookup k = some (.type d) ∧ denoteType rx fs k.1 d = some c
  aliases : ∀ k t, (k, t) ∈ st.aliases → ∃ r, E.items.lookup k = some (.alias r) ∧ denoteRef rx fs k.1 r = some t

theorem Inv.nrefs {rx E fs st} (h : Inv rx E fs st) (l : List Ty) : Inv rx E fs { st with nrefs := l } :=
  ⟨h.done, h.aliases⟩

theorem Inv.init {rx E fs} : Inv rx E fs {} := ⟨by simp, by simp⟩

/-- the tests `_create_struct_field` / `_create_union_field` made on a member, aliases not looked into -/
def MemberStat (rx : String → Bool) (fs : List File) (ns : String) (isStruct : Bool) (f : AField) : Prop :=
  if isStruct then
    ∃ r t, f.ty = some r ∧ refStatic rx fs ns r = true ∧ denoteRef rx fs ns r = some t ∧ t.isVoid = false ∧
      (t.isNullable && f.hasDefault) = false
  else
    (f.name == "other") = false ∧
      (f.ty = none ∨ ∃ r t, f.ty = some r ∧ refStatic rx fs ns r = true ∧ denoteRef rx fs ns r = some t ∧ t.isVoid = false)

theorem structField_ok_iff {rx E fs A ns f c} (hE : EnvOK2 E fs) : structField rx E A ns f = .ok c ↔
    MemberStat rx fs ns true f ∧ denoteField rx fs ns true f = some c ∧
      tyNullLegal (lookOf A) (aliasFuel E) c.ty = true := by
  unfold structField denoteField
  simp only [MemberStat, ↓reduceIte, Bool.true_and]
  cases f.ty with
  | none => simp
  | some r =>
    simp only [Option.some.injEq, Option.map_eq_some_iff]
    constructor
    · intro h
      split at h
      · cases h
      · rename_i t ht
        obtain ⟨hs, hd, hn⟩ := (resolve_ok_iff hE).mp ht
        split at h
        · cases h
        · rename_i hv
          split at h
          · cases h
          · rename_i hnd
            cases h
            exact ⟨⟨r, t, rfl, hs, hd, by simpa using hv, by simpa using hnd⟩, ⟨t, hd, rfl⟩, hn⟩
    · rintro ⟨⟨_, t, rfl, hs, hd, hv, hnd⟩, ⟨t', hd', rfl⟩, hn⟩
      rw [hd] at hd'
      cases hd'
      simp [(resolve_ok_iff hE).mpr ⟨hs, hd, hn⟩, hv, hnd]

theorem unionField_ok_iff {rx E fs A ns f c} (hE : EnvOK2 E fs) : unionField rx E A ns f = .ok c ↔
    MemberStat rx fs ns false f ∧ denoteField rx fs ns false f = some c ∧
      tyNullLegal (lookOf A) (aliasFuel E) c.ty = true := by
  unfold unionField denoteField
  simp only [MemberStat, Bool.false_eq_true, ↓reduceIte, Bool.false_and]
  cases hname : f.name == "other" with
  | true => simp
  | false =>
    simp only [Bool.false_eq_true, ↓reduceIte, true_and]
    cases f.ty with
    | none =>
      simp only [Except.ok.injEq, true_or, true_and, Option.some.injEq]
      constructor
      · rintro rfl
        exact ⟨rfl, by simp [tyNullLegal, tyVoid, nullRefs]⟩
      · exact fun h => h.1
    | some r =>
      simp only [reduceCtorEq, false_or, Option.some.injEq, Option.map_eq_some_iff]
      constructor
      · intro h
        split at h
        · cases h
        · rename_i t ht
          obtain ⟨hs, hd, hn⟩ := (resolve_ok_iff hE).mp ht
          split at h
          · cases h
          · rename_i hv
            cases h
            exact ⟨⟨r, t, rfl, hs, hd, by simpa using hv⟩, ⟨t, hd, rfl⟩, hn⟩
      · rintro ⟨⟨_, t, rfl, hs, hd, hv⟩, ⟨t', hd', rfl⟩, hn⟩
        rw [hd] at hd'
        cases hd'
        simp [(resolve_ok_iff hE).mpr ⟨hs, hd, hn⟩, hv]

theorem isOpen_of_kindOf {E fs} (hE : EnvOK2 E fs) {k c} (h : kindOf E k = some (.union c)) :
    isOpenUnion fs k = !c := by
  obtain ⟨d, hd, hk⟩ := kindOf_some h
  unfold isOpenUnion
  rw [hE.ok.findDef_type hd]
  simp only [hk]
  cases c <;> decide

/-- the resolved `extends` clause `populateStep` is handed, in the terms of the specification -/
def ParentSrc (rx : String → Bool) (fs : List File) (ns : String) (d : TypeDecl) : Option Ty → Prop
  | none => d.extends = none
  | some t' => ∃ r, d.extends = some r ∧ refStatic rx fs ns r = true ∧ denoteRef rx fs ns r = some t' ∧
      (r.head.nullable = true → ∃ t, t' = .nullable t)

theorem structParentOpt_ok_iff {E pty parent} : structParentOpt E pty = .ok parent ↔
    (pty = none ∧ parent = none) ∨ ∃ p, pty = some (.user p) ∧ kindOf E p = some .struct ∧ parent = some p := by
  cases pty with
  | none => simp [structParentOpt, eq_comm]
  | some t =>
    cases t with
    | user k =>
      by_cases hk : kindOf E k = some .struct <;> simp [structParentOpt, structParent, hk, eq_comm (a := parent)]
    | _ => simp [structParentOpt, structParent]

theorem unionParentOpt_ok_iff {E pty parent} : unionParentOpt E pty = .ok parent ↔
    (pty = none ∧ parent = none) ∨
      ∃ p pc, pty = some (.user p) ∧ kindOf E p = some (.union pc) ∧ parent = some (p, pc) := by
  cases pty with
  | none => simp [unionParentOpt, eq_comm]
  | some t =>
    cases t with
    | user k =>
      cases hk : kindOf E k with
      | none => simp [unionParentOpt, unionParent, hk]
      | some kd =>
        cases kd with
        | struct => simp [unionParentOpt, unionParent, hk]
        | union c =>
          simp only [unionParentOpt, unionParent, hk, Except.ok.injEq, reduceCtorEq, false_and, false_or]
          exact ⟨fun h => ⟨k, c, rfl, hk, h.symm⟩, fun ⟨_, _, h1, h2, h3⟩ => by cases h1; rw [hk] at h2; cases h2; exact h3.symm⟩
    | _ => simp [unionParentOpt, unionParent]

def compileMember (rx : String → Bool) (E : Env) (A : AliasMap) (ns : String) : TypeKind → AField → Except Err CField
  | .struct => structField rx E A ns
  | .union _ => unionField rx E A ns

/-- the four ways `populateStep` gets past the tests on the resolved parent, with the type it then builds -/
inductive StepType (E : Env) : Option Ty → List CField → TypeKind → CType → Prop
  | structRoot {fields} : StepType E none fields .struct { isStruct := true, parent := none, fields := fields }
  | structChild {fields p} : kindOf E p = some .struct →
      StepType E (some (.user p)) fields .struct { isStruct := true, parent := some p, fields := fields }
  | unionRoot {fields closed} : StepType E none fields (.union closed) (unionCType closed none fields)
  | unionChild {fields closed p pc} : kindOf E p = some (.union pc) → (closed && !pc) = false →
      StepType E (some (.user p)) fields (.union closed) (unionCType closed (some (p, pc)) fields)

theorem populateStep_ok_iff {rx E st1 key d pty st'} : populateStep rx E st1 key d pty = .ok st' ↔
    ∃ fields c, mapE (compileMember rx E st1.aliases key.1 d.kind) d.fields = .ok fields ∧ StepType E pty fields d.kind c ∧
      setAttributes (populateFuel E) { st1 with nrefs := st1.nrefs ++ fields.flatMap (fun f => nullRefs f.ty) } key c
        = .ok st' := by
  unfold populateStep
  simp only [mapFields_eq]
  cases d.kind with
  | struct =>
    simp only [compileMember]
    constructor
    · intro h
      split at h
      · cases h
      · rename_i parent hpar
        split at h
        · cases h
        · rename_i fields hfields
          rcases structParentOpt_ok_iff.mp hpar with ⟨rfl, rfl⟩ | ⟨p, rfl, hk, rfl⟩
          · exact ⟨fields, _, hfields, .structRoot, h⟩
          · exact ⟨fields, _, hfields, .structChild hk, h⟩
    · rintro ⟨fields, c, hf, hs, h⟩
      cases hs with
      | structRoot => simp only [structParentOpt, hf]; exact h
      | structChild hk => simp only [structParentOpt_ok_iff.mpr (.inr ⟨_, rfl, hk, rfl⟩), hf]; exact h
  | union closed =>
    simp only [compileMember]
    constructor
    · intro h
      split at h
      · cases h
      · rename_i parent hpar
        split at h
        · cases h
        · rename_i fields hfields
          split at h
          · cases h
          · rename_i hopen
            rcases unionParentOpt_ok_iff.mp hpar with ⟨rfl, rfl⟩ | ⟨p, pc, rfl, hk, rfl⟩
            · exact ⟨fields, _, hfields, .unionRoot, h⟩
            · exact ⟨fields, _, hfields, .unionChild hk (by simpa [parentIsOpen] using hopen), h⟩
    · rintro ⟨fields, c, hf, hs, h⟩
      cases hs with
      | unionRoot => simp only [unionParentOpt, hf, parentIsOpen, Bool.and_false, Bool.false_eq_true, ↓reduceIte]; exact h
      | unionChild hk hopen =>
        simp only [unionParentOpt_ok_iff.mpr (.inr ⟨_, _, rfl, hk, rfl⟩), hf, parentIsOpen, hopen, Bool.false_eq_true,
          ↓reduceIte]
        exact h

theorem StepType.parent_user {E pty fields kind c} (hs : StepType E pty fields kind c) {p} (hp : c.parent = some p) :
    pty = some (.user p) := by
  cases hs <;> simp_all [unionCType]

theorem populateStep_done {rx E st1 key d pty st'} (h : populateStep rx E st1 key d pty = .ok st') :
    ∃ c, st'.done = (key, c) :: st1.done ∧ st'.aliases = st1.aliases := by
  obtain ⟨_, c, _, _, h⟩ := populateStep_ok_iff.mp h
  rw [setAttributes_eq_ok h]
  exact ⟨c, rfl, rfl⟩

theorem compileMember_ok_iff {rx E fs A ns kind f c} (hE : EnvOK2 E fs) : compileMember rx E A ns kind f = .ok c ↔
    MemberStat rx fs ns (kind == .struct) f ∧ denoteField rx fs ns (kind == .struct) f = some c ∧
      tyNullLegal (lookOf A) (aliasFuel E) c.ty = true := by
  cases kind with
  | struct => exact structField_ok_iff hE
  | union closed =>
    have hkb : (TypeKind.union closed == TypeKind.struct) = false := by cases closed <;> rfl
    rw [hkb]
    exact unionField_ok_iff hE

theorem denoteType_fields {rx fs ns d c} (h : denoteType rx fs ns d = some c) :
    ∃ fields, optMapM (denoteField rx fs ns (d.kind == .struct)) d.fields = some fields ∧
      c.fields = fields ++ (if c.catchAll then [otherField] else []) ∧ (c.catchAll = true → d.kind = .union false) := by
  unfold denoteType at h
  split at h
  · rename_i parent fields _ hfs
    refine ⟨fields, hfs, ?_⟩
    split at h
    · cases h
      exact ⟨(List.append_nil _).symm, nofun⟩
    · rename_i closed hk
      cases h
      refine ⟨?_, ?_⟩
      · simp only
        split
        · rfl
        · exact (List.append_nil _).symm
      · simp only [Bool.and_eq_true, Bool.not_eq_eq_eq_not, Bool.not_true]
        rintro ⟨hc, _⟩
        rw [hk, hc]
  · cases h

theorem denoteType_field {rx fs ns d c f} (h : denoteType rx fs ns d = some c) (hf : f ∈ d.fields) :
    ∃ cf, cf ∈ c.fields ∧ denoteField rx fs ns (d.kind == .struct) f = some cf := by
  obtain ⟨fields, hfs, heq, _⟩ := denoteType_fields h
  obtain ⟨cf, hcf, hd⟩ := optMapM_of_mem hfs f hf
  exact ⟨cf, heq ▸ List.mem_append_left _ hcf, hd⟩

theorem denoteType_fields_eq {rx fs ns d c fields} (h : denoteType rx fs ns d = some c)
    (ho : optMapM (denoteField rx fs ns (d.kind == .struct)) d.fields = some fields) :
    c.fields = fields ++ (if c.catchAll then [otherField] else []) := by
  obtain ⟨fields', hfs, heq, _⟩ := denoteType_fields h
  cases hfs.symm.trans ho
  exact heq

theorem denoteType_parent {rx fs ns d c} (h : denoteType rx fs ns d = some c) : denoteParent rx fs ns d = some c.parent := by
  unfold denoteType at h
  split at h
  · rename_i parent fields hp _
    split at h <;> (cases h; exact hp)
  · cases h

theorem StepType.denote {rx E fs ns d pty fields c} (hE : EnvOK2 E fs) (hp : ParentSrc rx fs ns d pty)
    (hs : StepType E pty fields d.kind c)
    (hf : optMapM (denoteField rx fs ns (d.kind == .struct)) d.fields = some fields) :
    denoteType rx fs ns d = some c := by
  unfold denoteType denoteParent
  generalize hk : d.kind = kind at hs hf
  have hkb : ∀ closed, (TypeKind.union closed == TypeKind.struct) = false := fun closed => by cases closed <;> rfl
  cases hs
  all_goals simp only [beq_self_eq_true, hkb] at hf
  case structRoot => simp [show d.extends = none from hp, hf]
  case structChild => obtain ⟨r, hr, _, hd, _⟩ := hp; simp [hr, hd, hf]
  case unionRoot => simp [show d.extends = none from hp, hf, hkb, unionCType, inheritsOther, parentIsOpen]
  case unionChild hkd _ =>
    obtain ⟨r, hr, _, hd, _⟩ := hp
    simp [hr, hd, hf, hkb, unionCType, inheritsOther, parentIsOpen, isOpen_of_kindOf hE hkd]

theorem populateStep_inv {rx E fs st1 key d pty st'} (hE : EnvOK2 E fs) (hI : Inv rx E fs st1)
    (hk : E.items.lookup key = some (.type d)) (hp : ParentSrc rx fs key.1 d pty)
    (h : populateStep rx E st1 key d pty = .ok st') : Inv rx E fs st' := by
  obtain ⟨fields, c, hfields, hs, h⟩ := populateStep_ok_iff.mp h
  rw [setAttributes_eq_ok h]
  refine ⟨?_, hI.aliases⟩
  intro k c' hm
  rcases List.mem_cons.mp hm with hm | hm
  · cases hm
    exact ⟨d, hk, hs.denote hE hp (mapE_optMapM (fun f _ c h => ((compileMember_ok_iff hE).mp h).2.1) hfields)⟩
  · exact hI.done k c' hm

theorem populate_done {rx E} : ∀ (fuel : Nat) {prog st key d st'}, populate rx E fuel prog st key d = .ok st' →
    (st'.done.lookup key).isSome := by
  intro fuel prog st key d st'
  fun_cases populate rx E fuel prog st key d <;> intro h <;> try cases h
  all_goals (obtain ⟨c, hd, _⟩ := populateStep_done h; rw [hd, List.lookup_cons_self]; rfl)

/-- `ParentSrc` in the terms of the model.  `A` is any alias table: `populate` resolves the clause against the aliases
set BEFORE it populates the parent and wraps the `?` against those set after (`st1`). -/
def ParentSlot (rx : String → Bool) (E : Env) (st1 : St) (key : Key) (d : TypeDecl) : Option Ty → Prop
  | none => d.extends = none
  | some t' => ∃ r t A, d.extends = some r ∧ resolveW rx E A false key.1 r = .ok t ∧
      wrapNull (aliasFuel E) (lookOf st1.aliases) r.head.nullable t = .ok t' ∧
      ∀ k, t = .user k → (st1.done.lookup k).isSome

theorem ParentSlot.user_done {rx E st1 key d p} (h : ParentSlot rx E st1 key d (some (.user p))) :
    (st1.done.lookup p).isSome := by
  obtain ⟨_, t, _, _, _, ht', hdone⟩ := h
  exact hdone p (wrapNull_user ht')

theorem StepType.parent_done {rx E st1 key d pty fields kind c} (hs : StepType E pty fields kind c)
    (hp : ParentSlot rx E st1 key d pty) {p} (hcp : c.parent = some p) : (st1.done.lookup p).isSome := by
  cases hs.parent_user hcp
  exact hp.user_done

/-- every parent an entry names has its own entry (`K.closed`; `J.closed` is this unfolded) -/
def ParentsIn (done : List (Key × CType)) : Prop :=
  ∀ k c, done.lookup k = some c → ∀ p, c.parent = some p → (done.lookup p).isSome

theorem populateStep_closed {rx E st1 key d pty st'} (hc : ParentsIn st1.done) (hp : ParentSlot rx E st1 key d pty)
    (h : populateStep rx E st1 key d pty = .ok st') : ParentsIn st'.done := by
  obtain ⟨fields, c, _, hs, h⟩ := populateStep_ok_iff.mp h
  obtain rfl := setAttributes_eq_ok h
  intro k' c' hl' p hcp
  by_cases hkk : k' = key
  · subst hkk
    rw [List.lookup_cons_self] at hl'
    cases hl'
    exact lookup_isSome_cons (hs.parent_done hp hcp)
  · rw [lookup_cons_ne hkk] at hl'
    exact lookup_isSome_cons (hc k' c' hl' p hcp)

/-- what every `populateStep` keeps, and recording the `?` of a resolved parent does not disturb, every `populate` keeps -/
theorem populate_induct {rx E} {P : St → Prop}
    (grow : ∀ {st key d t'}, P st → E.items.lookup key = some (.type d) → ParentSlot rx E st key d (some t') →
      P { st with nrefs := st.nrefs ++ nullRefs t' })
    (step : ∀ {st1 key d pty st'}, P st1 → E.items.lookup key = some (.type d) → ParentSlot rx E st1 key d pty →
      populateStep rx E st1 key d pty = .ok st' → P st') :
    ∀ (fuel : Nat) {prog st key d st'}, P st → E.items.lookup key = some (.type d) →
      populate rx E fuel prog st key d = .ok st' → P st' := by
  intro fuel prog st key d st' hP hk h
  fun_induction populate rx E fuel prog st key d generalizing st' <;> try cases h
  · rename_i hext
    exact step hP hk (show ParentSlot rx E _ _ _ none from hext) h
  · -- the parent is in the table (or is no user type, which `populateStep` refuses), or it is populated first;
    -- `st0` is the model's `let st1`, `hst1 : st0 = .ok st1`, `t` the resolved clause, `t'` with its `?` put on
    rename_i fuel prog st key d r hext t ht st0 st1 hst1 t' ht' ih
    have h1 : P st1 ∧ ∀ k, t = .user k → (st1.done.lookup k).isSome := by
      simp only [st0] at hst1
      split at hst1
      · rename_i k
        split at hst1
        · rename_i hdone
          cases hst1
          exact ⟨hP, fun k' hk' => by cases hk'; exact hdone⟩
        · split at hst1 <;> try cases hst1
          split at hst1 <;> try cases hst1
          rename_i d' hd'
          exact ⟨ih k d' hP hd' hst1, fun k' hk' => by cases hk'; exact populate_done _ hst1⟩
      · rename_i hnu
        cases hst1
        exact ⟨hP, fun k hk => absurd hk (hnu k)⟩
    have slot : ParentSlot rx E st1 key d (some t') := ⟨r, t, _, hext, ht, ht', h1.2⟩
    exact step (grow h1.1 hk slot) hk (show ParentSlot rx E _ key d (some t') from slot) h

theorem pass3_eq_ok {rx E st} (h : pass3 rx E = .ok st) :
    pass3Nss rx E {} E.nss = .ok st ∧ recheckNullable (aliasFuel E) (lookOf st.aliases) st.nrefs = .ok () := by
  unfold pass3 at h
  split at h
  · cases h
  · rename_i st0 h0
    split at h
    · cases h
    · rename_i hre
      cases h
      exact ⟨h0, hre⟩

section Loops
variable {rx : String → Bool} {E : Env} {P : St → Prop}
  (alias : ∀ {st ns n r st'}, P st → (n, r) ∈ aliasDecls (declsOf E.files ns) → setAlias rx E st ns n r = .ok st' → P st')
  (type : ∀ {st ns d st'}, P st → d ∈ typeDecls (declsOf E.files ns) → st.done.lookup (ns, d.name) = none →
    populate rx E (populateFuel E) [(ns, d.name)] st (ns, d.name) d = .ok st' → P st')

include alias type in
theorem pass3Nss_induct {nss : List String} {st st'} (hP : P st) (h : pass3Nss rx E st nss = .ok st') : P st' := by
  rw [pass3Nss_eq] at h
  refine foldE_induct (P := fun _ s => P s) (fun _ ns s s' _ hP hs => ?_) hP h
  obtain ⟨s1, h1, h2⟩ := pass3Ns_ok_iff.mp hs
  have hP1 : P s1 := foldE_induct (P := fun _ s => P s) (fun _ p s s' hp hP hs => alias hP hp hs) hP h1
  refine foldE_induct (P := fun _ s => P s) (fun _ d s s' hd hP hs => ?_) hP1 h2
  unfold populateOne at hs
  split at hs
  · cases hs; exact hP
  · rename_i hnd
    exact type hP hd (by cases hl : s.done.lookup (ns, d.name) <;> simp [hl] at hnd ⊢) hs

end Loops

theorem ParentSlot.src {rx E fs st1 key d pty} (hE : EnvOK2 E fs) (h : ParentSlot rx E st1 key d pty) :
    ParentSrc rx fs key.1 d pty := by
  cases pty with
  | none => exact h
  | some t' =>
    obtain ⟨r, t, A, hext, ht, ht', _⟩ := h
    obtain ⟨hstat, t0, hd, ht0, _⟩ := (resolveW_ok_iff hE r).mp ht
    simp only [Bool.false_eq_true, ↓reduceIte] at ht0
    subst ht0
    have hw := wrapNull_eq_ok ht'
    refine ⟨r, hext, hstat, ?_, ?_⟩
    · rw [hd, hw]; simp [nullableMeaning]
    · intro hb; rw [hw, hb]; exact ⟨t, rfl⟩

theorem populate_inv {rx E fs} (hE : EnvOK2 E fs) (fuel : Nat) {prog st key d st'} (hI : Inv rx E fs st)
    (hk : E.items.lookup key = some (.type d)) (h : populate rx E fuel prog st key d = .ok st') : Inv rx E fs st' :=
  populate_induct (fun hI _ _ => hI.nrefs _) (fun hI hk hp h => populateStep_inv hE hI hk (hp.src hE) h) fuel hI hk h

theorem setAlias_eq_ok {rx E st ns name r st'} (h : setAlias rx E st ns name r = .ok st') :
    ∃ t, resolve rx E st.aliases ns r = .ok t ∧
      anyTri (search (aliasSucc (lookOf st.aliases)) (ns, name) (aliasFuel E)) t.aliases = .no ∧
      st' = { st with aliases := ((ns, name), t) :: st.aliases, nrefs := st.nrefs ++ nullRefs t } := by
  revert h
  fun_cases setAlias rx E st ns name r <;> intro h <;> cases h
  rename_i t ht hno
  exact ⟨t, ht, hno, rfl⟩

theorem setAlias_inv {rx E fs st ns name r st'} (hE : EnvOK2 E fs) (hI : Inv rx E fs st)
    (hk : E.items.lookup (ns, name) = some (.alias r)) (h : setAlias rx E st ns name r = .ok st') : Inv rx E fs st' := by
  obtain ⟨t, ht, _, rfl⟩ := setAlias_eq_ok h
  refine ⟨hI.done, ?_⟩
  intro k t' hm
  rcases List.mem_cons.mp hm with hm | hm
  · cases hm
    exact ⟨r, hk, resolve_denote hE ht⟩
  · exact hI.aliases k t' hm

theorem pass3Nss_inv {rx E fs} (hE : EnvOK2 E fs) {nss : List String} {st st'} (hI : Inv rx E fs st)
    (h : pass3Nss rx E st nss = .ok st') : Inv rx E fs st' := by
  refine pass3Nss_induct (P := Inv rx E fs) ?_ ?_ hI h
  · intro st ns n r st' hI hm h
    rw [hE.ok.files] at hm
    exact setAlias_inv hE hI (hE.ok.lookup_alias hm) h
  · intro st ns d st' hI hm _ h
    rw [hE.ok.files] at hm
    exact populate_inv hE _ hI (hE.ok.lookup_type hm) h

theorem pass3_inv {rx E fs st} (hE : EnvOK2 E fs) (h : pass3 rx E = .ok st) : Inv rx E fs st :=
  pass3Nss_inv hE Inv.init (pass3_eq_ok h).1

theorem typeOut_denote {rx E fs st ns d y} (hI : Inv rx E fs st) (hl : E.items.lookup (ns, d.name) = some (.type d))
    (h : typeOut st ns d = .ok y) : (denoteType rx fs ns d).map (fun c => (d.name, c)) = some y := by
  obtain ⟨c, hc, rfl⟩ := typeOut_ok_iff.mp h
  obtain ⟨d', hd', hden⟩ := hI.done _ _ (mem_of_lookup hc)
  rw [hl] at hd'
  cases hd'
  simp only at hden
  simp [hden]

theorem aliasOut_denote {rx E fs st ns} {p : String × TRef} {y} (hI : Inv rx E fs st)
    (hl : E.items.lookup (ns, p.1) = some (.alias p.2)) (h : aliasOut st ns p = .ok y) :
    (denoteRef rx fs ns p.2).map (fun t => (p.1, t)) = some y := by
  obtain ⟨t, ht, rfl⟩ := aliasOut_ok_iff.mp h
  obtain ⟨r', hr', hden⟩ := hI.aliases _ _ (mem_of_lookup ht)
  rw [hl] at hr'
  cases hr'
  simp only at hden
  simp [hden]

theorem compileRoute_denote {rx E fs A ns r c} (hE : EnvOK2 E fs) (h : compileRoute rx E A ns r = .ok c) :
    denoteRoute rx fs ns r = some c := by
  obtain ⟨ta, tr, re, te, hta, htr, hre, hte, _, rfl⟩ := compileRoute_ok_iff.mp h
  unfold denoteRoute
  simp [resolve_denote hE hta, resolve_denote hE htr, hre, resolve_denote hE hte]

theorem subtypeFields_denote {rx E fs st ns} (hE : EnvOK2 E fs) {subs : List (String × TRef)} {fields}
    (h : subtypeFields rx E st ns subs = .ok fields) : optMapM (subDen rx fs ns) subs = some fields := by
  rw [subtypeFields_eq] at h
  refine mapE_optMapM (fun p _ y hy => ?_) h
  obtain ⟨_, k, hr, _, rfl⟩ := subtypeField_ok_iff.mp hy
  simp [subDen, resolve_denote hE hr]

/-- every entry of the enumerated-subtypes table is the image of the block of the declaration under its key -/
def EnInv (rx : String → Bool) (E : Env) (fs : List File) (en : EnumMap) : Prop :=
  ∀ k v, (k, v) ∈ en → ∃ d subs, E.items.lookup k = some (.type d) ∧
    enumOf d = some (subs, v.2) ∧ optMapM (subDen rx fs k.1) subs = some v.1

/-- `d` has an enumerated-subtypes block, empty or not (`hasEnum` / `hasEnumS` ask for a non-empty one) -/
def hasSub (d : TypeDecl) : Bool := (enumOf d).isSome

def Keeps (en en' : EnumMap) : Prop := ∀ k, (en.lookup k).isSome → (en'.lookup k).isSome

theorem enumStep_inv {rx E fs st ns d en en'} (hE : EnvOK2 E fs) (hd : d ∈ typeDecls (declsOf fs ns))
    (hEn : EnInv rx E fs en) (h : enumStep rx E st ns en d = .ok en') :
    EnInv rx E fs en' ∧ Keeps en en' ∧ (hasSub d = true → (en'.lookup (ns, d.name)).isSome) := by
  rcases enumStep_ok_iff.mp h with ⟨he, rfl⟩ | ⟨subs, ca, c, fields, he, _, hf, _, rfl⟩
  · exact ⟨hEn, fun _ hk => hk, fun hs => by simp [hasSub, he] at hs⟩
  · refine ⟨fun k v hm => ?_, fun _ hk => lookup_isSome_cons hk, fun _ => by simp⟩
    rcases List.mem_cons.mp hm with hm | hm
    · cases hm; exact ⟨d, subs, hE.ok.lookup_type hd, he, subtypeFields_denote hE hf⟩
    · exact hEn k v hm

theorem nsEnums_inv {rx E fs st ns en en1} (hE : EnvOK2 E fs) (hEn : EnInv rx E fs en)
    (h : nsEnums rx E st en ns = .ok en1) : EnInv rx E fs en1 ∧ Keeps en en1 ∧
      ∀ d, d ∈ typeDecls (declsOf fs ns) → hasSub d = true → (en1.lookup (ns, d.name)).isSome := by
  rw [nsEnums_ok_iff, hE.ok.files, enumFirst_eq] at h
  exact foldE_progress (fun _ _ hk => hk) (fun h1 h2 k hk => h2 k (h1 k hk)) (fun hR hQ hs => hR _ (hQ hs))
    (fun d s s' hd hI hs => enumStep_inv hE hd hI hs) hEn h.1

theorem pass5Nss_inv {rx E fs st} (hE : EnvOK2 E fs) {nss : List String} {en en'}
    (hEn : EnInv rx E fs en) (h : pass5Nss rx E st en nss = .ok en') : EnInv rx E fs en' ∧
      ∀ ns, ns ∈ nss → ∀ d, d ∈ typeDecls (declsOf fs ns) → hasSub d = true → (en'.lookup (ns, d.name)).isSome := by
  rw [pass5Nss_eq] at h
  obtain ⟨hEn', _, hQ⟩ := foldE_progress (R := Keeps) (fun _ _ hk => hk) (fun h1 h2 k hk => h2 k (h1 k hk))
    (Q := fun ns s => ∀ d, d ∈ typeDecls (declsOf fs ns) → hasSub d = true → (s.lookup (ns, d.name)).isSome)
    (fun hR hQ d hd hs => hR _ (hQ d hd hs)) (fun ns s s' _ hI hs => nsEnums_inv hE hI hs) hEn h
  exact ⟨hEn', hQ⟩

theorem enumsOut_denote {rx E fs en ns} (hI : EnInv rx E fs en) : ∀ {tds : List TypeDecl},
    (∀ d, d ∈ tds → E.items.lookup (ns, d.name) = some (.type d)) →
    (∀ d, d ∈ tds → hasSub d = true → (en.lookup (ns, d.name)).isSome) →
    (optMapM (denoteEnum rx fs ns) tds).map (fun l => l.filterMap id) = some (enumsOut en ns tds)
  | [], _, _ => rfl
  | d :: tds, hl, hc => by
    have ih := enumsOut_denote hI (tds := tds) (fun d' hm => hl d' (List.mem_cons_of_mem _ hm))
      (fun d' hm => hc d' (List.mem_cons_of_mem _ hm))
    cases hrest : optMapM (denoteEnum rx fs ns) tds with
    | none => rw [hrest] at ih; cases ih
    | some rest =>
      rw [hrest] at ih
      simp only [Option.map_some, Option.some.injEq] at ih
      simp only [enumsOut, optMapM, hrest]
      cases hlk : en.lookup (ns, d.name) with
      | some v =>
        obtain ⟨d', subs, hd', hsub, hden⟩ := hI _ _ (mem_of_lookup hlk)
        rw [hl d List.mem_cons_self] at hd'
        cases hd'
        simp only at hden
        simp [denoteEnum, hsub, hden, ih]
      | none =>
        have hns : enumOf d = none := by
          cases hh : enumOf d with
          | none => rfl
          | some p =>
            have := hc d List.mem_cons_self (by simp [hasSub, hh])
            rw [hlk] at this
            cases this
        simp [denoteEnum, hns, ih]

theorem pass6Nss_spec {rx E A} {nss : List String} {L} (h : pass6Nss rx E A nss = .ok L) :
    L.map (·.1) = nss ∧ ∀ ns rs, (ns, rs) ∈ L → compileRoutes rx E A ns (routeDecls (declsOf E.files ns)) = .ok rs := by
  rw [pass6Nss_eq] at h
  constructor
  · have := mapE_map (f := (·.1)) (f' := id) (fun ns y hy => by
      obtain ⟨rs, _, rfl⟩ := routesOut_ok_iff.mp hy; rfl) h
    simpa using this
  · intro ns rs hm
    obtain ⟨ns', _, hy⟩ := mapE_mem h _ hm
    obtain ⟨rs', hrs, he⟩ := routesOut_ok_iff.mp hy
    cases he
    exact hrs

theorem nsOut_denote {rx E fs st en} {p : String × List CRoute} {o} (hE : EnvOK2 E fs) (hI : Inv rx E fs st)
    (hEn : EnInv rx E fs en) (hr : compileRoutes rx E st.aliases p.1 (routeDecls (declsOf fs p.1)) = .ok p.2)
    (hc : ∀ d, d ∈ typeDecls (declsOf fs p.1) → hasSub d = true → (en.lookup (p.1, d.name)).isSome)
    (h : nsOut E st en p = .ok o) : denoteNs rx fs p.1 = some o := by
  obtain ⟨types, aliases, htypes, haliases, rfl⟩ := nsOut_ok_iff.mp h
  rw [hE.ok.files] at htypes haliases ⊢
  rw [typesOut_eq] at htypes
  rw [aliasesOut_eq] at haliases
  have h1 := mapE_optMapM (fun d hd y hy => typeOut_denote hI (hE.ok.lookup_type hd) hy) htypes
  have h2 := mapE_optMapM (h := fun (p : String × TRef) => (denoteRef rx fs _ p.2).map fun t => (p.1, t))
    (fun q hq y hy => aliasOut_denote hI (hE.ok.lookup_alias hq) hy) haliases
  rw [compileRoutes_eq] at hr
  have h3 := mapE_optMapM (fun r _ c hc => compileRoute_denote hE hc) hr
  have h4 := enumsOut_denote hEn (ns := p.1) (tds := typeDecls (declsOf fs p.1)) (fun d hm => hE.ok.lookup_type hm) hc
  cases h4' : optMapM (denoteEnum rx fs p.1) (typeDecls (declsOf fs p.1)) with
  | none => rw [h4'] at h4; cases h4
  | some enums =>
    rw [h4'] at h4
    simp only [Option.map_some, Option.some.injEq] at h4
    simp [denoteNs, specDecls, h1, h2, h3, h4', h4]

theorem assemble_denote {rx E fs st en} (hE : EnvOK2 E fs) (hI : Inv rx E fs st) (hEn : EnInv rx E fs en)
    {L : List (String × List CRoute)} {outs}
    (hr : ∀ ns rs, (ns, rs) ∈ L → compileRoutes rx E st.aliases ns (routeDecls (declsOf fs ns)) = .ok rs)
    (hc : ∀ ns, ns ∈ L.map (·.1) → ∀ d, d ∈ typeDecls (declsOf fs ns) → hasSub d = true → (en.lookup (ns, d.name)).isSome)
    (h : assemble E st en L = .ok outs) : optMapM (denoteNs rx fs) (L.map (·.1)) = some outs := by
  rw [assemble_eq] at h
  rw [optMapM_map]
  exact mapE_optMapM (fun p hp o ho => nsOut_denote hE hI hEn (hr p.1 p.2 hp) (hc p.1 (List.mem_map_of_mem hp)) ho) h

theorem compileCore_eq_ok {rx fs api} (h : compileCore rx fs = .ok api) :
    ∃ E st en routes, buildEnv fs = .ok E ∧ pass3 rx E = .ok st ∧ pass4Types E st (nsTypeDecls E) = .ok () ∧
      pass5Nss rx E st [] E.nss = .ok en ∧ pass6Nss rx E st.aliases E.nss = .ok routes ∧
      assemble E st en routes = .ok api.nss := by
  revert h
  fun_cases compileCore rx fs <;> intro h <;> try cases h
  rename_i E hE
  revert h
  fun_cases compileEnv rx E <;> intro h <;> cases h
  rename_i st hst h4 en hen routes hroutes nss hnss
  exact ⟨E, st, en, routes, hE, hst, h4, hen, hroutes, hnss⟩

theorem compile_denote {rx fs api} (h : compileCore rx fs = .ok api) : denoteCore rx fs = some api := by
  obtain ⟨E, st, en, routes, hEb, hst, _, hen, hroutes, hnss⟩ := compileCore_eq_ok h
  have hE := buildEnv_envOK2 hEb
  have hI := pass3_inv hE hst
  obtain ⟨hEn, hcomp⟩ := pass5Nss_inv hE (en := []) (by intro k v hm; simp at hm) hen
  obtain ⟨hmap, hrs⟩ := pass6Nss_spec hroutes
  rw [hE.ok.files] at hrs
  have := assemble_denote hE hI hEn hrs (by rw [hmap]; exact hcomp) hnss
  unfold denoteCore
  rw [← hE.ok.nss, ← hmap, this]
  rfl

end StoneVerif.FeCompile.L
