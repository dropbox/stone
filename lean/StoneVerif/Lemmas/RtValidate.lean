import StoneVerif.Lemmas.RtValidView
/-!
The validators of the generated runtime (`validate`, `validate_type_only`, `Attribute.__set__`, `Union.__init__`)
against the shallow acceptance predicate `satB` and the normalisation `normOf`, each as one statement `Good acc r n`
built up along the validator's code (a three-way disjunction where `AttributeError` can escape). At the end, outside
`V8`: what an accepted value was, at each container and user type (`validate_list_ok`, …); a valid value (`validB`) is
accepted, and a value in stored form (`normalB`) is its own normalisation.
-/
namespace StoneVerif.Rt.V8
open StoneVerif.Rt

section equations
variable (E : Ext) (env : Env)

theorem satB_prim (t : PTy) (v : PyVal) (h : isPrimTy t = true) :
    satB E env t v = if t.flags.nullable && isNoneV v then true else validPrim E t v := by
  unfold satB
  cases t with
  | bool | int | float | str | bytes | ts | void => rfl
  | _ => cases h

theorem satB_list (fl : Flags) (item : PTy) (a b : Option Nat) (v : PyVal) :
    satB E env (.list fl item a b) v = if fl.nullable && isNoneV v then true else
      match v with
      | .list xs | .tuple xs => leOpt a xs.length && geOpt b xs.length && satList E env item xs
      | _ => false := by
  unfold satB; rfl

theorem satB_map (fl : Flags) (kt vt : PTy) (v : PyVal) :
    satB E env (.map fl kt vt) v = if fl.nullable && isNoneV v then true else
      match v with
      | .dict kvs => satDict E env kt vt kvs
      | _ => false := by
  unfold satB; rfl

theorem satB_struct (fl : Flags) (c : String) (v : PyVal) :
    satB E env (.struct fl c) v = if fl.nullable && isNoneV v then true
      else structTypeOk env c v && structFieldsOk env c none v := by
  unfold satB; cases v <;> rfl  -- `structSat` unfolds to the validator's two tests

theorem satB_tree (fl : Flags) (c : String) (v : PyVal) : satB E env (.tree fl c) v = satB E env (.struct fl c) v := by
  unfold satB; rfl

theorem satB_union (fl : Flags) (c : String) (v : PyVal) :
    satB E env (.union fl c) v = if fl.nullable && isNoneV v then true else unionTypeOk env c v := by
  unfold satB; cases v <;> rfl

theorem satB_nullable_none (t : PTy) (h : t.flags.nullable = true) : satB E env t .none = true := by
  unfold satB; simp [h, isNoneV]

theorem normOf_none (t : PTy) : normOf E t .none = .none := by
  cases t <;> rfl

theorem normOf_of_nullable {c : Bool} {v : PyVal} (t : PTy) (h : (c && isNoneV v) = true) : normOf E t v = .none := by
  rw [eq_none_of_nullable h, normOf_none]

theorem normOf_user (t : PTy) (v : PyVal) (h : isUserTyC08 t = true) : normOf E t v = v := by
  cases t with
  | struct | tree | union => cases v <;> rfl
  | _ => cases h

end equations

def IsVerr {α} : R α → Prop
  | .error (.verr _) => True
  | _ => False

/-- `r` is `.ok n` when the specification accepts (`acc`), the validation error when it does not; never a crash.
The rules follow the shapes of validator code: a test that refuses, a short-cut that accepts, sequencing. -/
def Good {α} (acc : Bool) (r : R α) (n : α) : Prop :=
  (acc = true ∧ r = .ok n) ∨ (acc = false ∧ IsVerr r)

theorem IsVerr.exists {α} {r : R α} (h : IsVerr r) : ∃ s, r = .error (.verr s) := by
  cases r with
  | ok _ => exact h.elim
  | error e =>
    cases e with
    | verr s => exact ⟨s, rfl⟩
    | crash _ => exact h.elim

namespace Good
variable {α β : Type} {n : α} {acc : Bool} {r : R α}

theorem ok : Good true (.ok n) n := Or.inl ⟨rfl, rfl⟩

theorem verr (m : String) : Good false (Rt.verr m) n := Or.inr ⟨rfl, trivial⟩

theorem ite {p : Prop} [Decidable p] {m : String} (h : acc = decide p) :
    Good acc (if p then .ok n else Rt.verr m) n := by
  subst h
  by_cases hp : p
  · rw [if_pos hp, decide_eq_true hp]; exact ok
  · rw [if_neg hp, decide_eq_false hp]; exact verr m

theorem ne_crash (h : Good acc r n) (e : String) : r ≠ .error (.crash e) := by
  rcases h with ⟨_, rfl⟩ | ⟨_, h⟩
  · exact fun h => nomatch h
  · obtain ⟨m, rfl⟩ := h.exists
    exact fun h => nomatch h

theorem ok_iff (h : Good acc r n) : (∃ a, r = .ok a) ↔ acc = true := by
  rcases h with ⟨rfl, rfl⟩ | ⟨rfl, h⟩
  · exact ⟨fun _ => rfl, fun _ => ⟨n, rfl⟩⟩
  · obtain ⟨m, rfl⟩ := h.exists
    exact ⟨fun ⟨_, h⟩ => (nomatch h), fun h => nomatch h⟩

theorem eq_of_ok {a : α} (h : Good acc r n) (hr : r = .ok a) : a = n := by
  rcases h with ⟨_, rfl⟩ | ⟨_, h⟩
  · cases hr; rfl
  · rw [hr] at h; cases h

theorem ok_eq {a : α} (h : Good acc r n) (hr : r = .ok a) : acc = true ∧ a = n :=
  ⟨h.ok_iff.1 ⟨a, hr⟩, h.eq_of_ok hr⟩

theorem of_acc (h : Good acc r n) (ha : acc = true) : r = .ok n := by
  rcases h with ⟨_, h⟩ | ⟨h, _⟩
  · exact h
  · rw [ha] at h; cases h

theorem and {a : Bool} {m : String} (h : Good acc r n) : Good (a && acc) (if !a then Rt.verr m else r) n := by
  cases a
  · exact verr m
  · exact h

theorem last {a : Bool} {m : String} : Good a (if !a then Rt.verr m else .ok n) n := by
  cases a <;> first | exact ok | exact verr m

theorem checks (a b : Bool) {m₁ m₂ : String} :
    Good (!a && !b) (if a then Rt.verr m₁ else if b then Rt.verr m₂ else .ok n) n := by
  cases a <;> cases b <;> first | exact ok | exact verr _

theorem nullable {c : Bool} {r : R PyVal} {n : PyVal} (hc : c = true → n = .none) (h : Good acc r n) :
    Good (if c then true else acc) (if c then .ok .none else r) n := by
  cases c
  · exact h
  · rw [hc rfl]; exact ok

theorem either {c : Bool} (h : Good acc r n) : Good (c || acc) (if c then .ok n else r) n := by
  cases c
  · exact h
  · exact ok

theorem map (f : α → β) (h : Good acc r n) : Good acc (Except.map f r) (f n) := by
  rcases h with ⟨h1, rfl⟩ | ⟨h1, h2⟩
  · exact Or.inl ⟨h1, rfl⟩
  · obtain ⟨m, rfl⟩ := h2.exists
    exact Or.inr ⟨h1, trivial⟩

theorem bind {b : Bool} {k : α → R β} {n' : β} (h : Good acc r n) (hk : Good b (k n) n') :
    Good (acc && b) (r >>= k) n' := by
  rcases h with ⟨rfl, rfl⟩ | ⟨rfl, h2⟩
  · exact hk
  · obtain ⟨m, rfl⟩ := h2.exists
    exact Or.inr ⟨rfl, trivial⟩

theorem seq {γ : Type} {b : Bool} {r' : R β} {n' : β} (f : α → β → γ) (h : Good acc r n) (h' : Good b r' n') :
    Good (acc && b) (do let x ← r; let y ← r'; pure (f x y)) (f n n') := by
  rcases h with ⟨rfl, rfl⟩ | ⟨rfl, h2⟩
  · rcases h' with ⟨rfl, rfl⟩ | ⟨rfl, h2⟩
    · exact ok
    · obtain ⟨m, rfl⟩ := h2.exists
      exact Or.inr ⟨rfl, trivial⟩
  · obtain ⟨m, rfl⟩ := h2.exists
    exact Or.inr ⟨rfl, trivial⟩

theorem refuseIf {c : Bool} {m : String} (h : acc = !c) : Good acc (if c then Rt.verr m else .ok n) n := by
  subst h; cases c <;> first | exact ok | exact verr m

end Good

section spec
variable (E : Ext) (env : Env)

theorem good_inRange (lo hi : Option FBits) (x : FBits) :
    Good (inRange E lo hi x)
      (if E.fltIsNan x || E.fltIsInf x then verr "nan/inf not supported"
        else if (match lo with | some l => E.fltLt x l | none => false) then verr "not greater than minimum"
        else if (match hi with | some h => E.fltLt h x | none => false) then verr "not less than maximum"
        else .ok (PyVal.flt x)) (PyVal.flt x) := by
  unfold inRange
  cases E.fltIsNan x <;> cases E.fltIsInf x <;> try exact .verr _
  cases lo with
  | none => cases hi with
    | none => exact .checks false false
    | some h => exact .checks false (E.fltLt h x)
  | some l => cases hi with
    | none => exact .checks (E.fltLt x l) false
    | some h => exact .checks (E.fltLt x l) (E.fltLt h x)

theorem validate_prim_good (t : PTy) (v : PyVal) (hp : isPrimTy t = true)
    (hn : (t.flags.nullable && isNoneV v) = false) :
    Good (validPrim E t v) (validate E env t v) (normOf E t v) := by
  cases t <;> simp only [PTy.flags] at hn <;> try cases hp
  case bool fl =>
    rw [validate_bool, hn]
    cases v <;> first | exact .ok | exact .verr _
  case int fl c lo hi =>
    rw [validate_int, hn]
    cases v <;> first | exact .verr _ | exact .ite (Bool.decide_and ..).symm
  case float fl c lo hi =>
    rw [validate_float, hn]
    cases v <;> try exact .verr _
    case flt x => exact good_inRange E lo hi x
    -- an integer or a boolean is converted first (`float(val)`), which may overflow
    all_goals
      simp only [fltOf, validPrim, normOf]
      generalize E.fltOfInt _ = o
      cases o with
      | none => exact .verr _
      | some x => exact good_inRange E lo hi x
  case str fl a b p =>
    rw [validate_str, hn]
    cases v <;> try exact .verr _
    case str s =>
      -- the Python tests the upper bound first, `validPrim` lists the lower one first
      show Good (leOpt a s.length && geOpt b s.length && _) _ _
      rw [Bool.and_comm (leOpt _ _), Bool.and_assoc]
      refine .and (.and ?_)
      cases p with
      | none => exact .ok
      | some p =>
        refine .refuseIf ?_
        by_cases hp : p = "" <;> cases hm : E.patMatch p s <;> simp [hp, hm]
  case bytes fl =>
    rw [validate_bytes, hn]
    cases v <;> first | exact .ok | exact .verr _
  case ts fl fmt =>
    rw [validate_ts, hn]
    cases v <;> try exact .verr _
    case ts i ok => cases ok <;> first | exact .ok | exact .verr _
  case void fl =>
    rw [validate_void, hn]
    cases v <;> first | exact .ok | exact .verr _

theorem validateList_good (t : PTy) (ih : ∀ v, Good (satB E env t v) (validate E env t v) (normOf E t v)) :
    ∀ xs, Good (satList E env t xs) (validateList E env t xs) (normList E t xs)
  | [] => .ok
  | x :: xs => .seq List.cons (ih x) (validateList_good t ih xs)

theorem validateDict_good (kt vt : PTy)
    (ihk : ∀ v, Good (satB E env kt v) (validate E env kt v) (normOf E kt v))
    (ihv : ∀ v, Good (satB E env vt v) (validate E env vt v) (normOf E vt v)) :
    ∀ kvs, Good (satDict E env kt vt kvs) (validateDict E env kt vt kvs) (normDict E kt vt kvs)
  | [] => .ok
  | (k, x) :: rest => by
    rw [satDict, Bool.and_assoc]
    exact (ihk k).bind (.seq (fun x' rest' => (normOf E kt k, x') :: rest') (ihv x) (validateDict_good kt vt ihk ihv rest))

theorem validate_spec (t : PTy) (v : PyVal) : Good (satB E env t v) (validate E env t v) (normOf E t v) := by
  induction t generalizing v with
  | list fl item a b ih =>
    rw [validate_list, satB_list]
    refine .nullable (normOf_of_nullable E _) ?_
    cases v <;> try exact .verr _
    all_goals
      rename_i xs
      show Good (leOpt a xs.length && geOpt b xs.length && _) _ _
      rw [Bool.and_comm (leOpt _ _), Bool.and_assoc]
      exact .and (.and ((validateList_good E env item ih xs).map _))
  | map fl kt vt ihk ihv =>
    rw [validate_map, satB_map]
    refine .nullable (normOf_of_nullable E _) ?_
    cases v <;> try exact .verr _
    case dict kvs => exact (validateDict_good E env kt vt ihk ihv kvs).map _
  | struct fl c =>
    rw [validate_struct, satB_struct, normOf_user E _ v rfl]
    exact .nullable eq_none_of_nullable (.and .last)
  | tree fl c =>
    rw [validate_tree, validate_struct, satB_tree, satB_struct, normOf_user E _ v rfl]
    exact .nullable eq_none_of_nullable (.and .last)
  | union fl c =>
    rw [validate_union, satB_union, normOf_user E _ v rfl]
    exact .nullable eq_none_of_nullable (.ite Bool.decide_eq_true.symm)
  | _ =>
    rw [satB_prim E env _ v rfl]
    cases hn : (PTy.flags _).nullable && isNoneV v
    · exact validate_prim_good E env _ v rfl hn
    · obtain ⟨h1, h2⟩ := Bool.and_eq_true_iff.1 hn
      rw [isNoneV_iff.1 h2, validate_nullable_none E env h1, normOf_none]
      exact .ok

end spec

theorem validateList_spec (E : Ext) (env : Env) (t : PTy) : (xs : List PyVal) → Good (satList E env t xs) (validateList E env t xs) (normList E t xs) :=
  validateList_good E env t (validate_spec E env t)

theorem validateDict_spec (E : Ext) (env : Env) (kt vt : PTy) : (kvs : List (PyVal × PyVal)) → Good (satDict E env kt vt kvs) (validateDict E env kt vt kvs) (normDict E kt vt kvs) :=
  validateDict_good E env kt vt (validate_spec E env kt) (validate_spec E env vt)

/-- normalising an accepted value keeps it accepted and is idempotent -/
def NormOk (E : Ext) (env : Env) (t : PTy) (v : PyVal) : Prop :=
  satB E env t v = true → satB E env t (normOf E t v) = true ∧ normOf E t (normOf E t v) = normOf E t v

theorem normList_length (E t) (xs : List PyVal) : (normList E t xs).length = xs.length := by
  induction xs with
  | nil => rfl
  | cons x xs ih => simp only [normList, List.length_cons, ih]

section norm
variable (E : Ext) (env : Env)

theorem norm_prim (t : PTy) (v : PyVal) (hp : isPrimTy t = true) (h : validPrim E t v = true) :
    validPrim E t (normOf E t v) = true ∧ normOf E t (normOf E t v) = normOf E t v := by
  cases t <;> try cases hp
  case float fl c lo hi =>
    cases v <;> try exact ⟨h, rfl⟩
    all_goals
      simp only [validPrim, normOf] at h ⊢
      generalize E.fltOfInt _ = o at h
      cases o with
      | none => cases h
      | some x => exact ⟨h, rfl⟩
  all_goals cases v <;> exact ⟨h, rfl⟩

theorem normList_sat_of_item (t : PTy) (ih : ∀ v, NormOk E env t v) : ∀ xs, satList E env t xs = true →
    satList E env t (normList E t xs) = true ∧ normList E t (normList E t xs) = normList E t xs
  | [], _ => ⟨rfl, rfl⟩
  | x :: xs, h => by
    simp only [satList, normList, Bool.and_eq_true] at h ⊢
    obtain ⟨h1, h2⟩ := ih x h.1
    obtain ⟨h3, h4⟩ := normList_sat_of_item t ih xs h.2
    exact ⟨⟨h1, h3⟩, by rw [h2, h4]⟩

theorem normDict_sat_of_items (kt vt : PTy) (ihk : ∀ v, NormOk E env kt v) (ihv : ∀ v, NormOk E env vt v) :
    ∀ kvs, satDict E env kt vt kvs = true →
    satDict E env kt vt (normDict E kt vt kvs) = true ∧ normDict E kt vt (normDict E kt vt kvs) = normDict E kt vt kvs
  | [], _ => ⟨rfl, rfl⟩
  | (k, x) :: rest, h => by
    simp only [satDict, normDict, Bool.and_eq_true] at h ⊢
    obtain ⟨h1, h2⟩ := ihk k h.1.1
    obtain ⟨h3, h4⟩ := ihv x h.1.2
    obtain ⟨h5, h6⟩ := normDict_sat_of_items kt vt ihk ihv rest h.2
    exact ⟨⟨⟨h1, h3⟩, h5⟩, by rw [h2, h4, h6]⟩

theorem NormOk.of_not_nullable {t : PTy} {v : PyVal}
    (h : (t.flags.nullable && isNoneV v) = false → NormOk E env t v) : NormOk E env t v := by
  cases hn : t.flags.nullable && isNoneV v
  · exact h hn
  · obtain rfl := eq_none_of_nullable hn
    intro h
    rw [normOf_none, normOf_none]
    exact ⟨h, rfl⟩

theorem norm_sat (t : PTy) (v : PyVal) : NormOk E env t v := by
  induction t generalizing v with
  | list fl item a b ih =>
    refine .of_not_nullable E env fun hn h => ?_
    rw [satB_list, show (fl.nullable && isNoneV v) = false from hn] at h
    cases v <;> try cases h
    all_goals
      rename_i xs
      simp only [Bool.false_eq_true, if_false, Bool.and_eq_true] at h
      obtain ⟨h1, h2⟩ := normList_sat_of_item E env item ih xs h.2
      show satB E env _ (.list _) = true ∧ PyVal.list _ = PyVal.list _
      rw [satB_list, h2]
      simp only [isNoneV, Bool.and_false, Bool.false_eq_true, if_false, normList_length, h.1.1, h.1.2, h1,
        Bool.and_self, and_self]
  | map fl kt vt ihk ihv =>
    refine .of_not_nullable E env fun hn h => ?_
    rw [satB_map, show (fl.nullable && isNoneV v) = false from hn] at h
    cases v <;> try cases h
    case dict kvs =>
      obtain ⟨h1, h2⟩ := normDict_sat_of_items E env kt vt ihk ihv kvs h
      show satB E env _ (.dict _) = true ∧ PyVal.dict _ = PyVal.dict _
      rw [satB_map, h2]
      simp only [isNoneV, Bool.and_false, Bool.false_eq_true, if_false, h1, and_self]
  | struct fl c => intro h; rw [normOf_user E _ v rfl, normOf_user E _ v rfl]; exact ⟨h, rfl⟩
  | tree fl c => intro h; rw [normOf_user E _ v rfl, normOf_user E _ v rfl]; exact ⟨h, rfl⟩
  | union fl c => intro h; rw [normOf_user E _ v rfl, normOf_user E _ v rfl]; exact ⟨h, rfl⟩
  | _ =>
    refine .of_not_nullable E env fun hn h => ?_
    rw [satB_prim E env _ v rfl, hn] at h
    obtain ⟨h1, h2⟩ := norm_prim E _ v rfl h
    rw [satB_prim E env _ _ rfl, h1, h2]
    exact ⟨by cases (PTy.flags _).nullable && isNoneV _ <;> rfl, rfl⟩

end norm

theorem normList_sat (E : Ext) (env : Env) (t : PTy) : (xs : List PyVal) → satList E env t xs = true →
    satList E env t (normList E t xs) = true ∧ normList E t (normList E t xs) = normList E t xs :=
  normList_sat_of_item E env t (norm_sat E env t)

theorem normDict_sat (E : Ext) (env : Env) (kt vt : PTy) : (kvs : List (PyVal × PyVal)) → satDict E env kt vt kvs = true →
    satDict E env kt vt (normDict E kt vt kvs) = true ∧ normDict E kt vt (normDict E kt vt kvs) = normDict E kt vt kvs :=
  normDict_sat_of_items E env kt vt (norm_sat E env kt) (norm_sat E env vt)

theorem validateTypeOnly_good (env : Env) (t : PTy) (v : PyVal) (ht : isUserTyC08 t = true) :
    Good (typeOnlyB env t v) (validateTypeOnly env t v) () := by
  cases t <;> try cases ht
  case struct fl c => rw [validateTypeOnly_struct]; exact .either (.ite Bool.decide_eq_true.symm)
  case tree fl c => rw [validateTypeOnly_tree]; exact .either (.ite Bool.decide_eq_true.symm)
  case union fl c => rw [validateTypeOnly_union]; exact .either (.ite Bool.decide_eq_true.symm)

theorem typeOnlyB_of_satB {E : Ext} {env : Env} {t : PTy} {x : PyVal} (hu : isUserTyC08 t = true)
    (h : satB E env t x = true) : typeOnlyB env t x = true := by
  unfold typeOnlyB
  cases hn : t.flags.nullable && isNoneV x
  · cases t <;> first | cases hu | skip
    · rw [satB_struct] at h
      simp only [PTy.flags] at hn
      rw [hn, if_neg Bool.false_ne_true, Bool.and_eq_true] at h
      cases x <;> first | exact h.1 | cases h.1
    · rw [satB_tree, satB_struct] at h
      simp only [PTy.flags] at hn
      rw [hn, if_neg Bool.false_ne_true, Bool.and_eq_true] at h
      cases x <;> first | exact h.1 | cases h.1
    · rw [satB_union] at h
      simp only [PTy.flags] at hn
      rw [hn, if_neg Bool.false_ne_true] at h
      cases x <;> first | exact h | cases h
  · rfl

theorem validateTypeOnly_spec (env : Env) (t : PTy) (v : PyVal) :
    (typeOnlyB env t v = true ∧ validateTypeOnly env t v = .ok ()) ∨
    (typeOnlyB env t v = false ∧ isUserTyC08 t = true ∧ IsVerr (validateTypeOnly env t v)) ∨
    (typeOnlyB env t v = false ∧ isUserTyC08 t = false ∧ validateTypeOnly env t v = .error (.crash "AttributeError")) := by
  cases hu : isUserTyC08 t
  · have hc : classSat env t v = false := by cases t <;> first | rfl | cases hu
    rw [validateTypeOnly_of_not_user env v hu, typeOnlyB, hc, Bool.or_false]
    cases t.flags.nullable && isNoneV v
    · exact .inr (.inr ⟨rfl, rfl, rfl⟩)
    · exact .inl ⟨rfl, rfl⟩
  · rcases validateTypeOnly_good env t v hu with h | h
    · exact .inl h
    · exact .inr (.inl ⟨h.1, rfl, h.2⟩)

/-- The slots after a successful `Attribute.__set__`, as a function of the slots before. `storeVal` (RtFields) describes
the same assignment independently of the slots, for the proofs that take the field loop apart. -/
def slotsAfter (E : Ext) (f : FieldDef) (slots : List (String × PyVal)) (x : PyVal) : List (String × PyVal) :=
  if f.attrNullable && isNoneV x then delSlot f.name slots else setSlot f.name (storedOf E f x) slots

section
variable (E : Ext) (env : Env)

theorem attrSet_spec (f : FieldDef) (slots : List (String × PyVal)) (x : PyVal) :
    (fieldSat E env f x = true ∧ attrSet E env f slots x = .ok (slotsAfter E f slots x)) ∨
    (fieldSat E env f x = false ∧ IsVerr (attrSet E env f slots x)) ∨
    (fieldSat E env f x = false ∧ f.attrUserDefined = true ∧ isUserTyC08 f.ty = false ∧
      attrSet E env f slots x = .error (.crash "AttributeError")) := by
  rw [attrSet_eq]
  cases hN : (f.attrNullable && isNoneV x)
  · cases hU : f.attrUserDefined
    · rcases validate_spec E env f.ty x with ⟨a, b⟩ | ⟨a, b⟩
      · left
        simp [fieldSat, hN, hU, a, b, slotsAfter, storedOf, Except.map]
      · right; left
        obtain ⟨m, hm⟩ := b.exists
        simp [fieldSat, hN, hU, a, hm, Except.map, IsVerr]
    · rcases validateTypeOnly_spec env f.ty x with ⟨a, b⟩ | ⟨a, c, b⟩ | ⟨a, c, b⟩
      · left
        simp [fieldSat, hN, hU, a, b, slotsAfter, storedOf, Except.map]
      · right; left
        obtain ⟨m, hm⟩ := b.exists
        simp [fieldSat, hN, hU, a, hm, Except.map, IsVerr]
      · right; right
        simp [fieldSat, hN, hU, a, c, b, Except.map]
  · left
    simp [fieldSat, hN, slotsAfter]

theorem attrGet_slotsAfter (f : FieldDef) (slots : List (String × PyVal)) (x : PyVal)
    (hnd : nodupS (slots.map (·.1)) = true) :
    attrGet f (slotsAfter E f slots x) = some (storedOf E f x) := by
  by_cases hN : (f.attrNullable && isNoneV x) = true
  · obtain rfl := eq_none_of_nullable hN
    have h1 : f.attrNullable = true := (Bool.and_eq_true_iff.1 hN).1
    have : storedOf E f .none = .none := by
      unfold storedOf; split
      · rfl
      · exact normOf_none E _
    simp [slotsAfter, isNoneV, attrGet, lookupSlot_delSlot _ hnd, h1, this]
  · simp [slotsAfter, hN, attrGet, lookupSlot_setSlot]

/-- without the uniqueness of slot names the read after a *set* (not an unset) is still right -/
theorem attrGet_slotsAfter_set (f : FieldDef) (slots : List (String × PyVal)) (x : PyVal)
    (hN : (f.attrNullable && isNoneV x) = false) :
    attrGet f (slotsAfter E f slots x) = some (storedOf E f x) := by
  simp [slotsAfter, hN, attrGet, lookupSlot_setSlot]

theorem nodupS_slotsAfter (f : FieldDef) (slots : List (String × PyVal)) (x : PyVal)
    (hnd : nodupS (slots.map (·.1)) = true) : nodupS ((slotsAfter E f slots x).map (·.1)) = true := by
  unfold slotsAfter
  split
  · exact nodupS_delSlot _ hnd
  · exact nodupS_setSlot _ _ hnd

theorem lookupSlot_slotsAfter_ne (f : FieldDef) (slots : List (String × PyVal)) (x : PyVal) (m : String)
    (hne : m ≠ f.name) : lookupSlot m (slotsAfter E f slots x) = lookupSlot m slots := by
  unfold slotsAfter
  split
  · exact lookupSlot_delSlot_ne _ hne
  · exact lookupSlot_setSlot_ne _ _ hne

theorem mkUnion_good (cls tag : String) (x : PyVal) (u : UnionDef) (hu : env.union? cls = some u)
    (t : PTy) (hc : u.ctorValidator tag = some t) :
    Good (memberSat E env t x) (mkUnion E env cls tag x) (.union cls tag x) := by
  rw [mkUnion_eq E env cls tag x hu hc]
  unfold memberSat
  cases hV : !t.flags.nullable && isVoidT t
  case true =>
    cases hx : isNoneV x
    · exact .verr _
    · rw [isNoneV_iff.1 hx]; exact .ok
  cases hS : !t.flags.nullable && isUserTyC08 t
  · exact (validate_spec E env t x).map _
  · exact (validateTypeOnly_good env t x (Bool.and_eq_true_iff.1 hS).2).map _

theorem mkUnion_ok {cls tag : String} {u : UnionDef} {t : PTy} {x : PyVal} (hu : env.union? cls = some u)
    (hc : u.ctorValidator tag = some t) (hv : validate E env t x = .ok x) (hvoid : isVoidT t = true → isNoneV x = true) :
    mkUnion E env cls tag x = .ok (.union cls tag x) := by
  refine (mkUnion_good E env cls tag x u hu t hc).of_acc ?_
  have hs := ((validate_spec E env t x).ok_eq hv).1
  unfold memberSat
  split
  · exact hvoid (Bool.and_eq_true_iff.1 ‹_›).2
  · split
    · exact typeOnlyB_of_satB (Bool.and_eq_true_iff.1 ‹_›).2 hs
    · exact hs

theorem mkUnion_none_ok (cls tag : String) (u : UnionDef) (hu : env.union? cls = some u)
    (t : PTy) (hc : u.ctorValidator tag = some t) (h : isVoidT t = true ∨ t.flags.nullable = true) :
    mkUnion E env cls tag .none = .ok (.union cls tag .none) := by
  refine (mkUnion_good E env cls tag .none u hu t hc).of_acc ?_
  unfold memberSat
  cases hn : t.flags.nullable
  · simp [h.resolve_right (by simp [hn]), isNoneV]
  · simp [satB_nullable_none E env t hn]

theorem mkUnion_spec (cls tag : String) (x : PyVal) {u : UnionDef} (hu : env.union? cls = some u) :
    Good ((u.ctorValidator tag).any (memberSat E env · x)) (mkUnion E env cls tag x) (.union cls tag x) := by
  cases hc : u.ctorValidator tag with
  | none => rw [mkUnion_invalid_tag E env cls tag x hu hc]; exact .verr _
  | some t => exact mkUnion_good E env cls tag x u hu t hc

end

end StoneVerif.Rt.V8

namespace StoneVerif.Rt

section inversions
variable {E : Ext} {env : Env}

theorem validate_list_ok {f : Flags} {i : PTy} {lo hi : Option Nat} {x x' : PyVal}
    (h : validate E env (.list f i lo hi) x = .ok x') (hn : (f.nullable && isNoneV x) = false) :
    ∃ xs ys, (x = .list xs ∨ x = .tuple xs) ∧ x' = .list ys ∧ geOpt hi xs.length = true ∧ leOpt lo xs.length = true ∧
      validateList E env i xs = .ok ys := by
  obtain ⟨hs, rfl⟩ := (V8.validate_spec E env _ x).ok_eq h
  rw [V8.satB_list, hn, if_neg Bool.false_ne_true] at hs
  split at hs
  · simp only [Bool.and_eq_true] at hs
    exact ⟨_, _, .inl rfl, by rw [normOf], hs.1.2, hs.1.1, (V8.validateList_spec E env i _).of_acc hs.2⟩
  · simp only [Bool.and_eq_true] at hs
    exact ⟨_, _, .inr rfl, by rw [normOf], hs.1.2, hs.1.1, (V8.validateList_spec E env i _).of_acc hs.2⟩
  · cases hs

theorem validate_list_of {f : Flags} {i : PTy} {lo hi : Option Nat} {x : PyVal} {xs ys : List PyVal}
    (hx : x = .list xs ∨ x = .tuple xs) (h1 : geOpt hi xs.length = true) (h2 : leOpt lo xs.length = true)
    (hl : validateList E env i xs = .ok ys) : validate E env (.list f i lo hi) x = .ok (.list ys) := by
  rw [validate_list_val E env f i hx h2 h1, hl]; rfl

theorem validate_map_ok {f : Flags} {k v : PTy} {x x' : PyVal}
    (h : validate E env (.map f k v) x = .ok x') (hn : (f.nullable && isNoneV x) = false) :
    ∃ kvs ys, x = .dict kvs ∧ x' = .dict ys ∧ validateDict E env k v kvs = .ok ys := by
  obtain ⟨hs, rfl⟩ := (V8.validate_spec E env _ x).ok_eq h
  rw [V8.satB_map, hn, if_neg Bool.false_ne_true] at hs
  split at hs
  · exact ⟨_, _, rfl, by rw [normOf], (V8.validateDict_spec E env k v _).of_acc hs⟩
  · cases hs

theorem validate_map_of {f : Flags} {k v : PTy} {kvs ys : List (PyVal × PyVal)}
    (hl : validateDict E env k v kvs = .ok ys) : validate E env (.map f k v) (.dict kvs) = .ok (.dict ys) := by
  rw [validate_map_val, hl]; rfl

theorem validate_struct_ok {f : Flags} {c : String} {x x' : PyVal}
    (h : validate E env (.struct f c) x = .ok x') (hn : (f.nullable && isNoneV x) = false) :
    x' = x ∧ structTypeOk env c x = true ∧ structFieldsOk env c none x = true := by
  obtain ⟨hs, rfl⟩ := (V8.validate_spec E env _ x).ok_eq h
  rw [V8.satB_struct, hn, if_neg Bool.false_ne_true, Bool.and_eq_true] at hs
  exact ⟨V8.normOf_user E _ x rfl, hs⟩

theorem validate_union_ok {f : Flags} {c : String} {x x' : PyVal}
    (h : validate E env (.union f c) x = .ok x') (hn : (f.nullable && isNoneV x) = false) :
    x' = x ∧ unionTypeOk env c x = true := by
  obtain ⟨hs, rfl⟩ := (V8.validate_spec E env _ x).ok_eq h
  rw [V8.satB_union, hn, if_neg Bool.false_ne_true] at hs
  exact ⟨V8.normOf_user E _ x rfl, hs⟩

end inversions

theorem satB_leaf (E : Ext) (env : Env) {t : PTy} {v : PyVal} (h : ValidLeaf E t v) : satB E env t v = true := by
  have hv := h.validB (env := env)
  cases h with
  | unset hn => exact V8.satB_nullable_none E env _ hn
  | _ => exact (V8.satB_prim E env _ _ rfl).trans ((validB_prim E env _ _ rfl).symm.trans hv)

theorem validate_leaf (E : Ext) (env : Env) {t : PTy} {v : PyVal} (h : ValidLeaf E t v) :
    validate E env t v = .ok (normOf E t v) :=
  (V8.validate_spec E env t v).of_acc (satB_leaf E env h)

section
variable {E : Ext} {env : Env}

theorem satList_of_validList {t : PTy} (ih : ∀ v, validB E env t v = true → satB E env t v = true) :
    ∀ xs, validList E env t xs = true → satList E env t xs = true
  | [], _ => rfl
  | x :: xs, h => by
    simp only [validList, satList, Bool.and_eq_true] at h ⊢
    exact ⟨ih x h.1, satList_of_validList ih xs h.2⟩

theorem satDict_of_validDict {kt vt : PTy} (ihk : ∀ v, validB E env kt v = true → satB E env kt v = true)
    (ihv : ∀ v, validB E env vt v = true → satB E env vt v = true) :
    ∀ kvs, validDict E env kt vt kvs = true → satDict E env kt vt kvs = true
  | [], _ => rfl
  | (k, x) :: rest, h => by
    simp only [validDict, satDict, Bool.and_eq_true] at h ⊢
    exact ⟨⟨ihk k h.1.1, ihv x h.1.2⟩, satDict_of_validDict ihk ihv rest h.2⟩

/-- What `validate` needs of the environment at a struct: a subclass instance carries its ancestors' attribute
descriptors. `envWFX` says so directly, `envWF` with `envRT` enough of it. -/
def FieldsOkFromPublic (env : Env) : Prop :=
  ∀ c cls slots, env.structSubclass c cls = true → (publicFields env c).all (fun f => attrHas f slots) = true →
    structFieldsOk env cls none (.struct c slots) = true

variable (H : FieldsOkFromPublic env)
include H

/-- deep validity gives shallow acceptance: the required fields of the declared class are among those of the instance's
class (`H`) -/
theorem satB_of_validB : ∀ (t : PTy) (v : PyVal), validB E env t v = true → satB E env t v = true
  | t, v, h => by
    cases validB_view h with
    | leaf hl => exact satB_leaf E env hl
    | list _ h1 h2 h3 =>
      rw [V8.satB_list]; simp [isNoneV, h1, h2, satList_of_validList (satB_of_validB _) _ h3]
    | tuple _ h1 h2 h3 =>
      rw [V8.satB_list]; simp [isNoneV, h1, h2, satList_of_validList (satB_of_validB _) _ h3]
    | dict _ h1 => rw [V8.satB_map]; simp [isNoneV, satDict_of_validDict (satB_of_validB _) (satB_of_validB _) _ h1]
    | struct _ hsub hall _ => rw [V8.satB_struct]; simp [isNoneV, structTypeOk, hsub, H _ _ _ hsub hall]
    | tree _ _ hsub hall _ => rw [V8.satB_tree, V8.satB_struct]; simp [isNoneV, structTypeOk, hsub, H _ _ _ hsub hall]
    | union _ hsub _ _ => rw [V8.satB_union]; simp [isNoneV, unionTypeOk, hsub]
termination_by structural t => t

omit H in
theorem normOf_of_normal (t : PTy) : ∀ v, normalB env t v = true → normOf E t v = v := by
  induction t with
  | list fl item a b ih =>
    intro v h
    cases v <;> first | rfl | skip
    · rename_i xs
      simp only [normalB] at h
      simp only [normOf, PyVal.list.injEq]
      induction xs with
      | nil => rfl
      | cons x xs ihx =>
        simp only [normalList, Bool.and_eq_true] at h
        rw [normList, ih x h.1, ihx h.2]
    · cases h
  | map fl kt vt ihk ihv =>
    intro v h
    cases v <;> first | rfl | skip
    rename_i kvs
    simp only [normalB] at h
    simp only [normOf, PyVal.dict.injEq]
    induction kvs with
    | nil => rfl
    | cons kx rest ihx =>
      obtain ⟨k, x⟩ := kx
      simp only [normalDict, Bool.and_eq_true] at h
      rw [normDict, ihk k h.1.1, ihv x h.1.2, ihx h.2]
  | float => intro v h; cases v <;> first | rfl | cases h
  | _ => intro v _; cases v <;> rfl

/-- what is returned is the value itself when it is in stored form (`normOf_of_normal`) -/
theorem validate_valid (t : PTy) (v : PyVal) (h : validB E env t v = true) :
    validate E env t v = .ok (normOf E t v) :=
  (V8.validate_spec E env t v).of_acc (satB_of_validB H t v h)

end

end StoneVerif.Rt
