import StoneVerif.Model.Stdin
/-! Lemmas about the stdin splitter (C11): `splitLines` on a concatenation of texts each of which begins with the
keyword line, has no other line beginning with it, and ends with a newline.  The point is locality: whether a
position is cut depends on the character before it and on at most ten characters after it, and a text that ends
with a newline cannot lend a prefix of `namespace` to the text that follows. -/
namespace StoneVerif.Stdin

theorem kw_length : kw.length = 9 := by decide

theorem isPrefixOf_append_long (k u w : List Char) (h : k.length ≤ u.length) :
    k.isPrefixOf (u ++ w) = k.isPrefixOf u := by
  rw [Bool.eq_iff_iff]
  simp only [List.isPrefixOf_iff_prefix, List.prefix_iff_eq_take, List.take_append_of_le_length h]

theorem endsNL_cons_cons (a b : Char) (r : List Char) : endsNL (a :: b :: r) = endsNL (b :: r) := rfl

theorem endsNL_append_cons (a : List Char) (b : Char) (r : List Char) : endsNL (a ++ b :: r) = endsNL (b :: r) := by
  induction a with
  | nil => rfl
  | cons x a' ih =>
    cases a' with
    | nil => simp [endsNL]
    | cons y a'' => simpa [endsNL_cons_cons] using ih

theorem take_kw_not_endsNL : ∀ k, k < 10 → 1 ≤ k → endsNL (kw.take k) = false := by decide

theorem prefix_short_false (u rest : List Char) (hne : u ≠ []) (hnl : endsNL u = true) (hlen : u.length ≤ 9) :
    kw.isPrefixOf (u ++ rest) = false := by
  cases hp : kw.isPrefixOf (u ++ rest) with
  | false => rfl
  | true =>
    exfalso
    rw [List.isPrefixOf_iff_prefix] at hp
    obtain ⟨z, hz⟩ := hp
    have h1 : (kw ++ z).take u.length = kw.take u.length := by
      rw [List.take_append_of_le_length (by rw [kw_length]; exact hlen)]
    have h2 : (u ++ rest).take u.length = u := by simp
    rw [hz, h2] at h1
    have hk : 1 ≤ u.length := by
      cases u with
      | nil => exact absurd rfl hne
      | cons _ _ => simp
    have := take_kw_not_endsNL u.length (by omega) hk
    rw [← h1, hnl] at this
    exact Bool.noConfusion this

theorem kwb_local (w : Char → Bool) (u rest : List Char) (hne : u ≠ []) (hnl : endsNL u = true) :
    kwb w (u ++ rest) = kwb w u := by
  by_cases hlen : u.length ≤ 9
  · have h1 := prefix_short_false u rest hne hnl hlen
    have h2 := prefix_short_false u [] hne hnl hlen
    rw [List.append_nil] at h2
    simp [kwb, h1, h2]
  · have hl : 10 ≤ u.length := by omega
    unfold kwb
    rw [isPrefixOf_append_long _ _ _ (by rw [kw_length]; omega), List.drop_append_of_le_length (by rw [kw_length]; omega)]
    cases hd : u.drop kw.length with
    | nil =>
      have := congrArg List.length hd
      simp [kw_length] at this
      omega
    | cons c r => rfl

theorem kwb_length (w : Char → Bool) (t : List Char) (h : kwb w t = true) : 9 ≤ t.length := by
  unfold kwb at h
  simp only [Bool.and_eq_true] at h
  have := (List.isPrefixOf_iff_prefix.1 h.1).length_le
  rw [kw_length] at this
  exact this

theorem endsNL_cons {c : Char} {u : List Char} (h : endsNL (c :: u) = true) :
    endsNL u = true ∧ (if u.isEmpty then (c == '\n') else true) = true := by
  cases u with
  | nil => exact ⟨rfl, by simpa [endsNL] using h⟩
  | cons b r => exact ⟨by simpa [endsNL_cons_cons] using h, rfl⟩

theorem splitLines_ne (w : Char → Bool) (ls : Bool) (s : List Char) : ∃ h t, splitLines w ls s = h :: t := by
  cases s with
  | nil => exact ⟨[], [], rfl⟩
  | cons c cs =>
    simp only [splitLines]
    split
    · exact ⟨_, _, rfl⟩
    · split <;> exact ⟨_, _, rfl⟩

/-- `if u.isEmpty then ls else true`: the line-start flag behind `u` -/
theorem splitLines_nostart (w : Char → Bool) (u : List Char) : ∀ (ls : Bool) (R h : List Char) (t : List (List Char)),
    starts w ls u = 0 → endsNL u = true →
    splitLines w (if u.isEmpty then ls else true) R = h :: t →
    splitLines w ls (u ++ R) = (u ++ h) :: t := by
  induction u with
  | nil => intro ls R h t _ _ hR; simpa using hR
  | cons c u' ih =>
    intro ls R h t hs hnl hR
    simp only [starts, Nat.add_eq_zero_iff] at hs
    obtain ⟨hdec, hs'⟩ := hs
    have hloc := kwb_local w (c :: u') R (by simp) hnl
    have hdec' : (ls && kwb w (c :: (u' ++ R))) = false := by
      rw [← List.cons_append, hloc]
      cases hx : (ls && kwb w (c :: u')) with
      | false => rfl
      | true => simp [hx] at hdec
    obtain ⟨hnl', hstate⟩ := endsNL_cons hnl
    have hR' : splitLines w (if u'.isEmpty then (c == '\n') else true) R = h :: t := by
      rw [hstate]; simpa using hR
    have := ih (c == '\n') R h t hs' hnl' hR'
    simp only [List.cons_append, splitLines, this, hdec']
    simp

/-- what the hypotheses of `stdin_split` say about one text -/
structure Good (w : Char → Bool) (t : List Char) : Prop where
  /-- it begins with `namespace` followed by the end of the text or a non-word character -/
  head : kwb w t = true
  /-- no other line of it begins that way -/
  once : starts w true t = 1
  nl : endsNL t = true

theorem splitLines_flatten (w : Char → Bool) (p : List Char) (ts : List (List Char))
    (hp0 : starts w true p = 0) (hpnl : endsNL p = true) (h : ∀ t ∈ ts, Good w t) :
    splitLines w true (p ++ ts.flatten) = p :: ts := by
  have key : ∀ ts : List (List Char), (∀ t ∈ ts, Good w t) → splitLines w true ts.flatten = [] :: ts := by
    intro ts
    induction ts with
    | nil => intro _; rfl
    | cons t ts' ih =>
      intro h
      obtain ⟨hk, ho, hn⟩ := h t (by simp)
      have hlen := kwb_length w t hk
      cases t with
      | nil => simp at hlen
      | cons c t' =>
        have hloc := kwb_local w (c :: t') ts'.flatten (by simp) hn
        simp only [starts, hk, Bool.and_self, if_true] at ho
        have hs' : starts w (c == '\n') t' = 0 := by omega
        obtain ⟨hn', hst⟩ := endsNL_cons hn
        have := splitLines_nostart w t' (c == '\n') ts'.flatten [] ts' hs' hn'
          (by rw [hst]; exact ih fun x hx => h x (by simp [hx]))
        have hdec : (true && kwb w (c :: (t' ++ ts'.flatten))) = true := by
          rw [← List.cons_append, hloc, hk]; rfl
        simp only [List.flatten_cons, List.cons_append, splitLines, this, hdec]
        simp
  have := splitLines_nostart w p true ts.flatten [] ts hp0 hpnl (by simpa using key ts h)
  simpa using this

theorem number_snd (k : Nat) (ps : List (List Char)) : (number k ps).map Prod.snd = ps := by
  induction ps generalizing k with
  | nil => rfl
  | cons p ps ih => simp [number, ih]

theorem number_fst (k : Nat) (ps : List (List Char)) : (number k ps).map Prod.fst = List.range' k ps.length := by
  induction ps generalizing k with
  | nil => rfl
  | cons p ps ih => simp [number, ih, List.range'_succ]

theorem splitStdinW_flatten (w : Char → Bool) (p : List Char) (t1 : List Char) (rest : List (List Char))
    (hp0 : starts w true p = 0) (hpnl : endsNL p = true) (h : ∀ t ∈ t1 :: rest, Good w t) :
    (splitStdinW w (p ++ (t1 :: rest).flatten)).map Prod.snd = (p ++ t1) :: rest ∧
    (splitStdinW w (p ++ (t1 :: rest).flatten)).map Prod.fst = List.range' 1 (rest.length + 1) := by
  unfold splitStdinW
  rw [splitLines_flatten w p (t1 :: rest) hp0 hpnl h]
  simp [number_snd, number_fst, List.range'_succ]

/-- On a string given by its characters (a literal is one) the split is that of the character list: evaluating
`String.toList` on a literal decodes its UTF-8 bytes, which is dear to check. -/
theorem splitStdin_ofList (cs : List Char) :
    splitStdin (String.ofList cs) = (splitStdinL cs).map fun p => ("stdin." ++ toString p.1, String.ofList p.2) := by
  rw [splitStdin, String.toList_ofList]

/-- a text that is not cut is handed over whole, as `stdin.1`; stated so that only character lists are evaluated -/
theorem splitStdin_one (cs : List Char) (h : splitStdinL cs = [(1, cs)]) :
    splitStdin (String.ofList cs) = [("stdin.1", String.ofList cs)] := by
  rw [splitStdin_ofList, h]
  exact congrArg (fun n => [(n, String.ofList cs)]) (by decide : "stdin." ++ toString 1 = "stdin.1")

end StoneVerif.Stdin
