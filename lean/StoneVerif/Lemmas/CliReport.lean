import StoneVerif.Model.CliReport
/-! The command-line answer model (C03): equations of `runFormat`, the answer of the handler of the tree under test
in closed form (`cliAnswer_eq`), and that `str.format` with `{}` fields does not look at the values. -/
namespace StoneVerif.CliReport

/-- the template of the tree under test, as characters (a literal pin: an edit of the handler's format string shows
here first) -/
theorem template_chars :
    Tables.cliSpecErrorTemplate.toList = ['{', '}', ':', '{', '}', ':', ' ', 'e', 'r', 'r', 'o', 'r', ':', ' ', '{', '}'] := by
  rw [Tables.cliSpecErrorTemplate, String.toList_ofList]

theorem fields_are : Tables.cliSpecErrorFields = ["path", "lineno", "msg"] := rfl

theorem style_is : Tables.cliSpecErrorStyle = "format" := rfl

@[simp] theorem pyStr_str (s : List Char) : pyStr (.str s) = s := rfl

theorem runFormat_nil (args) : runFormat [] args = .ok [] := rfl

theorem runFormat_open_open (r args) :
    runFormat ('{' :: '{' :: r) args = (fun o => '{' :: o) <$> runFormat r args := rfl

theorem runFormat_field_cons (r a as) :
    runFormat ('{' :: '}' :: r) (a :: as) = (fun o => pyStr a ++ o) <$> runFormat r as := rfl

theorem runFormat_field_nil (r) : runFormat ('{' :: '}' :: r) [] = .error (.crash .indexError) := rfl

theorem runFormat_close_close (r args) :
    runFormat ('}' :: '}' :: r) args = (fun o => '}' :: o) <$> runFormat r args := by
  rw [runFormat.eq_def]; rfl

theorem runFormat_char {c} (h1 : c ≠ '{') (h2 : c ≠ '}') (r args) :
    runFormat (c :: r) args = (fun o => c :: o) <$> runFormat r args := by
  rw [runFormat.eq_def]; simp only [if_neg h1, if_neg h2]

theorem runFormat_open_other {r} (h1 : ∀ r', r ≠ '{' :: r') (h2 : ∀ r', r ≠ '}' :: r') (args) :
    runFormat ('{' :: r) args =
      if r.contains '}' then .error .unmodelled else .error (.crash .valueError) := by
  rw [runFormat.eq_def]
  simp only [↓reduceIte]
  split
  · exact absurd rfl (h1 _)
  · exact absurd rfl (h2 _)
  · exact absurd rfl (h2 _)
  · rfl

theorem runFormat_close_other {r} (h : ∀ r', r ≠ '}' :: r') (args) :
    runFormat ('}' :: r) args = .error (.crash .valueError) := by
  rw [runFormat.eq_def]
  simp only [Char.reduceEq, ↓reduceIte]

theorem cliAnswer_eq (e : SpecErr) :
    cliAnswer e = .ok (pyStr (pathVal e) ++ ':' :: (pyStr (lineVal e) ++ (": error: ".toList ++ e.msg))) := by
  unfold cliAnswer answer
  rw [fields_are, style_is, template_chars]
  simp [List.mapM_cons, fieldVal, run, runFormat_field_cons, runFormat_char, runFormat_nil, Functor.map, Except.map]

theorem isOk_map {ε α β} (f : α → β) (x : Except ε α) : (f <$> x).isOk = x.isOk := by
  cases x <;> rfl

/-- `str.format` with `{}` fields does not look at the values: whether it raises depends on the template and on
the number of arguments only. -/
theorem runFormat_kind_blind (t : List Char) (as bs : List PyVal) (h : as.length = bs.length) :
    (runFormat t as).isOk = (runFormat t bs).isOk := by
  fun_induction runFormat t as generalizing bs
  case case1 => rfl
  case case2 ih => rw [runFormat_open_open, isOk_map, isOk_map, ih bs h]
  case case3 ih =>
    cases bs with
    | nil => cases h
    | cons b bs => rw [runFormat_field_cons, isOk_map, isOk_map, ih bs (Nat.succ.inj h)]
  case case4 =>
    cases bs with
    | nil => rfl
    | cons b bs => cases h
  case case7 ih => rw [runFormat_close_close, isOk_map, isOk_map, ih bs h]
  case case9 c r _ h1 h2 ih => rw [runFormat_char h1 h2, isOk_map, isOk_map, ih bs h]
  case case5 | case6 =>
    rename_i r args _ h1 h2 h3
    have h2' : ∀ r', r ≠ '}' :: r' := fun r' e => by
      cases args with
      | nil => exact h3 r' e rfl
      | cons a as => exact h2 r' a as e rfl
    rw [runFormat_open_other h1 h2']
  case case8 h' _ => rw [runFormat_close_other h']
end StoneVerif.CliReport
