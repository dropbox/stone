import StoneVerif.Lemmas.RtValidView
/-!
The wire form (`wire`): what `pick` keeps, the tree, the union as a relation (`WireUnion`); and `mapSlots`, the one shape
of `wireSlots`, `encodeSlots` and `canonSlots`: under a field name they hold the image of `firstSet`.
-/
namespace StoneVerif.Rt

theorem wireList_eq_map (E : Ext) (env : Env) (t : PTy) (xs : List PyVal) :
    wireList E env t xs = xs.map (wire E env t) := by
  induction xs with
  | nil => simp [wireList]
  | cons x xs ih => simp [wireList, ih]

theorem wireDict_strKeys (E : Ext) (env : Env) (vt : PTy) (ks : List (String × PyVal)) :
    wireDict E env vt (ks.map fun kx => (.str kx.1, kx.2)) = ks.map fun kx => (kx.1, wire E env vt kx.2) := by
  induction ks with
  | nil => simp [wireDict]
  | cons kx ks ih => simp [wireDict, ih]

theorem pick_keys (fields : List FieldDef) (enc : List (String × JVal)) :
    (pick fields enc).map (·.1) = (fields.filter fun f => (lookupW f.name enc).isSome).map (·.name) := by
  induction fields with
  | nil => simp [pick]
  | cons f fs ih =>
    simp only [pick, List.filterMap_cons] at ih ⊢
    cases h : lookupW f.name enc <;> simp [h, ih]

theorem pick_congr (fields : List FieldDef) (enc₁ enc₂ : List (String × JVal))
    (h : ∀ f ∈ fields, lookupW f.name enc₁ = lookupW f.name enc₂) : pick fields enc₁ = pick fields enc₂ :=
  filterMap_congr_mem fun f hf => by rw [h f hf]

theorem lookupW_pick {fields : List FieldDef} (hnd : (fields.map (·.name)).Nodup) (enc : List (String × JVal))
    {f : FieldDef} (hf : f ∈ fields) : lookupW f.name (pick fields enc) = lookupW f.name enc := by
  rw [lookupW_eq_find?]
  exact find?_filterMap_of_mem (·.name) (fun f => lookupW f.name enc) fields hnd f hf

theorem pick_perm (fields : List FieldDef) (kvs : List (String × JVal))
    (hnd : (fields.map (·.name)).Nodup) (hkn : (kvs.map (·.1)).Nodup) (hkeys : ∀ kv ∈ kvs, kv.1 ∈ fields.map (·.name)) :
    (pick fields kvs).Perm kvs := by
  have hnd1 : ((pick fields kvs).map (·.1)).Nodup :=
    List.Nodup.sublist (keys_filterMap_sublist FieldDef.name (fun f => lookupW f.name kvs) fields) hnd
  rw [List.perm_ext_iff_of_nodup (nodup_of_map_nodup _ hnd1) (nodup_of_map_nodup _ hkn)]
  rintro ⟨k, j⟩
  constructor
  · intro h
    obtain ⟨x, _, hx⟩ := List.mem_filterMap.mp h
    cases hl : lookupW x.name kvs with
    | none => simp [hl] at hx
    | some j' =>
      simp [hl] at hx
      obtain ⟨rfl, rfl⟩ := hx
      exact mem_of_jsonLookup ((jsonLookup_eq_find? _ _).trans ((lookupW_eq_find? _ _).symm.trans hl))
  · intro h
    obtain ⟨x, hx, hxk⟩ := List.mem_map.mp (hkeys _ h)
    simp only at hxk
    refine List.mem_filterMap.mpr ⟨x, hx, ?_⟩
    rw [hxk, lookupW_eq_find?, find?_key_of_mem (·.1) hkn h]
    rfl

theorem wire_tree (E : Ext) (env : Env) (fl : Flags) {cls c tag : String} (slots : List (String × PyVal))
    (hleaf : leafTag? env cls c = some tag) :
    wire E env (.tree fl cls) (.struct c slots) =
      .obj ((".tag", .str tag) :: pick (publicFields env c) (wireSlots E env (publicFields env c) slots)) := by
  simp only [wire, hleaf]

theorem wire_union (E : Ext) (env : Env) {fl : Flags} {cls c tag : String} {payload : PyVal} {td : TagDef}
    (htd : publicTag? env cls tag = some td) :
    wire E env (.union fl cls) (.union c tag payload) =
      if (isVoidT td.ty || isNoneV payload) = true then .obj [(".tag", .str tag)]
      else if isPlainStruct td.ty = true then
        (match wire E env td.ty payload with
         | .obj kvs => .obj ((".tag", .str tag) :: kvs)
         | _ => .null)
      else .obj [(".tag", .str tag), (tag, wire E env td.ty payload)] := by
  rw [wire.eq_def]
  simp only [htd]
  split
  · rename_i hty; simp [hty, isVoidT]
  · simp [isNoneV]
  · rename_i p _ _ _ _ hty hp
    simp only [hty, isVoidT, isPlainStruct, isNoneV_of_ne hp, Bool.or_self, Bool.false_eq_true, if_false, if_true]
    rfl
  · rename_i p _ _ hp hv hs
    have h2 : isVoidT td.ty = false := by cases hty : td.ty <;> first | rfl | exact (hv _ hty).elim
    have h3 : isPlainStruct td.ty = false := by cases hty : td.ty <;> first | rfl | exact (hs _ _ hty).elim
    simp [isNoneV_of_ne hp, h2, h3]

/-- What `wire` writes for a union value with a valid payload: the tag alone (a Void member, or a nullable one that is
unset), the fields of an ordinary struct beside the tag, or the payload under the tag's name. -/
inductive WireUnion (E : Ext) (env : Env) (tag : String) (td : TagDef) : PyVal → JVal → Prop
  | void : isVoidT td.ty = true → WireUnion E env tag td .none (.obj [(".tag", .str tag)])
  | unset : isVoidT td.ty = false → td.ty.flags.nullable = true →
      WireUnion E env tag td .none (.obj [(".tag", .str tag)])
  | flat {sfl : Flags} {sc c : String} (slots : List (String × PyVal)) : td.ty = .struct sfl sc →
      WireUnion E env tag td (.struct c slots)
        (.obj ((".tag", .str tag) :: pick (publicFields env sc) (wireSlots E env (publicFields env sc) slots)))
  | nested {payload : PyVal} : isVoidT td.ty = false → isPlainStruct td.ty = false → isNoneV payload = false →
      WireUnion E env tag td payload (.obj [(".tag", .str tag), (tag, wire E env td.ty payload)])

/-- a Void member holds `None`, which is valid at `Void` whatever the wrappers -/
theorem validB_payload {E : Ext} {env : Env} {ty : PTy} {payload : PyVal}
    (h : (if isVoidT ty then isNoneV payload else validB E env ty payload) = true) : validB E env ty payload = true := by
  cases hv : isVoidT ty with
  | false => simpa only [hv, Bool.false_eq_true, if_false] using h
  | true =>
    simp only [hv, if_true] at h
    cases isNoneV_iff.1 h
    cases ty <;> first | exact (ValidLeaf.void _).validB | cases hv

/-- `hj` is an equation so that the caller can `cases` on the result with `j` a variable. -/
theorem WireUnion.of_valid {E : Ext} {env : Env} {fl : Flags} {cls c tag : String} {payload : PyVal} {td : TagDef}
    {j : JVal} (htd : publicTag? env cls tag = some td) (hv : validB E env td.ty payload = true)
    (hj : wire E env (.union fl cls) (.union c tag payload) = j) : WireUnion E env tag td payload j := by
  subst hj
  rw [wire_union E env htd]
  cases hn : isNoneV payload with
  | true =>
    cases isNoneV_iff.1 hn
    rw [Bool.or_true, if_pos rfl]
    cases hvd : isVoidT td.ty with
    | true => exact .void hvd
    | false => exact .unset hvd (nullable_of_validB_none hv hvd)
  | false =>
    have hvd : isVoidT td.ty = false := Bool.eq_false_iff.2 fun h => by rw [validB_void_inv h hv] at hn; cases hn
    rw [hvd, Bool.or_self, if_neg Bool.false_ne_true]
    cases hps : isPlainStruct td.ty with
    | false => rw [if_neg Bool.false_ne_true]; exact .nested hvd hps hn
    | true =>
      obtain ⟨sfl, sc, hty⟩ := isPlainStruct_iff.1 hps
      rw [if_pos rfl]
      rw [hty] at hv ⊢
      cases validB_view hv with
      | leaf hl => cases hl with | unset _ => cases hn
      | struct => exact .flat _ hty

def mapSlots {β} (g : FieldDef → PyVal → β) (fields : List FieldDef) (slots : List (String × PyVal)) :
    List (String × β) :=
  slots.filterMap fun kx => (fields.find? (·.name == kx.1)).bind fun f =>
    if isNoneV kx.2 then none else some (kx.1, g f kx.2)

theorem wireSlots_eq_mapSlots (E : Ext) (env : Env) (fields : List FieldDef) (slots : List (String × PyVal)) :
    wireSlots E env fields slots = mapSlots (fun f x => wire E env f.ty x) fields slots := by
  induction slots with
  | nil => rfl
  | cons kx rest ih =>
    obtain ⟨k, x⟩ := kx
    rw [wireSlots.eq_def]
    simp only [mapSlots, List.filterMap_cons] at ih ⊢
    split
    · rename_i h; simp only [h, isNoneV_none, Option.bind_some, if_true, ih]
    · rename_i f h hx; simp only [h, isNoneV_of_ne hx, Option.bind_some, Bool.false_eq_true, if_false, ih]
    · rename_i h; simp only [h, Option.bind_none, ih]

theorem wireSlots_cons_some (E : Ext) (env : Env) (fields : List FieldDef) (k : String) (x : PyVal)
    (rest : List (String × PyVal)) (f : FieldDef) (hf : fields.find? (·.name == k) = some f) (hx : x ≠ .none) :
    wireSlots E env fields ((k, x) :: rest) = (k, wire E env f.ty x) :: wireSlots E env fields rest := by
  simp only [wireSlots_eq_mapSlots, mapSlots, List.filterMap_cons, hf, Option.bind_some, isNoneV_of_ne hx,
    Bool.false_eq_true, if_false]

/-- what the serializer, `wire` and `canon` see under a field name: the first slot of the name that is not None -/
def firstSet (name : String) (slots : List (String × PyVal)) : Option PyVal :=
  (slots.find? fun kx => kx.1 == name && !isNoneV kx.2).map (·.2)

theorem find?_mapSlots {β} (g : FieldDef → PyVal → β) (fields : List FieldDef) (k : String)
    (slots : List (String × PyVal)) :
    ((mapSlots g fields slots).find? (·.1 == k)).map (·.2) =
      (fields.find? (·.name == k)).bind fun f => (firstSet k slots).map (g f) := by
  induction slots with
  | nil => cases fields.find? (·.name == k) <;> rfl
  | cons kx rest ih =>
    obtain ⟨k', x⟩ := kx
    simp only [mapSlots, List.filterMap_cons, firstSet, List.find?_cons] at ih ⊢
    by_cases hk : k' = k
    · subst hk
      cases hf : fields.find? (·.name == k') with
      | none => simpa only [hf, Option.bind_none] using ih
      | some f =>
        rw [hf] at ih
        cases hx : isNoneV x
        · simp only [Option.bind_some, Bool.false_eq_true, if_false, List.find?_cons, beq_self_eq_true,
            Option.map_some, Bool.not_false, Bool.and_self]
        · simpa only [Option.bind_some, if_true, beq_self_eq_true, Bool.not_true, Bool.and_false] using ih
    · have hne : (k' == k) = false := by simpa using hk
      simp only [hne, Bool.false_and]
      cases fields.find? (·.name == k') with
      | none => exact ih
      | some f =>
        cases isNoneV x
        · simpa only [Option.bind_some, Bool.false_eq_true, if_false, List.find?_cons, hne] using ih
        · exact ih

theorem lookupW_wireSlots (E : Ext) (env : Env) (fields : List FieldDef) (name : String) {f : FieldDef}
    (hf : fields.find? (·.name == name) = some f) (slots : List (String × PyVal)) :
    lookupW name (wireSlots E env fields slots) = (firstSet name slots).map (wire E env f.ty) := by
  rw [wireSlots_eq_mapSlots, lookupW_eq_find?, find?_mapSlots, hf]
  rfl

theorem firstSet_some {k : String} {slots : List (String × PyVal)} {x : PyVal} (h : firstSet k slots = some x) :
    (k, x) ∈ slots ∧ isNoneV x = false := by
  obtain ⟨⟨k', x'⟩, hf, rfl⟩ := Option.map_eq_some_iff.mp h
  have hp := List.find?_some hf
  simp only [Bool.and_eq_true, beq_iff_eq, Bool.not_eq_true'] at hp
  exact ⟨hp.1 ▸ List.mem_of_find?_eq_some hf, hp.2⟩

theorem firstSet_isSome_of_lookupSlot {k : String} {slots : List (String × PyVal)} {x : PyVal}
    (h : lookupSlot k slots = some x) (hx : isNoneV x = false) : (firstSet k slots).isSome = true := by
  rw [firstSet, Option.isSome_map, List.find?_isSome]
  exact ⟨(k, x), mem_of_lookupSlot h, by simp [hx]⟩

def slotSet (name : String) (slots : List (String × PyVal)) : Bool :=
  slots.any fun kx => kx.1 == name && !isNoneV kx.2

theorem slotSet_eq_firstSet (name : String) (slots : List (String × PyVal)) :
    slotSet name slots = (firstSet name slots).isSome := by
  rw [slotSet, firstSet, Option.isSome_map, Bool.eq_iff_iff, List.find?_isSome, List.any_eq_true]

theorem lookupW_wireSlots_isSome (E : Ext) (env : Env) (fields : List FieldDef) (name : String)
    (hf : (fields.find? (·.name == name)).isSome) (slots : List (String × PyVal)) :
    (lookupW name (wireSlots E env fields slots)).isSome = slotSet name slots := by
  obtain ⟨f, hf⟩ := Option.isSome_iff_exists.mp hf
  rw [lookupW_wireSlots E env fields name hf, slotSet_eq_firstSet, Option.isSome_map]

theorem pick_wireSlots (E : Ext) (env : Env) (fields : List FieldDef)
    (hnd : (fields.map (·.name)).Nodup) (slots : List (String × PyVal)) :
    pick fields (wireSlots E env fields slots) =
      fields.filterMap fun f => (firstSet f.name slots).map fun x => (f.name, wire E env f.ty x) := by
  unfold pick
  apply filterMap_congr_mem
  intro f hf
  rw [lookupW_wireSlots E env fields f.name (find_name_of_mem hnd hf)]
  cases firstSet f.name slots <;> simp

namespace Compat

theorem mem_pick_wire {E : Ext} {A : Env} {fields : List FieldDef} {slots : List (String × PyVal)}
    {k : String} {j : JVal}
    (h : (k, j) ∈ pick fields (wireSlots E A fields slots)) :
    ∃ f x, fields.find? (·.name == k) = some f ∧ (k, x) ∈ slots ∧ isNoneV x = false ∧ j = wire E A f.ty x := by
  unfold pick at h
  obtain ⟨f0, _, e⟩ := List.mem_filterMap.1 h
  cases hl : lookupW f0.name (wireSlots E A fields slots) with
  | none => rw [hl] at e; cases e
  | some j' =>
    rw [hl] at e
    simp only [Option.map_some, Option.some.injEq, Prod.mk.injEq] at e
    obtain ⟨e1, e2⟩ := e
    subst e1; subst e2
    cases hfind : fields.find? (·.name == f0.name) with
    | none => rw [wireSlots_eq_mapSlots, lookupW_eq_find?, find?_mapSlots, hfind] at hl; cases hl
    | some f =>
      rw [lookupW_wireSlots E A fields _ hfind] at hl
      obtain ⟨x, hx, rfl⟩ := Option.map_eq_some_iff.mp hl
      exact ⟨f, x, rfl, (firstSet_some hx).1, (firstSet_some hx).2, rfl⟩

end Compat

namespace RoundTrip

theorem pick_keys_subset (fields : List FieldDef) (enc : List (String × JVal)) :
    ∀ kx ∈ pick fields enc, kx.1 ∈ fields.map (·.name) :=
  fun _ h => (keys_filterMap_sublist (·.name) (fun f => lookupW f.name enc) fields).subset (List.mem_map_of_mem h)

end RoundTrip

end StoneVerif.Rt
