import StoneVerif.Model.Lex
/-! The line-level lexer model (C11). The newline and comment rules are seen as one `event` at a line end; blank,
space-only and comment-only lines then only add `NEWLINE`s next to a `NEWLINE` (`strip_sim`), which `normGo` erases;
`scan` keeps the dent balance. The look-ahead reads of a line only whether it is significant and how far it is
indented (`lkey`): hence `trailing_ws` and `paren_break`. -/
namespace StoneVerif.Lex

@[simp] theorem lastFlag_nil (g) : lastFlag g [] = g := rfl
@[simp] theorem lastFlag_cons (g t r) : lastFlag g (t :: r) = lastFlag (t == .newline) r := rfl

theorem lastFlag_append (g : Bool) (a b : List Tok) : lastFlag g (a ++ b) = lastFlag (lastFlag g a) b := by
  induction a generalizing g with
  | nil => rfl
  | cons t r ih => simp [ih]

theorem normGo_append (g : Bool) (a b : List Tok) :
    normGo g (a ++ b) = normGo g a ++ normGo (lastFlag g a) b := by
  fun_induction normGo g a with
  | case4 g t r h ih => simp [normGo, h, ih, beq_eq_false_iff_ne.2 h]
  | _ => simp_all [normGo]

theorem lastFlag_normGo (g : Bool) (a : List Tok) : lastFlag g (normGo g a) = lastFlag g a := by
  fun_induction normGo g a with
  | case4 g t r h ih => simp [ih, beq_eq_false_iff_ne.2 h]
  | _ => simp_all

@[simp] theorem normGo_true_nl (r : List Tok) : normGo true (.newline :: r) = normGo true r := by
  simp [normGo]

theorem normGo_nl_nl (g : Bool) (r : List Tok) :
    normGo g (.newline :: .newline :: r) = normGo g (.newline :: r) := by
  cases g <;> simp [normGo]

/-- what the rule that consumes a line end does: `nl` = it emits a `NEWLINE` itself (in `INITIAL`) -/
def event (nl : Bool) (cur depth : Nat) (next : Option Line) : Res :=
  if depth = 0 then
    { toks := (if nl then [.newline] else []) ++ (nextLineDent cur next).1, errs := (nextLineDent cur next).2.2,
      cur := (nextLineDent cur next).2.1, depth }
  else
    { toks := [], errs := checkForIndent cur next, cur, depth }

theorem newlineRule_eq (cur depth next) : newlineRule cur depth next = event true cur depth next := by
  unfold newlineRule event
  split <;> simp

theorem commentRule_full (cur depth next) : commentRule .fullLine cur depth next = event false cur depth next := by
  unfold commentRule event
  split <;> simp

theorem commentRule_partial (cur depth next) :
    commentRule .partialLine cur depth next = event true cur depth next := by
  unfold commentRule event
  split <;> simp

def ownNL (nl : Bool) (depth : Nat) : List Tok := if nl && depth == 0 then [.newline] else []

theorem event_toks (nl cur depth next) :
    (event nl cur depth next).toks = ownNL nl depth ++ (event false cur depth next).toks := by
  unfold event ownNL
  by_cases h : depth = 0 <;> cases nl <;> simp [h]

@[simp] theorem event_errs (nl cur depth next) : (event nl cur depth next).errs = (event false cur depth next).errs := by
  unfold event; split <;> rfl
@[simp] theorem event_cur (nl cur depth next) : (event nl cur depth next).cur = (event false cur depth next).cur := by
  unfold event; split <;> rfl
@[simp] theorem event_depth (nl cur depth next) : (event nl cur depth next).depth = depth := by
  unfold event; split <;> rfl

theorem indentDelta_blank (cur : Nat) (l : Line) (h : l.body.isSig = false) :
    indentDelta cur (some l) = (none, []) := by
  unfold indentDelta
  cases hb : l.body <;> simp_all [Body.isSig]

theorem event_blank (cur depth : Nat) (l : Line) (h : l.body.isSig = false) :
    event false cur depth (some l) = { toks := [], errs := [], cur, depth } := by
  unfold event nextLineDent checkForIndent
  simp [indentDelta_blank cur l h]

theorem event_none (cur depth : Nat) : event false cur depth none = { toks := [], errs := [], cur, depth } := by
  unfold event nextLineDent checkForIndent
  simp [indentDelta]

theorem event_zero (l : Line) (h : l.indent = 0) :
    event false 0 0 (some l) = { toks := [], errs := [], cur := 0, depth := 0 } := by
  obtain ⟨i, b⟩ := l
  simp only at h
  subst h
  cases b <;> simp [event, nextLineDent, indentDelta, indentUnit]

theorem stepLine_sig (first cur depth i toks trail next) :
    stepLine first cur depth ⟨i, .sig toks trail⟩ next =
      let E := emitToks depth toks
      let r := event true cur E.2.2 next
      { toks := E.1 ++ r.toks, errs := E.2.1 ++ r.errs, cur := r.cur, depth := E.2.2 } := by
  unfold stepLine
  cases trail <;> simp [newlineRule_eq, commentRule_partial]

theorem stepLine_empty (cur depth i next) :
    stepLine false cur depth ⟨i, .empty⟩ next = { toks := [], errs := [], cur, depth } := by
  simp [stepLine]

theorem stepLine_spaces (first cur depth i next) :
    stepLine first cur depth ⟨i, .spaces⟩ next = event true cur depth next := by
  simp [stepLine, newlineRule_eq]

theorem stepLine_comment (cur depth i p next) :
    stepLine false cur depth ⟨i, .comment p⟩ next = event (!p) cur depth next := by
  cases p <;> simp [stepLine, commentRule_full, commentRule_partial]

@[simp] theorem run_nil (f c d) : run f c d [] = { toks := [], errs := [], cur := c, depth := d } := rfl

theorem run_cons (f c d l rest) :
    run f c d (l :: rest) =
      let r1 := stepLine f c d l (lookahead rest)
      let r2 := run false r1.cur r1.depth rest
      { toks := r1.toks ++ r2.toks, errs := r1.errs ++ r2.errs, cur := r2.cur, depth := r2.depth } := by
  simp [run, runL]

/-- the pending indentation check of the previous line end, then the lines -/
def after (cur depth : Nat) (ls : List Line) : Res :=
  { toks := (event false cur depth (lookahead ls)).toks ++ (run false (event false cur depth (lookahead ls)).cur depth ls).toks,
    errs := (event false cur depth (lookahead ls)).errs ++ (run false (event false cur depth (lookahead ls)).cur depth ls).errs,
    cur := (run false (event false cur depth (lookahead ls)).cur depth ls).cur,
    depth := (run false (event false cur depth (lookahead ls)).cur depth ls).depth }

theorem after_nil (c d) : after c d [] = { toks := [], errs := [], cur := c, depth := d } := by
  simp [after, lookahead, event_none]

theorem after_empty (c d i rest) : after c d (⟨i, .empty⟩ :: rest) = after c d rest := by
  simp [after, lookahead, Body.isEmpty, run_cons, stepLine_empty]

theorem run_event_cons (f c d b) (l : Line) (rest)
    (h : ∀ next, stepLine f c d l next = event b c d next) :
    run f c d (l :: rest) = { after c d rest with toks := ownNL b d ++ (after c d rest).toks } := by
  simp [after, run_cons, h, event_toks b]

theorem after_cons_blank (c d : Nat) (l : Line) (rest : List Line) (hb : l.body.isSig = false)
    (he : l.body.isEmpty = false) : after c d (l :: rest) = run false c d (l :: rest) := by
  simp [after, lookahead, he, event_blank c d l hb]

theorem after_sig (c d i toks trail rest) :
    after c d (⟨i, .sig toks trail⟩ :: rest) =
      let F := event false c d (some ⟨i, .sig toks trail⟩)
      let E := emitToks d toks
      let A := after F.cur E.2.2 rest
      { toks := F.toks ++ (E.1 ++ (ownNL true E.2.2 ++ A.toks)), errs := F.errs ++ (E.2.1 ++ A.errs),
        cur := A.cur, depth := A.depth } := by
  simp [after, lookahead, Body.isEmpty, run_cons, stepLine_sig, event_toks true]

theorem after_blank (c d : Nat) (l : Line) (rest : List Line) (h : l.body.isSig = false) :
    ∃ nl, after c d (l :: rest) = { after c d rest with toks := ownNL nl d ++ (after c d rest).toks } := by
  obtain ⟨i, b⟩ := l
  cases b with
  | empty => exact ⟨false, by rw [after_empty]; rfl⟩
  | spaces =>
    exact ⟨true, by rw [after_cons_blank c d _ rest rfl rfl, run_event_cons false c d true _ rest (stepLine_spaces false c d i)]⟩
  | comment p =>
    exact ⟨!p, by rw [after_cons_blank c d _ rest rfl rfl, run_event_cons false c d (!p) _ rest (stepLine_comment c d i p)]⟩
  | sig toks trail => cases h

theorem strip_cons_sig (i toks trail rest) :
    strip (⟨i, .sig toks trail⟩ :: rest) = ⟨i, .sig toks trail⟩ :: strip rest := by
  simp [strip, Body.isSig]

theorem strip_cons_blank (l : Line) (rest) (h : l.body.isSig = false) : strip (l :: rest) = strip rest := by
  simp [strip, h]

/-- Two lexer results are the same to the parser: the tokens up to runs of `NEWLINE` (`g` = a `NEWLINE`, or nothing,
came last before them), the errors and the final state. -/
def Sim (g : Bool) (a b : Res) : Prop :=
  normGo g a.toks = normGo g b.toks ∧ a.errs = b.errs ∧ a.cur = b.cur ∧ a.depth = b.depth

theorem Sim.refl (g : Bool) (a : Res) : Sim g a a := ⟨rfl, rfl, rfl, rfl⟩

theorem Sim.symm {g a b} (h : Sim g a b) : Sim g b a := ⟨h.1.symm, h.2.1.symm, h.2.2.1.symm, h.2.2.2.symm⟩

theorem Sim.trans {g a b c} (h₁ : Sim g a b) (h₂ : Sim g b c) : Sim g a c :=
  ⟨h₁.1.trans h₂.1, h₁.2.1.trans h₂.2.1, h₁.2.2.1.trans h₂.2.2.1, h₁.2.2.2.trans h₂.2.2.2⟩

/-- the `NEWLINE` of a rule is not seen after a `NEWLINE`, and is not emitted inside parentheses -/
theorem normGo_ownNL (g nl : Bool) (d : Nat) (t : List Tok) (hg : g = true ∨ d ≠ 0) :
    normGo g (ownNL nl d ++ t) = normGo g t := by
  unfold ownNL
  rcases hg with rfl | hd
  · cases nl <;> by_cases hd : d = 0 <;> simp [hd]
  · simp [hd]

theorem Sim.ownNL {g : Bool} {a b : Res} (nl : Bool) {d : Nat} (hg : g = true ∨ d ≠ 0) (h : Sim g a b) :
    Sim g { a with toks := ownNL nl d ++ a.toks } b :=
  ⟨(normGo_ownNL g nl d a.toks hg).trans h.1, h.2⟩

/-- From a lexer state at a line end with a pending indentation check, the rest of the input and its significant
lines alone give the same normalised tokens, errors and final state. -/
theorem strip_sim (ls : List Line) : ∀ (c d : Nat) (g : Bool), (g = true ∨ d ≠ 0) →
    Sim g (after c d ls) (after c d (strip ls)) := by
  induction ls with
  | nil => intro c d g _; exact Sim.refl _ _
  | cons l rest ih =>
    intro c d g hg
    cases hl : l.body.isSig with
    | false =>
      obtain ⟨nl, e⟩ := after_blank c d l rest hl
      rw [e, strip_cons_blank l rest hl]
      exact (ih c d g hg).ownNL nl hg
    | true =>
      obtain ⟨i, b⟩ := l
      cases b with
      | sig toks trail =>
        rw [strip_cons_sig, after_sig, after_sig]
        simp only
        generalize (event false c d (some ⟨i, .sig toks trail⟩)) = F
        generalize (emitToks d toks) = E
        -- the side condition holds again after the line: its own `NEWLINE` came last, or a parenthesis is open
        have hg' : (lastFlag (lastFlag g (F.toks ++ E.1)) (ownNL true E.2.2) = true ∨ E.2.2 ≠ 0) := by
          by_cases hd : E.2.2 = 0
          · left; simp [ownNL, hd]
          · right; exact hd
        obtain ⟨h1, h2, h3, h4⟩ := ih F.cur E.2.2 _ hg'
        refine ⟨?_, by rw [h2], h3, h4⟩
        -- split `normGo` at `F.toks ++ E.1` and at `ownNL`, put `h1` for the tail, reassemble
        rw [← List.append_assoc, normGo_append, normGo_append _ (ownNL true E.2.2), h1,
          ← normGo_append, ← normGo_append, List.append_assoc]
      | _ => cases hl

/-- the first significant line is not indented (the lexer never checks the first line of a file: `head_indent_needed`) -/
def HeadOK (ls : List Line) : Prop := ∀ s, (strip ls).head? = some s → s.indent = 0

theorem headOK_cons_blank (l : Line) (rest) (h : l.body.isSig = false) : HeadOK (l :: rest) ↔ HeadOK rest := by
  simp [HeadOK, strip_cons_blank l rest h]

theorem headOK_congr {ls₁ ls₂ : List Line} (h : strip ls₁ = strip ls₂) : HeadOK ls₁ ↔ HeadOK ls₂ := by
  unfold HeadOK
  rw [h]

theorem headOK_strip (ls) : HeadOK (strip ls) ↔ HeadOK ls :=
  headOK_congr (by simp [strip])

theorem lookahead_sig_head (ls : List Line) (x : Line) (h : lookahead ls = some x) (hx : x.body.isSig = true) :
    (strip ls).head? = some x := by
  fun_induction lookahead ls with
  | case1 => cases h
  | case2 l rest he ih =>
    rw [strip_cons_blank l rest (by cases hb : l.body <;> simp_all [Body.isEmpty, Body.isSig])]
    exact ih h
  | case3 l rest he => cases h; simp [strip, hx]

theorem after_eq_run (ls : List Line) (h : HeadOK ls) : after 0 0 ls = run false 0 0 ls := by
  have : event false 0 0 (lookahead ls) = { toks := [], errs := [], cur := 0, depth := 0 } := by
    cases hl : lookahead ls with
    | none => exact event_none 0 0
    | some x =>
      by_cases hx : x.body.isSig = true
      · exact event_zero x (h x (lookahead_sig_head ls x hl hx))
      · exact event_blank 0 0 x (by simpa using hx)
  simp [after, this]

theorem stepLine_first_sig (f c d) (l : Line) (next) (h : l.body.isSig = true) :
    stepLine f c d l next = stepLine false c d l next := by
  obtain ⟨i, b⟩ := l
  cases b <;> simp_all [Body.isSig, stepLine]

theorem run_first_comment_pure (i rest) :
    run true 0 0 (⟨i, .comment true⟩ :: rest) = run false 0 0 rest := by
  simp [run_cons, stepLine, commentRule]

/-- A blank first line: the comment rule falls off its loop on a pure comment and the indentation of the next line
goes unchecked, which `HeadOK` makes harmless. -/
theorem run_first_blank (l : Line) (rest : List Line) (h : l.body.isSig = false) (hr : HeadOK rest) :
    ∃ nl, run true 0 0 (l :: rest) = { after 0 0 rest with toks := ownNL nl 0 ++ (after 0 0 rest).toks } := by
  obtain ⟨i, b⟩ := l
  cases b with
  | empty => exact ⟨true, run_event_cons true 0 0 true _ rest fun _ => by simp [stepLine, newlineRule_eq]⟩
  | spaces => exact ⟨true, run_event_cons true 0 0 true _ rest (stepLine_spaces true 0 0 i)⟩
  | comment p =>
    cases p with
    | false => exact ⟨true, run_event_cons true 0 0 true _ rest fun _ => by simp [stepLine, commentRule_partial]⟩
    | true => exact ⟨false, by rw [run_first_comment_pure, ← after_eq_run rest hr]; rfl⟩
  | sig toks trail => cases h

/-- the start of the input is a line end with a pending indentation check, if the first significant line is not
indented -/
theorem run_first (ls : List Line) (h : HeadOK ls) : Sim true (run true 0 0 ls) (after 0 0 ls) := by
  cases ls with
  | nil => rw [after_nil]; exact Sim.refl _ _
  | cons l rest =>
    cases hl : l.body.isSig with
    | true =>
      rw [after_eq_run _ h, run_cons, run_cons, stepLine_first_sig true 0 0 l _ hl]
      exact Sim.refl _ _
    | false =>
      have hr : HeadOK rest := (headOK_cons_blank l rest hl).1 h
      obtain ⟨nl, e⟩ := run_first_blank l rest hl hr
      obtain ⟨nl', e'⟩ := after_blank 0 0 l rest hl
      rw [e, e']
      exact ((Sim.refl true _).ownNL nl (Or.inl rfl)).trans ((Sim.refl true _).ownNL nl' (Or.inl rfl)).symm

theorem run_strip (ls : List Line) (h : HeadOK ls) : Sim true (run true 0 0 ls) (run true 0 0 (strip ls)) :=
  (run_first ls h).trans ((strip_sim ls 0 0 true (Or.inl rfl)).trans (run_first _ ((headOK_strip ls).2 h)).symm)

theorem flush_congr (a b : List Tok) (c : Nat) (h : lastFlag true a = lastFlag true b) : flush a c = flush b c := by
  unfold flush endsNL
  rw [h]

/-- block depth bookkeeping over a token stream: `none` = a `DEDENT` below level 0 -/
def scan (c : Nat) : List Tok → Option Nat
  | [] => some c
  | t :: r =>
    match t with
    | .indent => scan (c + 1) r
    | .dedent => if c = 0 then none else scan (c - 1) r
    | _ => scan c r

theorem scan_append (c : Nat) (a b : List Tok) : scan c (a ++ b) = (scan c a).bind (fun c' => scan c' b) := by
  fun_induction scan c a <;> simp_all [scan]

theorem scan_replicate_indent (c k : Nat) : scan c (List.replicate k .indent) = some (c + k) := by
  induction k generalizing c with
  | zero => rfl
  | succ k ih => rw [List.replicate_succ, scan, ih, Nat.add_assoc, Nat.add_comm 1]

theorem scan_replicate_dedent (c k : Nat) (h : k ≤ c) : scan c (List.replicate k .dedent) = some (c - k) := by
  induction k generalizing c with
  | zero => rfl
  | succ k ih =>
    rw [List.replicate_succ, scan, if_neg (by omega), ih (c - 1) (by omega), Nat.sub_sub, Nat.add_comm]

theorem scan_emitToks (c d : Nat) (ts : List Tk) : scan c (emitToks d ts).1 = some c := by
  fun_induction emitToks d ts <;> simp_all [scan]

theorem indentDelta_lower (c : Nat) (next : Option Line) (dl : Int) (e) (h : indentDelta c next = (some dl, e)) :
    -(c : Int) ≤ dl := by
  revert h
  fun_cases indentDelta c next <;> intro h <;> cases h
  simp only [indentUnit]
  omega

theorem scan_nextLineDent (c : Nat) (next : Option Line) :
    scan c (nextLineDent c next).1 = some (nextLineDent c next).2.1 := by
  unfold nextLineDent
  cases hd : indentDelta c next with
  | mk dl e =>
    cases dl with
    | none => simp [scan]
    | some dl =>
      have hl := indentDelta_lower c next dl e hd
      simp only
      by_cases h0 : dl = 0
      · simp [h0, scan]
      · by_cases hp : dl > 0
        · simp [h0, hp, scan_replicate_indent]
        · simp only [h0, hp, if_false]
          rw [scan_replicate_dedent c _ (by omega)]

theorem scan_event (nl : Bool) (c d : Nat) (next) : scan c (event nl c d next).toks = some (event nl c d next).cur := by
  unfold event
  by_cases hd : d = 0
  · cases nl <;> simp [hd, scan, scan_nextLineDent]
  · simp [hd, scan]

theorem scan_stepLine (f : Bool) (c d : Nat) (l : Line) (next) :
    scan c (stepLine f c d l next).toks = some (stepLine f c d l next).cur := by
  obtain ⟨i, b⟩ := l
  cases b with
  | empty => cases f <;> simp [stepLine, newlineRule_eq, scan_event, scan]
  | spaces => simp [stepLine_spaces, scan_event]
  | comment p =>
    cases f
    · simp [stepLine_comment, scan_event]
    · cases p
      · simp [stepLine, commentRule_partial, scan_event]
      · simp only [stepLine, commentRule, if_true]
        split <;> simp [scan]
  | sig toks trail => simp [stepLine_sig, scan_append, scan_emitToks, scan_event]

theorem scan_runL (tn) (f : Bool) (c d : Nat) (ls : List Line) :
    scan c (runL tn f c d ls).toks = some (runL tn f c d ls).cur := by
  induction ls generalizing f c d with
  | nil => simp [runL, scan]
  | cons l rest ih => simp [runL, scan_append, scan_stepLine, ih]

theorem scan_flush (toks : List Tok) (c : Nat) : scan c (flush toks c) = some 0 := by
  unfold flush
  by_cases hc : c > 0
  · simp only [hc, if_true]
    rw [scan_append]
    split <;> simp [scan, scan_replicate_dedent]
  · have : c = 0 := by omega
    simp [this, scan]

theorem scan_count (c c' : Nat) (ts : List Tok) (h : scan c ts = some c') :
    c + ts.count .indent = c' + ts.count .dedent := by
  fun_induction scan c ts with
  | case1 c => cases h; rfl
  | case2 c r ih => have := ih h; simp; omega
  | case3 r => cases h
  | case4 c r hc ih => have := ih h; simp; omega
  | case5 c t r h1 h2 ih =>
    have : (t == .indent) = false ∧ (t == .dedent) = false := ⟨beq_eq_false_iff_ne.2 h1, beq_eq_false_iff_ne.2 h2⟩
    simpa [List.count_cons, this] using ih h

theorem scan_prefix (c c' : Nat) (a b : List Tok) (h : scan c (a ++ b) = some c') : ∃ c'', scan c a = some c'' := by
  rw [scan_append] at h
  cases hs : scan c a with
  | none => simp [hs] at h
  | some x => exact ⟨x, rfl⟩

/-- all that `_get_next_line_indent_delta` uses of a line -/
def lkey (l : Line) : Option Nat := if l.body.isSig then some l.indent else none

theorem indentDelta_congr (c : Nat) {o₁ o₂ : Option Line} (h : o₁.map lkey = o₂.map lkey) :
    indentDelta c o₁ = indentDelta c o₂ := by
  cases o₁ with
  | none =>
    cases o₂ with
    | none => rfl
    | some l₂ => simp at h
  | some l₁ =>
    cases o₂ with
    | none => simp at h
    | some l₂ =>
      obtain ⟨i₁, b₁⟩ := l₁
      obtain ⟨i₂, b₂⟩ := l₂
      cases b₁ <;> cases b₂ <;> simp_all [lkey, indentDelta, Body.isSig]

theorem stepLine_congr (f c d l) {n₁ n₂ : Option Line} (h : n₁.map lkey = n₂.map lkey) :
    stepLine f c d l n₁ = stepLine f c d l n₂ := by
  simp only [stepLine, newlineRule, commentRule, nextLineDent, checkForIndent, indentDelta_congr c h]

theorem runL_congr_tn {t₁ t₂ : Option Line} (h : t₁.map lkey = t₂.map lkey) (f c d) (ls : List Line) :
    runL t₁ f c d ls = runL t₂ f c d ls := by
  induction ls generalizing f c d with
  | nil => rfl
  | cons l rest ih =>
    simp only [runL]
    rw [stepLine_congr f c d l (n₂ := (lookahead rest).or t₂) (by rw [Option.map_or, Option.map_or, h]), ih]

theorem lookahead_append (a b : List Line) : lookahead (a ++ b) = (lookahead a).or (lookahead b) := by
  fun_induction lookahead a <;> simp_all [lookahead]

theorem runL_append (tn f c d) (a b : List Line) :
    runL tn f c d (a ++ b) =
      let r1 := runL ((lookahead b).or tn) f c d a
      let r2 := runL tn (f && a.isEmpty) r1.cur r1.depth b
      { toks := r1.toks ++ r2.toks, errs := r1.errs ++ r2.errs, cur := r2.cur, depth := r2.depth } := by
  induction a generalizing f c d with
  | nil => simp [runL]
  | cons l rest ih =>
    simp only [List.cons_append, runL, lookahead_append, Option.or_assoc, ih, List.isEmpty_cons, Bool.and_false,
      List.append_assoc]
    simp

/-- `t` behind the last token (a line without tokens is left alone) -/
def Line.withTrail (l : Line) (t : Trail) : Line :=
  match l.body with
  | .sig toks _ => ⟨l.indent, .sig toks t⟩
  | _ => l

theorem lkey_withTrail (l : Line) (t) : lkey (l.withTrail t) = lkey l := by
  obtain ⟨i, b⟩ := l
  cases b <;> simp [Line.withTrail, lkey, Body.isSig]

theorem isEmpty_withTrail (l : Line) (t) : (l.withTrail t).body.isEmpty = l.body.isEmpty := by
  obtain ⟨i, b⟩ := l
  cases b <;> simp [Line.withTrail, Body.isEmpty]

theorem stepLine_withTrail (f c d) (l : Line) (t next) : stepLine f c d (l.withTrail t) next = stepLine f c d l next := by
  obtain ⟨i, b⟩ := l
  cases b <;> simp [Line.withTrail, stepLine_sig]

theorem lookahead_map_withTrail (w : Line → Trail) (ls : List Line) :
    (lookahead (ls.map fun l => l.withTrail (w l))).map lkey = (lookahead ls).map lkey := by
  fun_induction lookahead ls <;> simp_all [lookahead, isEmpty_withTrail, lkey_withTrail]

theorem runL_map_withTrail (w : Line → Trail) (tn f c d) (ls : List Line) :
    runL tn f c d (ls.map fun l => l.withTrail (w l)) = runL tn f c d ls := by
  induction ls generalizing f c d with
  | nil => rfl
  | cons l rest ih =>
    simp only [List.map_cons, runL, stepLine_withTrail]
    rw [stepLine_congr f c d l (n₂ := (lookahead rest).or tn)
      (by rw [Option.map_or, Option.map_or, lookahead_map_withTrail]), ih]

theorem emitToks_append (d : Nat) (a b : List Tk) :
    emitToks d (a ++ b) =
      ((emitToks d a).1 ++ (emitToks (emitToks d a).2.2 b).1,
       (emitToks d a).2.1 ++ (emitToks (emitToks d a).2.2 b).2.1,
       (emitToks (emitToks d a).2.2 b).2.2) := by
  fun_induction emitToks d a <;> simp_all [emitToks]

theorem event_cont (nl : Bool) (c d : Nat) (t2 tr2) (hd : d ≠ 0) :
    event nl c d (some ⟨indentUnit * (c + 1), .sig t2 tr2⟩) = { toks := [], errs := [], cur := c, depth := d } := by
  have h1 : indentUnit * (c + 1) % indentUnit = 0 := by simp [indentUnit]
  have h2 : ((indentUnit : Int) * ((c : Int) + 1) - (c : Int) * (indentUnit : Int)) / (indentUnit : Int) = 1 := by
    simp only [indentUnit]; omega
  simp [event, hd, checkForIndent, indentDelta, h1, h2]

theorem runL_break2 (tn f c d i t1 tr1 t2 tr2) (post : List Line) (hopen : (emitToks d t1).2.2 ≠ 0) :
    runL tn f c d (⟨i, .sig t1 tr1⟩ :: ⟨indentUnit * (c + 1), .sig t2 tr2⟩ :: post) =
      runL tn f c d (⟨i, .sig (t1 ++ t2) tr2⟩ :: post) := by
  simp only [runL, lookahead, Body.isEmpty, stepLine_sig, Bool.false_eq_true, if_false, Option.some_or,
    event_cont true c _ t2 tr2 hopen, emitToks_append, event_errs, event_cur]
  simp

/-- one continuation line per chunk (tokens, trailer), each one level above the block level `c` -/
def contLines (c : Nat) (chunks : List (List Tk × Trail)) : List Line :=
  chunks.map fun p => ⟨indentUnit * (c + 1), .sig p.1 p.2⟩

def lastTrail (tr : Trail) : List (List Tk × Trail) → Trail
  | [] => tr
  | p :: more => lastTrail p.2 more

/-- the unbroken form, with the trailer of the last piece -/
def oneLine (i : Nat) (t1 : List Tk) (tr1 : Trail) (chunks : List (List Tk × Trail)) : Line :=
  ⟨i, .sig (t1 ++ (chunks.map (·.1)).flatten) (lastTrail tr1 chunks)⟩

/-- every break point lies inside parentheses -/
def OpenAt (d : Nat) (t1 : List Tk) : List (List Tk × Trail) → Prop
  | [] => True
  | p :: more => (emitToks d t1).2.2 ≠ 0 ∧ OpenAt d (t1 ++ p.1) more

theorem runL_break (tn f c d i) (chunks : List (List Tk × Trail)) : ∀ (t1 tr1) (post : List Line),
    OpenAt d t1 chunks →
    runL tn f c d (⟨i, .sig t1 tr1⟩ :: (contLines c chunks ++ post)) = runL tn f c d (oneLine i t1 tr1 chunks :: post) := by
  induction chunks with
  | nil => intro t1 tr1 post _; simp [contLines, oneLine, lastTrail]
  | cons p more ih =>
    intro t1 tr1 post h
    obtain ⟨h1, h2⟩ := h
    have := ih (t1 ++ p.1) p.2 post h2
    simp only [contLines, List.map_cons, List.cons_append] at this ⊢
    rw [runL_break2 tn f c d i t1 tr1 p.1 p.2 _ h1, this]
    simp [oneLine, lastTrail]

/-- are we inside a string literal after these lines (`st` = before them) -/
def openAfter (st : Bool) : List PLine → Bool
  | [] => st
  | p :: ps => openAfter p.openStr ps

theorem joinGo_append (a b : List PLine) : ∀ st : Option Line, openAfter st.isSome a = false →
    joinGo st (a ++ b) = joinGo st a ++ joinGo none b := by
  intro st
  fun_induction joinGo st a <;> simp_all [joinGo, openAfter]

theorem join_append (a b : List PLine) (h : openAfter false a = false) : join (a ++ b) = join a ++ join b :=
  joinGo_append a b none h

theorem join_closed_cons (p : PLine) (ps : List PLine) (h : p.openStr = false) : join (p :: ps) = p.line :: join ps := by
  simp [join, joinGo, h]

theorem join_closed_append (ins post : List PLine) (h : ∀ p ∈ ins, p.openStr = false) :
    join (ins ++ post) = ins.map (·.line) ++ join post := by
  induction ins with
  | nil => rfl
  | cons p ps ih =>
    rw [List.cons_append, join_closed_cons p _ (h p (by simp)), ih (fun q hq => h q (by simp [hq]))]
    rfl

end StoneVerif.Lex
