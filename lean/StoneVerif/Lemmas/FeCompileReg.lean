import StoneVerif.Lemmas.FeCompileLoops
/-!
Registration (pass 1) and imports (pass 2) of the compileCore model: what the environment holds afterwards.

One registration step has one of three shapes (`Shape`); a relation between the table of bound names and the
declarations registered so far that every shape keeps holds of the built environment (`buildEnv_steps`).  Two relations
are carried that way: `Reg` (what the table holds under a name, `Binds`; `RegInv` is its reading by lookup) and
`RegOrder` (the table in registration order).  `EnvOK` is what the later passes use, and the specification-level views
(`findDef`, `kindS`, `known`, `deprecatedLegal`) are read off the environment.
-/
namespace StoneVerif.FeCompile.L
open StoneVerif.FeParams (TyKind)

def itemOf : Decl → Option Item
  | .type d => some (.type d)
  | .alias _ r => some (.alias r)
  | _ => none

def pairs (fs : List File) : List (String × Decl) := fs.flatMap fun f => f.decls.map fun d => (f.ns, d)

theorem allPairs_eq (fs : List File) : allPairs fs = pairs fs := rfl

theorem mem_declsOf {fs : List File} {ns : String} {d : Decl} : d ∈ declsOf fs ns ↔ (ns, d) ∈ pairs fs := by
  simp only [declsOf, pairs, List.mem_flatMap, List.mem_filter, List.mem_map, beq_iff_eq]
  constructor
  · rintro ⟨f, ⟨hf, hn⟩, hd⟩
    exact ⟨f, hf, d, hd, by rw [hn]⟩
  · rintro ⟨f, hf, d', hd, he⟩
    cases he
    exact ⟨f, ⟨hf, rfl⟩, hd⟩

theorem mem_typeDecls {d : TypeDecl} : ∀ {ds : List Decl}, d ∈ typeDecls ds ↔ Decl.type d ∈ ds
  | [] => by simp [typeDecls]
  | x :: ds => by
    cases x <;> simp [typeDecls, mem_typeDecls (ds := ds)]

theorem typeDecls_append (a b : List Decl) : typeDecls (a ++ b) = typeDecls a ++ typeDecls b := by
  induction a with
  | nil => rfl
  | cons x a ih => cases x <;> simp [typeDecls, ih]

theorem mem_aliasDecls {n : String} {r : TRef} : ∀ {ds : List Decl}, (n, r) ∈ aliasDecls ds ↔ Decl.alias n r ∈ ds
  | [] => by simp [aliasDecls]
  | x :: ds => by
    cases x <;> simp [aliasDecls, mem_aliasDecls (ds := ds)]

theorem aliasDecls_append (a b : List Decl) : aliasDecls (a ++ b) = aliasDecls a ++ aliasDecls b := by
  induction a with
  | nil => rfl
  | cons x a ih => cases x <;> simp [aliasDecls, ih]

theorem mem_routeDecls {r : RouteDecl} : ∀ {ds : List Decl}, r ∈ routeDecls ds ↔ Decl.route r ∈ ds
  | [] => by simp [routeDecls]
  | x :: ds => by
    cases x <;> simp [routeDecls, mem_routeDecls (ds := ds)]

theorem mem_nsNames : ∀ {fs : List File} {acc : List String} {n}, n ∈ nsNames fs acc ↔ n ∈ acc ∨ ∃ f ∈ fs, f.ns = n
  | [], acc, n => by simp [nsNames]
  | f :: fs, acc, n => by
    simp only [nsNames]
    rw [mem_nsNames]
    split
    · rename_i hc
      constructor
      · rintro (h | ⟨g, hg, rfl⟩)
        · exact Or.inl h
        · exact Or.inr ⟨g, List.mem_cons_of_mem _ hg, rfl⟩
      · rintro (h | ⟨g, hg, rfl⟩)
        · exact Or.inl h
        · simp only [List.mem_cons] at hg
          rcases hg with rfl | hg
          · exact Or.inl (by simpa using hc)
          · exact Or.inr ⟨g, hg, rfl⟩
    · constructor
      · rintro (h | ⟨g, hg, rfl⟩)
        · simp only [List.mem_append, List.mem_singleton] at h
          rcases h with h | rfl
          · exact Or.inl h
          · exact Or.inr ⟨f, List.mem_cons_self, rfl⟩
        · exact Or.inr ⟨g, List.mem_cons_of_mem _ hg, rfl⟩
      · rintro (h | ⟨g, hg, rfl⟩)
        · exact Or.inl (List.mem_append_left _ h)
        · simp only [List.mem_cons] at hg
          rcases hg with rfl | hg
          · exact Or.inl (by simp)
          · exact Or.inr ⟨g, hg, rfl⟩

theorem ns_of_decl {fs ns} {d : Decl} (h : d ∈ declsOf fs ns) : ns ∈ nsNames fs [] := by
  rw [mem_nsNames]
  simp only [declsOf, List.mem_flatMap, List.mem_filter, beq_iff_eq] at h
  obtain ⟨f, ⟨hf, hn⟩, _⟩ := h
  exact Or.inr ⟨f, hf, hn⟩

theorem findDef_mem {fs ns n d} (h : findDef fs ns n = some d) : d ∈ declsOf fs ns ∧ declName d = some n := by
  unfold findDef specDecls at h
  exact find?_key_some declName h

theorem findDef_named {fs ns n d} (h : findDef fs ns n = some d) : (∃ td, d = .type td ∧ td.name = n) ∨ (∃ r, d = .alias n r) := by
  obtain ⟨_, hn⟩ := findDef_mem h
  cases d <;> simp [declName] at hn
  · exact Or.inl ⟨_, rfl, hn⟩
  · subst hn; exact Or.inr ⟨_, rfl⟩

def IsType (fs : List File) (k : Key) : Prop := ∃ d, Decl.type d ∈ declsOf fs k.1 ∧ d.name = k.2
def IsAlias (fs : List File) (k : Key) : Prop := ∃ r, Decl.alias k.2 r ∈ declsOf fs k.1

theorem typeS_isSome {rx fs k} (h : (typeS rx fs k).isSome) : IsType fs k := by
  unfold typeS at h
  split at h
  · rename_i d hf
    obtain ⟨hm, hn⟩ := findDef_mem hf
    exact ⟨d, hm, by simpa [declName] using hn⟩
  · cases h

theorem aliasS_isSome {rx fs k} (h : (aliasS rx fs k).isSome) : IsAlias fs k := by
  unfold aliasS at h
  split at h
  · rename_i n r hf
    obtain ⟨hm, hn⟩ := findDef_mem hf
    obtain rfl : n = k.2 := by simpa [declName] using hn
    exact ⟨r, hm⟩
  · cases h

def entryOf : Decl → Option (String × Item)
  | .type d => some (d.name, .type d)
  | .alias n r => some (n, .alias r)
  | .annot n k => some (n, .annot k)
  | .annotType n => some (n, .other)
  | .route r => some (r.name, .routes [r.version])
  | _ => none

theorem anyName_eq (d : Decl) : anyName d = (entryOf d).map (·.1) := by cases d <;> rfl

theorem anyName_of_entryOf {d : Decl} {n i} (h : entryOf d = some (n, i)) : anyName d = some n := by
  rw [anyName_eq, h]; rfl

theorem entryOf_of_declName {d : Decl} {n} (h : declName d = some n) :
    ∃ i, entryOf d = some (n, i) ∧ itemOf d = some i := by
  cases d <;> simp [declName] at h <;> subst h <;> exact ⟨_, rfl, rfl⟩

theorem entryOf_type {d : Decl} {n td} (h : entryOf d = some (n, .type td)) : d = .type td ∧ td.name = n := by
  cases d <;> simp [entryOf] at h
  obtain ⟨rfl, rfl⟩ := h
  exact ⟨rfl, rfl⟩

theorem entryOf_alias {d : Decl} {n r} (h : entryOf d = some (n, .alias r)) : d = .alias n r := by
  cases d <;> simp [entryOf] at h
  obtain ⟨rfl, rfl⟩ := h
  rfl

theorem entryOf_annot {d : Decl} {n k} : entryOf d = some (n, .annot k) ↔ d = .annot n k := by
  cases d <;> simp [entryOf]

theorem entryOf_routes {d : Decl} {n vs} : entryOf d = some (n, .routes vs) ↔ ∃ r, d = .route r ∧ r.name = n ∧ vs = [r.version] := by
  cases d <;> simp [entryOf, eq_comm]

/-- what a successful `regDecl` of `d` in namespace `ns` does to the table of bound names -/
inductive Shape (items : List (Key × Item)) (ns : String) (d : Decl) : List (Key × Item) → Prop
  | skip : entryOf d = none → Shape items ns d items
  | fresh (name : String) (i : Item) : entryOf d = some (name, i) → items.lookup (ns, name) = none →
      TyKind.ofName? name = none → Shape items ns d (((ns, name), i) :: items)
  | more (r : RouteDecl) (vs : List Int) : d = .route r → items.lookup (ns, r.name) = some (.routes vs) →
      ¬ r.version ∈ vs → Shape items ns d (((ns, r.name), .routes (r.version :: vs)) :: items)

theorem checkCanon_items {st c name ns dup st'} (h : checkCanon st c name ns dup = .ok st') :
    st'.items = st.items ∧ st'.nss = st.nss := by
  unfold checkCanon at h
  simp only at h
  split at h
  · cases h; exact ⟨rfl, rfl⟩
  · split at h
    · cases h; exact ⟨rfl, rfl⟩
    · cases h

theorem lookupSym_cases {items : List (Key × Item)} {ns name e} (h : lookupSym items ns name = some e) :
    (∃ i, e = .item i ∧ items.lookup (ns, name) = some i) ∨
    (∃ k, e = .builtin k ∧ items.lookup (ns, name) = none ∧ TyKind.ofName? name = some k) := by
  unfold lookupSym at h
  split at h
  · rename_i i hi; cases h; exact Or.inl ⟨i, rfl, hi⟩
  · rename_i hi
    cases hk : TyKind.ofName? name with
    | none => simp [hk] at h
    | some k => simp [hk] at h; exact Or.inr ⟨k, h.symm, hi, rfl⟩

theorem lookupSym_none {items : List (Key × Item)} {ns name} (h : lookupSym items ns name = none) :
    items.lookup (ns, name) = none ∧ TyKind.ofName? name = none := by
  unfold lookupSym at h
  split at h
  · cases h
  · rename_i hi
    exact ⟨hi, by simpa using h⟩

theorem lookupSym_routes {items : List (Key × Item)} {ns name vs} (h : lookupSym items ns name = some (.item (.routes vs))) :
    items.lookup (ns, name) = some (.routes vs) := by
  rcases lookupSym_cases h with ⟨i, he, hi⟩ | ⟨k, he, _⟩ <;> cases he
  exact hi

theorem bindNew_shape {st ns name i c st'} {d : Decl} (h : bindNew st ns name i c = .ok st')
    (he : entryOf d = some (name, i)) : Shape st.items ns d st'.items ∧ st'.nss = st.nss := by
  unfold bindNew at h
  split at h
  · cases h
  · rename_i hl
    rw [(checkCanon_items h).1, (checkCanon_items h).2]
    exact ⟨.fresh name i he (lookupSym_none hl).1 (lookupSym_none hl).2, rfl⟩

theorem regDecl_shape {st ns d st'} (h : regDecl st ns d = .ok st') :
    Shape st.items ns d st'.items ∧ st'.nss = st.nss := by
  cases d with
  | type td => exact bindNew_shape h rfl
  | «alias» n r => exact bindNew_shape h rfl
  | annot n ak => exact bindNew_shape h rfl
  | annotType n =>
    simp only [regDecl] at h
    split at h
    · cases h
    · rename_i hl
      split at h
      · cases h
      · rw [(checkCanon_items h).1, (checkCanon_items h).2]
        exact ⟨.fresh n .other rfl (lookupSym_none hl).1 (lookupSym_none hl).2, rfl⟩
  | imp t => simp only [regDecl] at h; cases h; exact ⟨.skip rfl, rfl⟩
  | patch q => simp only [regDecl] at h; cases h; exact ⟨.skip rfl, rfl⟩
  | aliasAnnots n as => simp only [regDecl] at h; cases h; exact ⟨.skip rfl, rfl⟩
  | route r =>
    simp only [regDecl] at h
    split at h
    · rename_i vs hl
      split at h
      · cases h
      · rename_i hv
        rw [(checkCanon_items h).1, (checkCanon_items h).2]
        exact ⟨.more r vs rfl (lookupSym_routes hl) (by simpa using hv), rfl⟩
    · cases h
    · rename_i hl
      rw [(checkCanon_items h).1, (checkCanon_items h).2]
      exact ⟨.fresh r.name (.routes [r.version]) rfl (lookupSym_none hl).1 (lookupSym_none hl).2, rfl⟩

section Steps
variable {R : List (Key × Item) → List (String × Decl) → Prop}
  (step : ∀ {items P ns d items'}, R items P → Shape items ns d items' → R items' (P ++ [(ns, d)]))
include step

theorem regDecls_steps {ns} : ∀ {ds : List Decl} {st st' P}, R st.items P → regDecls st ns ds = .ok st' →
    R st'.items (P ++ ds.map (fun d => (ns, d))) ∧ st'.nss = st.nss
  | [], st, st', P, hR, h => by simp only [regDecls] at h; cases h; simpa using hR
  | d :: ds, st, st', P, hR, h => by
    simp only [regDecls] at h
    split at h
    · rename_i st1 h1
      obtain ⟨hs, hn⟩ := regDecl_shape h1
      obtain ⟨hR2, hn2⟩ := regDecls_steps (step hR hs) h
      exact ⟨by simpa [List.append_assoc] using hR2, hn2.trans hn⟩
    · cases h

theorem regFiles_steps : ∀ {fs : List File} {st st' P}, R st.items P → regFiles st fs = .ok st' →
    R st'.items (P ++ pairs fs) ∧ st'.nss = nsNames fs st.nss
  | [], st, st', P, hR, h => by
    simp only [regFiles] at h; cases h
    simpa [pairs, nsNames] using hR
  | f :: fs, st, st', P, hR, h => by
    simp only [regFiles] at h
    split at h
    · rename_i st1 h1
      unfold regFile at h1
      -- the updated record's `items` are `st.items` only after unfolding: `by exact` defers to that
      obtain ⟨hR1, hn1⟩ := regDecls_steps step (P := P) (by exact hR) h1
      obtain ⟨hR2, hn2⟩ := regFiles_steps hR1 h
      exact ⟨by simpa [pairs, List.append_assoc] using hR2, by rw [hn2, hn1]; rfl⟩
    · cases h

end Steps

theorem regFiles_nss {fs : List File} {st} (h : regFiles {} fs = .ok st) : st.nss = nsNames fs [] :=
  (regFiles_steps (R := fun _ _ => True) (fun _ _ => trivial) (P := []) trivial h).2

def pushNs (acc : List String) (n : String) : List String := if acc.contains n then acc else acc ++ [n]

theorem buildEnv_eq_ok {fs E} (h : buildEnv fs = .ok E) : ∃ st, regFiles {} fs = .ok st ∧
    addImportsFiles st.nss [] fs = .ok E.imports ∧ E.files = fs ∧ E.nss = st.nss ∧ E.items = st.items := by
  unfold buildEnv at h
  split at h
  · cases h
  · rename_i st hst
    split at h
    · cases h
    · rename_i I hI
      cases h
      exact ⟨st, hst, hI, rfl, rfl, rfl⟩

theorem buildEnv_steps {R : List (Key × Item) → List (String × Decl) → Prop}
    (step : ∀ {items P ns d items'}, R items P → Shape items ns d items' → R items' (P ++ [(ns, d)]))
    (h0 : R [] []) {fs E} (h : buildEnv fs = .ok E) : R E.items (pairs fs) := by
  obtain ⟨st, hst, _, _, _, hi⟩ := buildEnv_eq_ok h
  rw [hi]
  simpa using (regFiles_steps step (P := []) h0 hst).1

structure RegInv (items : List (Key × Item)) (P : List (String × Decl)) : Prop where
  found : ∀ ns d n, (ns, d) ∈ P → declName d = some n → items.lookup (ns, n) = itemOf d
  typeMem : ∀ k d, (k, Item.type d) ∈ items → (k.1, Decl.type d) ∈ P ∧ d.name = k.2
  aliasMem : ∀ k r, (k, Item.alias r) ∈ items → (k.1, Decl.alias k.2 r) ∈ P

/-- the declarations of namespace `ns` that bind the name `n`, in the order they are registered -/
def named (P : List (String × Decl)) (ns n : String) : List Decl :=
  (P.filter fun p => p.1 == ns && anyName p.2 == some n).map (·.2)

theorem named_snoc (P : List (String × Decl)) (ns n ns' : String) (d : Decl) :
    named (P ++ [(ns', d)]) ns n = named P ns n ++ if (ns', anyName d) = (ns, some n) then [d] else [] := by
  unfold named
  rw [List.filter_append, List.map_append]
  by_cases h : (ns', anyName d) = (ns, some n)
  · obtain ⟨h1, h2⟩ := Prod.mk.inj h
    simp [h1, h2]
  · have : (ns' == ns && anyName d == some n) = false := by
      rw [Bool.eq_false_iff]; intro hc; simp only [Bool.and_eq_true, beq_iff_eq] at hc; exact h (by rw [hc.1, hc.2])
    simp [this, h]

theorem mem_named {P : List (String × Decl)} {ns n d} : d ∈ named P ns n ↔ (ns, d) ∈ P ∧ anyName d = some n := by
  simp only [named, List.mem_map, List.mem_filter, Bool.and_eq_true, beq_iff_eq]
  constructor
  · rintro ⟨⟨ns', d'⟩, ⟨hm, h1, h2⟩, rfl⟩; cases h1; exact ⟨hm, h2⟩
  · rintro ⟨hm, h2⟩; exact ⟨(ns, d), ⟨hm, rfl, h2⟩, rfl⟩

/-- What the table holds under a name, given the declarations `D` that bind it: nothing when there is none; the one
declaration when it is not a route; for routes, all of `D` are routes and the entry lists their versions, latest first. -/
def Binds (n : String) (D : List Decl) : Option Item → Prop
  | none => D = []
  | some (.routes vs) => ∃ rs : List RouteDecl, rs ≠ [] ∧ D = rs.map .route ∧ vs = (rs.map (·.version)).reverse
  | some i => ∃ d, D = [d] ∧ entryOf d = some (n, i)

theorem Binds.single {n d i} (he : entryOf d = some (n, i)) : Binds n [d] (some i) := by
  cases i with
  | routes vs =>
    obtain ⟨r, rfl, _, rfl⟩ := entryOf_routes.mp he
    exact ⟨[r], by simp, rfl, rfl⟩
  | type _ | «alias» _ | other | annot _ => exact ⟨d, rfl, he⟩

theorem Binds.of_mem {n D o d} (h : Binds n D o) (hd : d ∈ D) :
    ∃ i, o = some i ∧ (entryOf d = some (n, i) ∨ ∃ r vs, d = .route r ∧ i = .routes vs) := by
  cases o with
  | none => rw [show D = [] from h] at hd; cases hd
  | some i =>
    refine ⟨i, rfl, ?_⟩
    cases i with
    | routes vs =>
      obtain ⟨rs, _, hD, _⟩ := h
      obtain ⟨r, _, rfl⟩ := List.mem_map.mp (hD ▸ hd)
      exact Or.inr ⟨r, vs, rfl, rfl⟩
    | type _ | «alias» _ | other | annot _ =>
      obtain ⟨d', hD, he⟩ := h
      rw [hD, List.mem_singleton] at hd
      exact Or.inl (hd ▸ he)

theorem Binds.isSome_iff {n D o} (h : Binds n D o) : o.isSome ↔ D ≠ [] := by
  cases o with
  | none => simp [show D = [] from h]
  | some i =>
    cases i with
    | routes vs => obtain ⟨rs, hne, hD, _⟩ := h; simpa [hD] using hne
    | type _ | «alias» _ | other | annot _ => obtain ⟨d, hD, _⟩ := h; simp [hD]

structure Reg (items : List (Key × Item)) (P : List (String × Decl)) : Prop where
  binds : ∀ ns n, Binds n (named P ns n) (items.lookup (ns, n))
  mem : ∀ k i, (k, i) ∈ items → TyKind.ofName? k.2 = none ∧
    ((∃ vs, i = .routes vs) ∨ ∃ d, (k.1, d) ∈ P ∧ entryOf d = some (k.2, i))

theorem Reg.init : Reg [] [] := ⟨fun _ _ => rfl, by simp⟩

theorem Reg.step {items P ns d items'} (hI : Reg items P) (hs : Shape items ns d items') :
    Reg items' (P ++ [(ns, d)]) := by
  have hold : ∀ k i, (k, i) ∈ items → TyKind.ofName? k.2 = none ∧
      ((∃ vs, i = .routes vs) ∨ ∃ d', (k.1, d') ∈ P ++ [(ns, d)] ∧ entryOf d' = some (k.2, i)) := fun k i hm =>
    (hI.mem k i hm).imp_right (Or.imp_right fun ⟨d', h1, h2⟩ => ⟨d', List.mem_append_left _ h1, h2⟩)
  -- a name other than the one `d` binds keeps its declarations and its entry
  have hother : ∀ {name i} ns' n, anyName d = some name → (ns', n) ≠ (ns, name) →
      Binds n (named (P ++ [(ns, d)]) ns' n) ((((ns, name), i) :: items).lookup (ns', n)) := by
    intro name i ns' n hn hk
    rw [lookup_cons_ne hk, named_snoc, hn, if_neg (fun h => hk (by cases h; rfl)), List.append_nil]
    exact hI.binds ns' n
  cases hs with
  | skip he =>
    have hn : anyName d = none := by rw [anyName_eq, he]; rfl
    exact ⟨fun ns' n => by rw [named_snoc, hn, if_neg (by simp), List.append_nil]; exact hI.binds ns' n, hold⟩
  | fresh name i he hl hnb =>
    have hn := anyName_of_entryOf he
    refine ⟨fun ns' n => ?_, fun k j hm => ?_⟩
    · by_cases hk : (ns', n) = (ns, name)
      · cases hk
        have h0 : named P ns name = [] := by have := hI.binds ns name; rwa [hl] at this
        rw [List.lookup_cons_self, named_snoc, hn, if_pos rfl, h0]
        exact Binds.single he
      · exact hother ns' n hn hk
    · rcases List.mem_cons.mp hm with hm | hm
      · cases hm; exact ⟨hnb, Or.inr ⟨d, by simp, he⟩⟩
      · exact hold k j hm
  | more r vs hd hl hv =>
    subst hd
    refine ⟨fun ns' n => ?_, fun k j hm => ?_⟩
    · by_cases hk : (ns', n) = (ns, r.name)
      · cases hk
        obtain ⟨rs, hne, hD, hvs⟩ : Binds r.name (named P ns r.name) (some (.routes vs)) := by
          have := hI.binds ns r.name; rwa [hl] at this
        rw [List.lookup_cons_self, named_snoc, if_pos (show (ns, anyName (Decl.route r)) = (ns, some r.name) from rfl), hD]
        exact ⟨rs ++ [r], by simp, by simp, by simp [hvs]⟩
      · exact hother ns' n rfl hk
    · rcases List.mem_cons.mp hm with hm | hm
      · cases hm; exact ⟨(hI.mem _ _ (mem_of_lookup hl)).1, Or.inl ⟨_, rfl⟩⟩
      · exact hold k j hm

theorem Reg.regInv {items P} (h : Reg items P) : RegInv items P := by
  refine ⟨fun ns d n hm hn => ?_, fun k td hm => ?_, fun k r hm => ?_⟩
  · obtain ⟨j, hj, hi⟩ := entryOf_of_declName hn
    obtain ⟨i, ho, he | ⟨r, _, rfl, _⟩⟩ := (h.binds ns n).of_mem (mem_named.mpr ⟨hm, anyName_of_entryOf hj⟩)
    · rw [hj] at he; cases he
      rw [ho, hi]
    · cases hn
  · rcases (h.mem k _ hm).2 with ⟨vs, hv⟩ | ⟨d, hd, he⟩
    · cases hv
    · obtain ⟨rfl, hn⟩ := entryOf_type he
      exact ⟨hd, hn⟩
  · rcases (h.mem k _ hm).2 with ⟨vs, hv⟩ | ⟨d, hd, he⟩
    · cases hv
    · rw [← entryOf_alias he]; exact hd

theorem Reg.nobuiltin {items P} (h : Reg items P) {ns n : String} {i} (hi : items.lookup (ns, n) = some i) :
    TyKind.ofName? n = none :=
  (h.mem _ _ (mem_of_lookup hi)).1

theorem Reg.annot_iff {items P} (h : Reg items P) (ns n : String) (k : AnnotKind) :
    items.lookup (ns, n) = some (.annot k) ↔ (ns, Decl.annot n k) ∈ P := by
  constructor
  · intro hl
    rcases (h.mem _ _ (mem_of_lookup hl)).2 with ⟨vs, hv⟩ | ⟨d, hd, he⟩
    · cases hv
    · rw [← entryOf_annot.mp he]; exact hd
  · intro hm
    obtain ⟨i, ho, he | ⟨r, _, hr, _⟩⟩ := (h.binds ns n).of_mem (mem_named.mpr ⟨hm, rfl⟩)
    · cases he; exact ho
    · cases hr

theorem Reg.bound_eq {items fs} (hR : Reg items (pairs fs)) (ns n : String) :
    (items.lookup (ns, n)).isSome = (declsOf fs ns).any fun d => anyName d == some n := by
  rw [Bool.eq_iff_iff, (hR.binds ns n).isSome_iff, List.any_eq_true]
  simp only [beq_iff_eq, mem_declsOf, ← mem_named]
  exact ⟨List.exists_mem_of_ne_nil _, fun ⟨_, hd⟩ => List.ne_nil_of_mem hd⟩

def shapeOf : Item → Option TypeDecl
  | .type d => some d
  | _ => none

def declShape : Decl → Option TypeDecl
  | .type d => some d
  | _ => none

def namedEntry : String × Decl → Option (Key × Option TypeDecl)
  | (ns, d) => (anyName d).map fun n => ((ns, n), declShape d)

/-- The table is the name-binding declarations latest first (hence `reverse`), so the first entry under a canonical key
is the LAST declaration with that key: how `_merge_patches` finds its target (`itemAt_spec`, FeCompileFull). -/
def RegOrder (items : List (Key × Item)) (P : List (String × Decl)) : Prop :=
  items.map (fun p => (p.1, shapeOf p.2)) = (P.filterMap namedEntry).reverse

theorem shapeOf_entryOf {d : Decl} {n i} (h : entryOf d = some (n, i)) : shapeOf i = declShape d := by
  cases d <;> simp [entryOf] at h <;> obtain ⟨_, rfl⟩ := h <;> rfl

theorem RegOrder.step {items P ns d items'} (hI : RegOrder items P) (hs : Shape items ns d items') :
    RegOrder items' (P ++ [(ns, d)]) := by
  unfold RegOrder at hI ⊢
  cases hs with
  | skip he => simp [List.filterMap_append, namedEntry, anyName_eq, he, hI]
  | fresh name i he _ _ =>
    simp [List.filterMap_append, namedEntry, anyName_of_entryOf he, hI, shapeOf_entryOf he]
  | more r vs hd _ _ =>
    subst hd
    have h1 : shapeOf (Item.routes (r.version :: vs)) = none := rfl
    simp [List.filterMap_append, namedEntry, anyName, declShape, h1, hI]

theorem addImport_ok_iff {nss I ns t I'} : addImport nss I ns t = .ok I' ↔ ns ≠ t ∧ nss.contains t = true ∧
    anyTri (search (importsOf I) ns (nss.length + 1)) (importsOf I t) = .no ∧ I' = (ns, t) :: I := by
  unfold addImport
  by_cases h1 : ns = t
  · simp [h1]
  · have hb : (ns == t) = false := by simpa using h1
    cases h2 : nss.contains t with
    | false => simp [hb]
    | true =>
      cases h3 : anyTri (search (importsOf I) ns (nss.length + 1)) (importsOf I t) with
      | yes => simp [hb]
      | fuel => simp [hb]
      | no => simp [hb, h1, eq_comm (a := I')]

def foldImports (nss : List String) : List (String × String) → List (String × String) → Except Err (List (String × String)) :=
  foldE fun I p => addImport nss I p.1 p.2

theorem addImportsDecls_fold {nss ns} : ∀ {ds : List Decl} {I},
    addImportsDecls nss I ns ds = foldImports nss I ((ds.map fun d => (ns, d)).filterMap importOf)
  | [], I => by simp [addImportsDecls, foldImports, foldE]
  | d :: ds, I => by
    cases d with
    | imp t =>
      simp only [addImportsDecls, List.map_cons, List.filterMap_cons, importOf, foldImports, foldE]
      cases addImport nss I ns t with
      | error e => rfl
      | ok I' => exact addImportsDecls_fold
    | type _ | «alias» _ _ | route _ | annot _ _ | annotType _ | patch _ | aliasAnnots _ _ =>
      simp only [addImportsDecls, List.map_cons, List.filterMap_cons, importOf]
      exact addImportsDecls_fold

theorem addImportsFiles_fold {nss} : ∀ {fs : List File} {I},
    addImportsFiles nss I fs = foldImports nss I (importPairs fs)
  | [], I => by simp [addImportsFiles, importPairs, allPairs, foldImports, foldE]
  | f :: fs, I => by
    simp only [addImportsFiles, importPairs, allPairs, List.flatMap_cons, List.filterMap_append]
    rw [foldImports, foldE_append, ← foldImports, ← addImportsDecls_fold]
    cases addImportsDecls nss I f.ns f.decls with
    | error e => rfl
    | ok I' =>
      simp only
      rw [addImportsFiles_fold]
      rfl

theorem foldImports_mem {nss ps I I'} (h : foldImports nss I ps = .ok I') (p : String × String) :
    p ∈ I' ↔ p ∈ I ∨ p ∈ ps :=
  foldE_induct (P := fun pre J => ∀ p, p ∈ J ↔ p ∈ I ∨ p ∈ pre)
    (fun pre q J J' _ hP hq p => by
      rw [(addImport_ok_iff.mp hq).2.2.2, List.mem_cons, hP p, List.mem_append, List.mem_singleton, or_left_comm,
        or_comm (b := p ∈ pre)]) (by simp) h p

theorem mem_importPairs {fs : List File} {p : String × String} : p ∈ importPairs fs ↔ (p.1, Decl.imp p.2) ∈ allPairs fs := by
  unfold importPairs
  simp only [List.mem_filterMap]
  constructor
  · rintro ⟨⟨ns, d⟩, hm, hd⟩
    cases d <;> simp [importOf] at hd
    subst hd
    exact hm
  · intro h
    exact ⟨_, h, by simp [importOf]⟩

structure EnvOK (E : Env) (fs : List File) : Prop where
  files : E.files = fs
  nss : E.nss = nsNames fs []
  reg : RegInv E.items (pairs fs)
  imports : ∀ ns t, E.imports.contains (ns, t) = true ↔ (ns, Decl.imp t) ∈ pairs fs

theorem buildEnv_envOK {fs E} (h : buildEnv fs = .ok E) : EnvOK E fs := by
  obtain ⟨st, hst, hI, hf, hn, _⟩ := buildEnv_eq_ok h
  refine ⟨hf, ?_, (buildEnv_steps Reg.step Reg.init h).regInv, ?_⟩
  · rw [hn, regFiles_nss hst]
  · intro ns t
    rw [addImportsFiles_fold] at hI
    rw [List.contains_iff_mem, foldImports_mem hI, mem_importPairs, allPairs_eq]
    simp

/-- `EnvOK` with `Reg` (`nobuiltin`, `binds`, `annot_iff`) and `RegOrder` (patches, FeCompileFull) -/
structure EnvOK2 (E : Env) (fs : List File) : Prop where
  ok : EnvOK E fs
  reg : Reg E.items (pairs fs)
  order : RegOrder E.items (pairs fs)

theorem buildEnv_envOK2 {fs E} (h : buildEnv fs = .ok E) : EnvOK2 E fs :=
  ⟨buildEnv_envOK h, buildEnv_steps Reg.step Reg.init h,
    buildEnv_steps RegOrder.step (by simp [RegOrder]) h⟩

theorem EnvOK.ns_mem {E fs} (h : EnvOK E fs) {ns} {d : Decl} (hd : d ∈ declsOf fs ns) : ns ∈ E.nss :=
  h.nss ▸ ns_of_decl hd

theorem EnvOK.lookup_decl {E fs} (h : EnvOK E fs) {ns d n} (hd : d ∈ declsOf fs ns) (hn : declName d = some n) :
    E.items.lookup (ns, n) = itemOf d :=
  h.reg.found ns d n (mem_declsOf.mp hd) hn

theorem EnvOK.lookup_type {E fs} (hE : EnvOK E fs) {ns d} (h : d ∈ typeDecls (declsOf fs ns)) :
    E.items.lookup (ns, d.name) = some (.type d) :=
  hE.lookup_decl (mem_typeDecls.mp h) (n := d.name) rfl

theorem EnvOK.lookup_alias {E fs} (hE : EnvOK E fs) {ns n r} (h : (n, r) ∈ aliasDecls (declsOf fs ns)) :
    E.items.lookup (ns, n) = some (.alias r) :=
  hE.lookup_decl (mem_aliasDecls.mp h) (n := n) rfl

theorem EnvOK.type_decl {E fs} (h : EnvOK E fs) {k d} (hl : E.items.lookup k = some (.type d)) :
    Decl.type d ∈ declsOf fs k.1 ∧ d.name = k.2 := by
  have := h.reg.typeMem k d (mem_of_lookup hl)
  exact ⟨mem_declsOf.mpr this.1, this.2⟩

theorem EnvOK.alias_decl {E fs} (h : EnvOK E fs) {k r} (hl : E.items.lookup k = some (.alias r)) :
    Decl.alias k.2 r ∈ declsOf fs k.1 :=
  mem_declsOf.mpr (h.reg.aliasMem k r (mem_of_lookup hl))

def defOf (n : String) : Item → Option Decl
  | .type d => some (.type d)
  | .alias r => some (.alias n r)
  | _ => none

theorem EnvOK.findDef_eq {E fs} (h : EnvOK E fs) (ns n : String) :
    findDef fs ns n = (E.items.lookup (ns, n)).bind (defOf n) := by
  unfold findDef specDecls
  cases hf : (declsOf fs ns).find? (fun d => declName d == some n) with
  | some d =>
    obtain ⟨hm, hp⟩ := find?_key_some declName hf
    rw [h.lookup_decl hm hp]
    cases d <;> simp [declName] at hp <;> subst hp <;> rfl
  | none =>
    rw [List.find?_eq_none] at hf
    cases hl : E.items.lookup (ns, n) with
    | none => rfl
    | some i =>
      cases i with
      | type d =>
        have := h.type_decl hl
        exact absurd (by simp [declName, this.2]) (hf _ this.1)
      | «alias» r => exact absurd (by simp [declName]) (hf _ (h.alias_decl hl))
      | routes _ | other | annot _ => rfl

theorem EnvOK.findDef_type {E fs} (h : EnvOK E fs) {k : Key} {d} (hl : E.items.lookup k = some (.type d)) :
    findDef fs k.1 k.2 = some (.type d) := by
  rw [h.findDef_eq, hl]; rfl

theorem EnvOK.findDef_alias {E fs} (h : EnvOK E fs) {k : Key} {r} (hl : E.items.lookup k = some (.alias r)) :
    findDef fs k.1 k.2 = some (.alias k.2 r) := by
  rw [h.findDef_eq, hl]; rfl

theorem EnvOK.typeS_eq {rx E fs} (h : EnvOK E fs) {k : Key} {d} (hl : E.items.lookup k = some (.type d)) :
    typeS rx fs k = denoteType rx fs k.1 d := by
  unfold typeS; rw [h.findDef_type hl]

theorem EnvOK.aliasS_eq {rx E fs} (h : EnvOK E fs) {k : Key} {r} (hl : E.items.lookup k = some (.alias r)) :
    aliasS rx fs k = denoteRef rx fs k.1 r := by
  unfold aliasS; rw [h.findDef_alias hl]

theorem EnvOK.imported_eq {E fs} (h : EnvOK E fs) (ns q : String) :
    E.imports.contains (ns, q) = imported fs ns q := by
  rw [Bool.eq_iff_iff, h.imports]
  unfold imported specDecls
  rw [List.contains_iff_mem, mem_declsOf]

theorem EnvOK.lookup_eq {E fs} (hE : EnvOK E fs) (ns name : String) :
    E.lookup ns name = if imported fs ns name then some (.ns name) else lookupSym E.items ns name := by
  unfold Env.lookup
  rw [hE.imported_eq]

theorem kindOf_some {E : Env} {k kd} (h : kindOf E k = some kd) : ∃ d, E.items.lookup k = some (.type d) ∧ d.kind = kd := by
  unfold kindOf at h
  split at h
  · rename_i d hd; cases h; exact ⟨d, hd, rfl⟩
  · cases h

theorem EnvOK.kindOf_eq {E fs} (hE : EnvOK E fs) (k : Key) : kindOf E k = kindS fs k := by
  unfold kindOf kindS
  rw [hE.findDef_eq]
  cases E.items.lookup k with
  | none => rfl
  | some i => cases i <;> rfl

theorem EnvOK.aliasFuel_eq {E fs} (hE : EnvOK E fs) : aliasFuel E = fuelA fs := by
  unfold aliasFuel fuelA; rw [hE.files]

theorem EnvOK.populateFuel_eq {E fs} (hE : EnvOK E fs) : populateFuel E = fuelT fs := by
  unfold populateFuel fuelT; rw [hE.files]

theorem EnvOK2.known_eq {E fs} (hE : EnvOK2 E fs) (ns name : String) :
    (E.lookup ns name).isSome = known fs ns name := by
  unfold known
  rw [hE.ok.lookup_eq, ← hE.reg.bound_eq]
  unfold lookupSym
  cases imported fs ns name <;> cases E.items.lookup (ns, name) <;> simp

theorem EnvOK2.deprecated_eq {E fs} (hE : EnvOK2 E fs) (ns : String) (dep : Option (Option (String × Int))) :
    isOk (routeDeprecated E ns dep) = deprecatedLegal fs ns dep := by
  unfold routeDeprecated deprecatedLegal
  split
  · rename_i name v
    rw [hE.ok.lookup_eq]
    cases hi : imported fs ns name with
    | true => simp [isOk]
    | false =>
      have hany : (routeDecls (declsOf fs ns)).any (fun r => r.name == name && r.version == v) = true ↔
          ∃ r, Decl.route r ∈ named (pairs fs) ns name ∧ r.version = v := by
        simp only [List.any_eq_true, Bool.and_eq_true, beq_iff_eq, mem_routeDecls, mem_declsOf, mem_named, anyName,
          Option.some.injEq, and_assoc]
      have hb := hE.reg.binds ns name
      simp only [Bool.false_eq_true, ↓reduceIte, Bool.not_false, Bool.true_and]
      unfold lookupSym
      cases hl : E.items.lookup (ns, name) with
      | none =>
        rw [hl] at hb
        have : (routeDecls (declsOf fs ns)).any (fun r => r.name == name && r.version == v) = false := by
          rw [Bool.eq_false_iff, ne_eq, hany, show named (pairs fs) ns name = [] from hb]; simp
        rw [this]
        cases TyKind.ofName? name <;> rfl
      | some i =>
        rw [hl] at hb
        cases i with
        | routes vs =>
          obtain ⟨rs, _, hD, rfl⟩ := hb
          have : (routeDecls (declsOf fs ns)).any (fun r => r.name == name && r.version == v) =
              ((rs.map (·.version)).reverse).contains v := by
            rw [Bool.eq_iff_iff, hany, hD]; simp
          rw [this]
          cases hc : ((rs.map (·.version)).reverse).contains v <;> simp only [hc] <;> rfl
        | type _ | «alias» _ | other | annot _ =>
          obtain ⟨d, hD, he⟩ := hb
          have : (routeDecls (declsOf fs ns)).any (fun r => r.name == name && r.version == v) = false := by
            rw [Bool.eq_false_iff, ne_eq, hany, hD]
            rintro ⟨r, hr, _⟩
            rw [List.mem_singleton] at hr
            subst hr
            cases he
          rw [this]
          rfl
  · rfl

end StoneVerif.FeCompile.L
