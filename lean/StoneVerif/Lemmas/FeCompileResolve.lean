import StoneVerif.Lemmas.FeCompileReg
import StoneVerif.Lemmas.FeParams
/-!
`_resolve_type` of the compileCore model against the specification-level reading of a reference
(`resolveW_ok_iff`): it succeeds exactly on the references that are well formed (`refStatic`) and whose `?` stand on
something that is not nullable / Void as far as the aliases set at that moment show, and what it returns is the
denoted type.

The head of a reference is read off the environment the way the specification level reads it off the declarations
(`EnvOK2.headS_eq`); the three shapes of a reference are treated alike (`TRef.args`, `resolveW_eq`, `denoteRef_eq`,
`refStatic_eq`).
-/
namespace StoneVerif.FeCompile.L
open StoneVerif.FeParams (TyKind TyVal Arg)

def meaningOf (ens name : String) : Entry → Option Meaning
  | .builtin k => some (.builtin k)
  | .item (.type _) => some (.user (ens, name))
  | .item (.alias _) => some (.alias (ens, name))
  | _ => none

theorem EnvOK2.meaningIn_eq {E fs} (hE : EnvOK2 E fs) (ns name : String) :
    meaningIn fs ns name = (lookupSym E.items ns name).bind (meaningOf ns name) := by
  unfold meaningIn lookupSym
  rw [hE.ok.findDef_eq]
  cases hi : E.items.lookup (ns, name) with
  | none => cases TyKind.ofName? name <;> rfl
  | some i =>
    have hnb := hE.reg.nobuiltin hi
    cases i <;> simp [defOf, meaningOf, hnb]

theorem EnvOK2.lookup_meaning {E fs} (hE : EnvOK2 E fs) (ens name : String) :
    (E.lookup ens name).bind (meaningOf ens name) = if imported fs ens name then none else meaningIn fs ens name := by
  rw [hE.ok.lookup_eq, hE.meaningIn_eq]
  cases imported fs ens name <;> rfl

theorem EnvOK2.headS_eq {E fs} (hE : EnvOK2 E fs) (cur : String) (h : RefHead) :
    headS fs cur h =
      match headLookup E cur h with
      | .ok (ens, e) => (meaningOf ens h.name e).map fun m => (ens, m)
      | .error _ => none := by
  unfold headS headMeaning headLookup
  cases h.ns with
  | none =>
    simp only
    calc _ = (if imported fs cur h.name then none else meaningIn fs cur h.name).map fun m => (cur, m) := by
            cases meaningIn fs cur h.name <;> simp only [Option.map_some, Option.map_none] <;>
              cases imported fs cur h.name <;> rfl
      _ = _ := by rw [← hE.lookup_meaning]; cases E.lookup cur h.name <;> rfl
  | some q =>
    simp only
    rw [hE.ok.lookup_eq cur q]
    cases imported fs cur q with
    | true =>
      simp only [↓reduceIte]
      calc _ = (if imported fs q h.name then none else meaningIn fs q h.name).map fun m => (q, m) := by
              cases meaningIn fs q h.name <;> simp only [Option.map_some, Option.map_none] <;>
                cases imported fs q h.name <;> rfl
        _ = _ := by rw [← hE.lookup_meaning]; cases E.lookup q h.name <;> rfl
    | false =>
      simp only [Bool.false_eq_true, ↓reduceIte]
      cases hs : lookupSym E.items cur q with
      | none => rfl
      | some e => rcases lookupSym_cases hs with ⟨i, rfl, _⟩ | ⟨k, rfl, _⟩ <;> rfl

theorem headMeaning_of_headS {fs cur h p} (hs : headS fs cur h = some p) : headMeaning fs cur h = some p := by
  unfold headS at hs
  cases hm : headMeaning fs cur h with
  | none => simp [hm] at hs
  | some q =>
    obtain ⟨a, b⟩ := q
    simp only [hm] at hs
    split at hs
    · cases hs
    · exact hs

theorem head_leaf (h : RefHead) (l) : (TRef.leaf h l).head = h := rfl
theorem head_app1 (h : RefHead) (a) : (TRef.app1 h a).head = h := rfl
theorem head_app2 (h : RefHead) (a b) : (TRef.app2 h a b).head = h := rfl

def _root_.StoneVerif.FeCompile.TRef.args : TRef → List TRef
  | .leaf _ _ => []
  | .app1 _ a => [a]
  | .app2 _ a b => [a, b]

def _root_.StoneVerif.FeCompile.TRef.lits : TRef → List Arg
  | .leaf _ l => l
  | _ => []

theorem TRef.args_length (r : TRef) : r.args.length ≤ 2 := by cases r <;> simp [TRef.args]

theorem TRef.lits_of_args {r : TRef} (h : r.args ≠ []) : r.lits = [] := by
  cases r <;> simp [TRef.args, TRef.lits] at h ⊢

theorem TRef.induct {P : TRef → Prop} (step : ∀ r, (∀ a, a ∈ r.args → P a) → P r) : ∀ r, P r
  | .leaf h l => step _ (fun a ha => by simp [TRef.args] at ha)
  | .app1 h a => step _ (fun x hx => by
      have hx' : x = a := by simpa [TRef.args] using hx
      rw [hx']; exact TRef.induct step a)
  | .app2 h a b => step _ (fun x hx => by
      have hx' : x = a ∨ x = b := by simpa [TRef.args] using hx
      rcases hx' with hx' | hx'
      · rw [hx']; exact TRef.induct step a
      · rw [hx']; exact TRef.induct step b)

theorem resolveW_eq (rx : String → Bool) (E : Env) (A : AliasMap) (wrap : Bool) (cur : String) (r : TRef) :
    resolveW rx E A wrap cur r =
      match headLookup E cur r.head with
      | .error e => .error e
      | .ok (ens, .builtin k) =>
        if k == .void && r.head.nullable then .error .voidNullable else
        (match mapE (resolveW rx E A true ens) r.args with
         | .error e => .error e
         | .ok tys =>
           match instBuiltin rx k tys r.lits r.head.kw with
           | .error e => .error e
           | .ok t => finish (aliasFuel E) (lookOf A) wrap r.head t)
      | .ok (ens, ent) =>
        (match nonClass ens r.head (!r.args.isEmpty || !r.lits.isEmpty || !r.head.kw.isEmpty) ent with
         | .error e => .error e
         | .ok t => finish (aliasFuel E) (lookOf A) wrap r.head t) := by
  cases r with
  | leaf h lits =>
    simp only [resolveW, TRef.head, TRef.args, TRef.lits]
    cases headLookup E cur h with
    | error e => rfl
    | ok p => obtain ⟨ens, ent⟩ := p; cases ent <;> rfl
  | app1 h a =>
    simp only [resolveW, TRef.head, TRef.args, TRef.lits]
    cases headLookup E cur h with
    | error e => rfl
    | ok p =>
      obtain ⟨ens, ent⟩ := p
      cases ent with
      | builtin k => simp only [mapE]; cases resolveW rx E A true ens a <;> rfl
      | item _ | ns _ => rfl
  | app2 h a b =>
    simp only [resolveW, TRef.head, TRef.args, TRef.lits]
    cases headLookup E cur h with
    | error e => rfl
    | ok p =>
      obtain ⟨ens, ent⟩ := p
      cases ent with
      | builtin k =>
        simp only [mapE]
        cases resolveW rx E A true ens a with
        | error e => rfl
        | ok ta => cases resolveW rx E A true ens b <;> rfl
      | item _ | ns _ => rfl

theorem denoteRef_eq (rx : String → Bool) (fs : List File) (cur : String) (r : TRef) :
    denoteRef rx fs cur r =
      match headMeaning fs cur r.head with
      | some (ens, .builtin k) =>
        (match optMapM (denoteRef rx fs ens) r.args with
         | some tys => (builtinMeaning rx k tys r.lits r.head.kw).map (nullableMeaning r.head)
         | none => none)
      | some (_, .user k) => if r.args.isEmpty then some (nullableMeaning r.head (.user k)) else none
      | some (_, .alias k) => if r.args.isEmpty then some (nullableMeaning r.head (.alias k)) else none
      | none => none := by
  cases r with
  | leaf h lits =>
    simp only [denoteRef, TRef.head, TRef.args, TRef.lits]
    cases headMeaning fs cur h with
    | none => rfl
    | some p => obtain ⟨ens, m⟩ := p; cases m <;> rfl
  | app1 h a =>
    simp only [denoteRef, TRef.head, TRef.args, TRef.lits]
    cases headMeaning fs cur h with
    | none => rfl
    | some p =>
      obtain ⟨ens, m⟩ := p
      cases m with
      | builtin k => simp only [optMapM]; cases denoteRef rx fs ens a <;> rfl
      | user _ | «alias» _ => rfl
  | app2 h a b =>
    simp only [denoteRef, TRef.head, TRef.args, TRef.lits]
    cases headMeaning fs cur h with
    | none => rfl
    | some p =>
      obtain ⟨ens, m⟩ := p
      cases m with
      | builtin k =>
        simp only [optMapM]
        cases denoteRef rx fs ens a with
        | none => rfl
        | some ta => cases denoteRef rx fs ens b <;> rfl
      | user _ | «alias» _ => rfl

theorem refStatic_eq (rx : String → Bool) (fs : List File) (cur : String) (r : TRef) :
    refStatic rx fs cur r =
      match headS fs cur r.head with
      | some (ens, .builtin k) =>
        !voidNullable k r.head && r.args.all (refStatic rx fs ens) &&
          (match optMapM (denoteRef rx fs ens) r.args with
           | some tys => (builtinMeaning rx k tys r.lits r.head.kw).isSome
           | none => false)
      | some (_, _) => r.args.isEmpty && r.lits.isEmpty && r.head.kw.isEmpty
      | none => false := by
  cases r with
  | leaf h lits =>
    simp only [refStatic, TRef.head, TRef.args, TRef.lits]
    cases headS fs cur h with
    | none => rfl
    | some p => obtain ⟨ens, m⟩ := p; cases m <;> simp [optMapM]
  | app1 h a =>
    simp only [refStatic, TRef.head, TRef.args, TRef.lits]
    cases headS fs cur h with
    | none => rfl
    | some p =>
      obtain ⟨ens, m⟩ := p
      cases m with
      | builtin k => cases hda : denoteRef rx fs ens a <;> simp [optMapM, hda]
      | user _ | «alias» _ => rfl
  | app2 h a b =>
    simp only [refStatic, TRef.head, TRef.args, TRef.lits]
    cases headS fs cur h with
    | none => rfl
    | some p =>
      obtain ⟨ens, m⟩ := p
      cases m with
      | builtin k =>
        cases hda : denoteRef rx fs ens a <;> cases hdb : denoteRef rx fs ens b <;> simp [optMapM, hda, hdb, Bool.and_assoc]
      | user _ | «alias» _ => rfl

theorem nullableMeaning_inj {h : RefHead} {a b : Ty} : nullableMeaning h a = nullableMeaning h b ↔ a = b := by
  unfold nullableMeaning
  split <;> simp

theorem denoteRef_head {rx fs cur r t} (h : denoteRef rx fs cur r = some t) : ∃ t0, t = nullableMeaning r.head t0 := by
  rw [denoteRef_eq] at h
  split at h
  · split at h
    · obtain ⟨t0, _, rfl⟩ := Option.map_eq_some_iff.mp h
      exact ⟨t0, rfl⟩
    · cases h
  · split at h
    · exact ⟨_, (Option.some.inj h).symm⟩
    · cases h
  · split at h
    · exact ⟨_, (Option.some.inj h).symm⟩
    · cases h
  · cases h

theorem instBuiltin_ok_iff {rx k tys lits kw t} :
    instBuiltin rx k tys lits kw = .ok t ↔ builtinMeaning rx k tys lits kw = some t := by
  unfold instBuiltin builtinMeaning
  cases FeParams.instantiate rx k (tys.map (fun t => Arg.ty t.isStringInst) ++ lits) kw with
  | ok tv => simp
  | error e => cases e <;> simp

theorem builtinMeaning_one {rx k ta kw t} (h : builtinMeaning rx k [ta] [] kw = some t) : ∃ mn mx, t = .list ta mn mx := by
  unfold builtinMeaning at h
  split at h
  · rename_i tv htv
    cases h
    obtain ⟨e, mn, mx, rfl⟩ := FeParams.construct_tyArg_list (FeParams.construct_of_instantiate (by simpa using htv))
    exact ⟨mn, mx, rfl⟩
  · cases h

theorem builtinMeaning_two {rx k ta tb kw t} (h : builtinMeaning rx k [ta, tb] [] kw = some t) : t = .map ta tb := by
  unfold builtinMeaning at h
  split at h
  · rename_i tv htv
    cases h
    obtain ⟨a, b, rfl⟩ := FeParams.construct_tyArgs_map (FeParams.construct_of_instantiate (by simpa using htv))
    rfl
  · cases h

theorem nullRefs_mkTy_nil (tv : TyVal) : nullRefs (mkTy tv []) = [] := by
  unfold mkTy
  split <;> simp_all [nullRefs]

/-- the `?` inside a built-in type are those of its type arguments -/
theorem builtinMeaning_nullRefs {rx k kw t0} {tys : List Ty} {lits} (hl : tys ≠ [] → lits = []) (hlen : tys.length ≤ 2)
    (h : builtinMeaning rx k tys lits kw = some t0) : nullRefs t0 = tys.flatMap nullRefs := by
  rcases tys with _ | ⟨ta, _ | ⟨tb, _ | ⟨tc, l⟩⟩⟩
  · unfold builtinMeaning at h
    split at h
    · cases h; simp [nullRefs_mkTy_nil]
    · cases h
  · rw [hl (by simp)] at h
    obtain ⟨mn, mx, rfl⟩ := builtinMeaning_one h
    simp [nullRefs]
  · rw [hl (by simp)] at h
    rw [builtinMeaning_two h]
    simp [nullRefs]
  · simp at hlen

theorem wrapNull_eq_ok {fu A b t0 t} (h : wrapNull fu A b t0 = .ok t) : t = if b then .nullable t0 else t0 := by
  cases b with
  | false => simp [wrapNull] at h; simp [h]
  | true => exact (wrapNull_true_ok_iff.mp h).2

theorem wrapNull_user {fu A b t p} (h : wrapNull fu A b t = .ok (.user p)) : t = .user p := by
  have := wrapNull_eq_ok h
  cases b with
  | true => simp at this
  | false => simpa using this.symm

theorem finish_ok_iff {fuel look wrap h t0 t} : finish fuel look wrap h t0 = .ok t ↔
    t = (if wrap then nullableMeaning h t0 else t0) ∧ (wrap = true → h.nullable = true → nullOK look fuel t0 = true) := by
  cases wrap with
  | false =>
    simp only [finish, Bool.false_eq_true, ↓reduceIte, Except.ok.injEq, false_implies, and_true]
    exact eq_comm
  | true =>
    cases hn : h.nullable with
    | false =>
      simp only [finish, wrapNull, nullableMeaning, hn, ↓reduceIte, Bool.not_false, Except.ok.injEq, Bool.false_eq_true,
        false_implies, implies_true, and_true]
      exact eq_comm
    | true =>
      simp only [finish, ↓reduceIte, hn, nullableMeaning, wrapNull_true_ok_iff, forall_const]
      exact and_comm

theorem nullRefs_nullableMeaning (h : RefHead) (t0 : Ty) :
    nullRefs (nullableMeaning h t0) = if h.nullable then nullRefs t0 ++ [t0] else nullRefs t0 := by
  unfold nullableMeaning
  split <;> simp [nullRefs]

theorem tyNullLegal_iff {look fuel t} : tyNullLegal look fuel t = true ↔ ∀ u, u ∈ nullRefs t → nullOK look fuel u = true :=
  List.all_eq_true

theorem tyNullLegal_finish {look fuel wrap h t0} :
    tyNullLegal look fuel (if wrap then nullableMeaning h t0 else t0) = true ↔
      tyNullLegal look fuel t0 = true ∧ (wrap = true → h.nullable = true → nullOK look fuel t0 = true) := by
  unfold tyNullLegal
  cases wrap with
  | false => simp
  | true =>
    simp only [↓reduceIte, nullRefs_nullableMeaning, forall_const]
    cases h.nullable <;> simp

/-- with `look` = what the alias declarations denote: the targets set so far are the final ones, as far as they go -/
def Below (A : AliasMap) (look : Look) : Prop := ∀ k t, A.lookup k = some t → look k = some t

theorem unwrap_mono {A look} (hA : Below A look) : ∀ (f : Nat) (u : Ty),
    (∀ v, unwrapAliases (lookOf A) f u = .ok (some v) → unwrapAliases look f u = .ok (some v)) ∧
    (∀ e, unwrapAliases (lookOf A) f u = .error e → unwrapAliases look f u = .error e)
  | 0, u => by
    cases u <;> simp [unwrapAliases]
  | f + 1, u => by
    cases u with
    | «alias» k =>
      simp only [unwrapAliases, lookOf]
      cases hl : A.lookup k with
      | none => simp
      | some t =>
        simp only [hA k t hl]
        exact unwrap_mono hA f t
    | prim _ | list _ _ _ | map _ _ | nullable _ | user _ => simp [unwrapAliases]

theorem nullOK_below {A look fuel u} (hA : Below A look) (h : nullOK look fuel u = true) :
    nullOK (lookOf A) fuel u = true := by
  have hm := unwrap_mono hA fuel u
  unfold nullOK at h ⊢
  cases hu : unwrapAliases (lookOf A) fuel u with
  | error e => rw [hm.2 e hu] at h; exact h
  | ok v =>
    cases v with
    | none => rfl
    | some v => rw [hm.1 v hu] at h; exact h

theorem tyNullLegal_below {A look fuel t} (hA : Below A look) (h : tyNullLegal look fuel t = true) :
    tyNullLegal (lookOf A) fuel t = true := by
  rw [tyNullLegal_iff] at h ⊢
  exact fun u hu => nullOK_below hA (h u hu)

theorem mem_aliasSucc {look : Look} {x y : Key} : y ∈ aliasSucc look x ↔ ∃ t, look x = some t ∧ y ∈ t.aliases := by
  unfold aliasSucc
  cases look x <;> simp

theorem aliasSucc_below {A look} (hA : Below A look) (x y : Key) (h : y ∈ aliasSucc (lookOf A) x) : y ∈ aliasSucc look x := by
  obtain ⟨t, ht, hy⟩ := mem_aliasSucc.mp h
  exact mem_aliasSucc.mpr ⟨t, hA x t ht, hy⟩

/-- A reference that names a user type or an alias (`u`); `a`, `l`, `k`: it has no type arguments, no literal
arguments, no keyword arguments.  The `if a` on the right is the user / alias branch of `denoteRef_eq`. -/
theorem named_ok_iff {fuel look wrap} {h : RefHead} {a l k : Bool} {u t : Ty} (hu : nullRefs u = []) :
    (match (if (!a || !l || !k) = true then Except.error Err.attrsOnUser else Except.ok u) with
      | .error e => Except.error e
      | .ok t0 => finish fuel look wrap h t0) = .ok t ↔
    (a && l && k) = true ∧ ∃ t0, (if a = true then some (nullableMeaning h u) else none) = some (nullableMeaning h t0) ∧
      t = (if wrap then nullableMeaning h t0 else t0) ∧ tyNullLegal look fuel t = true := by
  have hu' : tyNullLegal look fuel u = true := by simp [tyNullLegal, hu]
  rw [← Bool.not_and, ← Bool.not_and]
  cases hb : (a && l && k) with
  | false => simp only [Bool.not_false, ↓reduceIte, reduceCtorEq, Bool.false_eq_true, false_and]
  | true =>
    have ha : a = true := by simp only [Bool.and_eq_true] at hb; exact hb.1.1
    subst ha
    simp only [Bool.not_true, Bool.false_eq_true, ↓reduceIte, true_and, Option.some.injEq, nullableMeaning_inj,
      finish_ok_iff]
    constructor
    · rintro ⟨rfl, hq⟩
      exact ⟨u, rfl, rfl, tyNullLegal_finish.mpr ⟨hu', hq⟩⟩
    · rintro ⟨t0, rfl, rfl, hn⟩
      exact ⟨rfl, (tyNullLegal_finish.mp hn).2⟩

/-- `wrap = false`: the result is without the `?` of the head -/
theorem resolveW_ok_iff {rx E fs A} (hE : EnvOK2 E fs) (r : TRef) : ∀ {wrap cur t},
    resolveW rx E A wrap cur r = .ok t ↔
      refStatic rx fs cur r = true ∧ ∃ t0, denoteRef rx fs cur r = some (nullableMeaning r.head t0) ∧
        t = (if wrap then nullableMeaning r.head t0 else t0) ∧ tyNullLegal (lookOf A) (aliasFuel E) t = true := by
  induction r using TRef.induct with
  | step r ih =>
    intro wrap cur t
    have hS := hE.headS_eq cur r.head
    rw [resolveW_eq, refStatic_eq, denoteRef_eq]
    cases hl : headLookup E cur r.head with
    | error e =>
      rw [hl] at hS
      simp only [hS, reduceCtorEq, Bool.false_eq_true, false_and]
    | ok p =>
      obtain ⟨ens, e⟩ := p
      rw [hl] at hS
      cases e with
      | ns q =>
        have hS' : headS fs cur r.head = none := hS
        simp only [hS', nonClass, reduceCtorEq, Bool.false_eq_true, false_and]
      | item i =>
        cases i with
        | routes _ | other | annot _ =>
          have hS' : headS fs cur r.head = none := hS
          simp only [hS', nonClass, reduceCtorEq, Bool.false_eq_true, false_and]
        | type d =>
          have hM := headMeaning_of_headS hS
          simp only [hS, hM, meaningOf, Option.map_some, nonClass]
          exact named_ok_iff (u := .user (ens, r.head.name)) rfl
        | «alias» r' =>
          have hM := headMeaning_of_headS hS
          simp only [hS, hM, meaningOf, Option.map_some, nonClass]
          exact named_ok_iff (u := .alias (ens, r.head.name)) rfl
      | builtin k =>
        have hM := headMeaning_of_headS hS
        simp only [hS, hM, meaningOf, Option.map_some, voidNullable]
        have hargs : ∀ tys, mapE (resolveW rx E A true ens) r.args = .ok tys ↔
            (∀ a, a ∈ r.args → refStatic rx fs ens a = true) ∧ optMapM (denoteRef rx fs ens) r.args = some tys ∧
              ∀ ta, ta ∈ tys → tyNullLegal (lookOf A) (aliasFuel E) ta = true :=
          fun tys => mapE_ok_iff fun a ha ta => by
            rw [ih a ha]
            simp only [↓reduceIte]
            constructor
            · rintro ⟨hs, t0, hd, rfl, hn⟩; exact ⟨hs, hd, hn⟩
            · rintro ⟨hs, hd, hn⟩
              obtain ⟨t0, rfl⟩ := denoteRef_head hd
              exact ⟨hs, t0, hd, rfl, hn⟩
        have hnull : ∀ {tys t0}, optMapM (denoteRef rx fs ens) r.args = some tys →
            builtinMeaning rx k tys r.lits r.head.kw = some t0 →
            (tyNullLegal (lookOf A) (aliasFuel E) t0 = true ↔
              ∀ ta, ta ∈ tys → tyNullLegal (lookOf A) (aliasFuel E) ta = true) := by
          intro tys t0 hopt hb
          have hlen := optMapM_length hopt
          have hrefs := builtinMeaning_nullRefs (tys := tys) (lits := r.lits)
            (fun h0 => TRef.lits_of_args (fun ha => h0 (List.eq_nil_of_length_eq_zero (by rw [hlen, ha]; rfl))))
            (by rw [hlen]; exact TRef.args_length r) hb
          rw [tyNullLegal_iff, hrefs]
          simp only [tyNullLegal_iff, List.mem_flatMap]
          exact ⟨fun h ta hta u hu => h u ⟨ta, hta, hu⟩, fun h u ⟨ta, hta, hu⟩ => h ta hta u hu⟩
        by_cases hv : (k == TyKind.void && r.head.nullable) = true
        · simp [hv]
        · simp only [hv, Bool.false_eq_true, ↓reduceIte, Bool.not_false, Bool.true_and, Bool.and_eq_true, List.all_eq_true]
          constructor
          · intro hr
            split at hr
            · cases hr
            · rename_i tys htys
              split at hr
              · cases hr
              · rename_i t0 hi
                obtain ⟨hst, hopt, hnl⟩ := (hargs tys).mp htys
                have hb := instBuiltin_ok_iff.mp hi
                obtain ⟨rfl, hq⟩ := finish_ok_iff.mp hr
                exact ⟨⟨hst, by simp [hopt, hb]⟩, t0, by simp [hopt, hb], rfl,
                  tyNullLegal_finish.mpr ⟨(hnull hopt hb).mpr hnl, hq⟩⟩
          · rintro ⟨⟨hst, hs⟩, t0, hd, rfl, hn⟩
            cases hopt : optMapM (denoteRef rx fs ens) r.args with
            | none => simp [hopt] at hs
            | some tys =>
              cases hb : builtinMeaning rx k tys r.lits r.head.kw with
              | none => simp [hopt, hb] at hs
              | some t0' =>
                simp only [hopt, hb, Option.map_some, Option.some.injEq, nullableMeaning_inj] at hd
                subst hd
                obtain ⟨hn0, hq⟩ := tyNullLegal_finish.mp hn
                rw [(hargs tys).mpr ⟨hst, hopt, (hnull hopt hb).mp hn0⟩]
                simp only [instBuiltin_ok_iff.mpr hb]
                exact finish_ok_iff.mpr ⟨rfl, hq⟩

theorem resolve_ok_iff {rx E fs A} (hE : EnvOK2 E fs) {cur r t} : resolve rx E A cur r = .ok t ↔
    refStatic rx fs cur r = true ∧ denoteRef rx fs cur r = some t ∧ tyNullLegal (lookOf A) (aliasFuel E) t = true := by
  unfold resolve
  rw [resolveW_ok_iff hE]
  simp only [↓reduceIte]
  constructor
  · rintro ⟨hs, t0, hd, rfl, hn⟩; exact ⟨hs, hd, hn⟩
  · rintro ⟨hs, hd, hn⟩
    obtain ⟨t0, rfl⟩ := denoteRef_head hd
    exact ⟨hs, t0, hd, rfl, hn⟩

theorem resolve_denote {rx E fs A} (hE : EnvOK2 E fs) {r cur t} (h : resolve rx E A cur r = .ok t) :
    denoteRef rx fs cur r = some t :=
  ((resolve_ok_iff hE).mp h).2.1

theorem resolve_ok_iff_legal {rx E fs A} (hE : EnvOK2 E fs) (hlook : lookOf A = aliasS rx fs) {ns r t} :
    resolve rx E A ns r = .ok t ↔ refLegal rx fs ns r = true ∧ denoteRef rx fs ns r = some t := by
  rw [resolve_ok_iff hE, hlook, hE.ok.aliasFuel_eq]
  unfold refLegal
  constructor
  · rintro ⟨hs, hd, hn⟩; exact ⟨by simp [hs, hd, hn], hd⟩
  · rintro ⟨hl, hd⟩
    simp only [hd, Bool.and_eq_true] at hl
    exact ⟨hl.1, hd, hl.2⟩

theorem resolve_ok_of_legal {rx E fs A} (hE : EnvOK2 E fs) (hA : Below A (aliasS rx fs)) {ns r}
    (h : refLegal rx fs ns r = true) : ∃ t, resolve rx E A ns r = .ok t ∧ denoteRef rx fs ns r = some t ∧
      tyNullLegal (aliasS rx fs) (fuelA fs) t = true := by
  unfold refLegal at h
  cases hd : denoteRef rx fs ns r with
  | none => simp [hd] at h
  | some t =>
    simp only [hd, Bool.and_eq_true] at h
    exact ⟨t, (resolve_ok_iff hE).mpr ⟨h.1, hd, by rw [hE.ok.aliasFuel_eq]; exact tyNullLegal_below hA h.2⟩, rfl, h.2⟩

end StoneVerif.FeCompile.L
