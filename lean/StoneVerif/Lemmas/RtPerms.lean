import StoneVerif.Lemmas.RtEncode
import StoneVerif.Lemmas.RtTables
import StoneVerif.Lemmas.IrCheck
import StoneVerif.Model.Rt.Ir
/-!
Caller permissions and redaction (C13): the per-caller class tables from the closed forms of `RtTables`; on `RtEncode`,
where an encoded object comes from and what redaction does at the top of a type and to a struct field; where
`validatorOf` puts the redactor of an alias.
-/
namespace StoneVerif.Rt.PermL

theorem length_filter_or_disjoint {α} (a b : α → Bool) (xs : List α)
    (hd : ∀ x ∈ xs, ¬ (a x = true ∧ b x = true)) :
    (xs.filter fun x => a x || b x).length = (xs.filter a).length + (xs.filter b).length := by
  induction xs with
  | nil => rfl
  | cons x xs ih =>
    have ih' := ih (fun y hy => hd y (List.mem_cons_of_mem _ hy))
    have hx := hd x List.mem_cons_self
    cases ha : a x <;> cases hb : b x
    · simp [ha, hb, ih']
    · simp [ha, hb, ih']; omega
    · simp [ha, hb, ih']; omega
    · exact absurd ⟨ha, hb⟩ hx

theorem length_flatMap_filter_omitted (xs : List FieldDef) (perms : List String) (hnd : nodupS perms = true) :
    (perms.flatMap fun p => xs.filter (·.omitted == some p)).length =
      (xs.filter fun f => match f.omitted with | none => false | some c => perms.contains c).length := by
  induction perms with
  | nil =>
    simp only [List.flatMap_nil, List.length_nil]
    symm
    rw [List.length_eq_zero_iff, List.filter_eq_nil_iff]
    intro f _
    cases f.omitted <;> simp
  | cons p ps ih =>
    simp only [nodupS, Bool.and_eq_true, Bool.not_eq_true'] at hnd
    have hp : ¬ p ∈ ps := by
      intro h
      have := hnd.1
      simp [h] at this
    rw [List.flatMap_cons, List.length_append, ih hnd.2]
    rw [← length_filter_or_disjoint]
    · congr 1
      apply List.filter_congr
      intro f _
      cases h : f.omitted with
      | none => simp
      | some c =>
        simp only [List.contains_cons]
        rw [Bool.eq_iff_iff]
        simp
    · intro f _ ⟨h1, h2⟩
      have h1' : f.omitted = some p := by simpa using h1
      rw [h1'] at h2
      simp only at h2
      exact hp (by simpa using h2)

/-- With `mem_fieldsFor`: the table `encode_struct` / `decode_struct` walk lists no field twice. -/
theorem length_fieldsFor (s : StructDef) (perms : List String) (hnd : nodupS perms = true) :
    (s.fieldsFor perms).length = (s.fieldsSpec perms).length := by
  rw [fieldsFor_eq, List.length_append, length_flatMap_filter_omitted _ _ hnd,
    ← length_filter_or_disjoint]
  · simp only [StructDef.fieldsSpec, StructDef.allAttrs]
    congr 1
    apply List.filter_congr
    intro f _
    cases h : f.omitted <;> simp
  · intro f _ ⟨h1, h2⟩
    have h1' : f.omitted = none := by simpa using h1
    rw [h1'] at h2
    simp at h2

theorem mem_permissionedTagmapsRev (p : String) (ls : List ULevel) :
    p ∈ permissionedTagmapsRev ls ↔ p ∈ ls.flatMap (·.ownCallers) := by
  induction ls with
  | nil => simp [permissionedTagmapsRev]
  | cons l parents ih =>
    unfold permissionedTagmapsRev
    simp only
    by_cases h : (dedup (l.ownCallers ++ dedup (parents.flatMap (·.ownCallers)))).isEmpty = true
    · rw [if_pos h, ih]
      have hnil : dedup (l.ownCallers ++ dedup (parents.flatMap (·.ownCallers))) = [] := by
        simpa using h
      have hall : ∀ q, ¬ q ∈ l.ownCallers ++ dedup (parents.flatMap (·.ownCallers)) := by
        intro q hq
        have := (mem_dedup q _).2 hq
        rw [hnil] at this
        simp at this
      have h1 := hall p
      simp only [List.mem_append, mem_dedup, not_or] at h1
      simp [h1.1, h1.2]
    · rw [if_neg h]
      simp [mem_dedup]

@[simp] theorem PTy.flags_struct (fl : Flags) (cls : String) : (PTy.struct fl cls).flags = fl := rfl
@[simp] theorem PTy.flags_tree (fl : Flags) (cls : String) : (PTy.tree fl cls).flags = fl := rfl
@[simp] theorem PTy.flags_union (fl : Flags) (cls : String) : (PTy.union fl cls).flags = fl := rfl

theorem valDataType_spec (u : UnionDef) (tag : String) (perms : List String) (ft : PTy)
    (h : u.valDataType tag perms = some ft) :
    ∃ t ∈ u.tagsSpec perms, t.name = tag ∧ t.ty = ft := by
  obtain ⟨t, hm, hn, hty, ho⟩ := valDataType_mem u tag perms ft h
  exact ⟨t, mem_tagsSpec.mpr ⟨hm, ho⟩, hn, hty⟩

theorem redactValue_obj_dict {E : Ext} {r : Redactor} {v : PyVal} {kvs : List (String × JVal)}
    (h : redactValue E r v = .ok (.obj kvs)) : ∃ d, v = .dict d := by
  unfold redactValue at h
  split at h
  · simp at h
  · exact ⟨_, rfl⟩
  · exfalso
    simp only [Except.ok.injEq] at h
    unfold redactApply at h
    repeat' split at h
    all_goals simp at h

theorem redactApply_blot_none (E : Ext) (v : PyVal) : redactApply E (.blot none) v = blotMask := by
  simp [redactApply, redactMatches, blotMask]

theorem redactDict_ok_of_stringKeyed (E : Ext) (r : Redactor) (kvs : List (PyVal × PyVal))
    (h : stringKeyed (.dict kvs) = true) : ∃ out, redactDict E r kvs = .ok out := by
  induction kvs with
  | nil => exact ⟨[], rfl⟩
  | cons kv rest ih =>
    obtain ⟨k, x⟩ := kv
    simp only [stringKeyed, List.all_cons, Bool.and_eq_true] at h ih
    obtain ⟨out, hout⟩ := ih h.2
    cases k with
    | str s => exact ⟨(s, redactApply E r x) :: out, by simp [redactDict, hout, bind, Except.bind, pure, Except.pure]⟩
    | _ => cases h.1

theorem redactDict_values (E : Ext) (r : Redactor) (kvs : List (PyVal × PyVal)) (out : List (String × JVal))
    (h : redactDict E r kvs = .ok out) :
    out.length = kvs.length ∧ ∀ kj ∈ out, ∃ x, (PyVal.str kj.1, x) ∈ kvs ∧ kj.2 = redactApply E r x := by
  induction kvs generalizing out with
  | nil => simp [redactDict] at h; subst h; simp
  | cons kv rest ih =>
    obtain ⟨k, x⟩ := kv
    cases k with
    | str s =>
      simp only [redactDict] at h
      cases hr : redactDict E r rest with
      | error e => simp [hr, bind, Except.bind] at h
      | ok out' =>
        simp [hr, bind, Except.bind, pure, Except.pure] at h
        subst h
        obtain ⟨hl, hv⟩ := ih out' hr
        refine ⟨by simp [hl], ?_⟩
        intro kj hkj
        rcases List.mem_cons.1 hkj with rfl | hkj
        · exact ⟨x, List.mem_cons_self, rfl⟩
        · obtain ⟨y, hy, he⟩ := hv kj hkj
          exact ⟨y, List.mem_cons_of_mem _ hy, he⟩
    | _ => simp [redactDict, crash] at h

/-- an object comes out of `encode` through the bare validator, unless a redactor copied the keys of a `dict` -/
theorem encode_obj_bare {E : Ext} {env : Env} {perms : List String} {redact norm : Bool} {t : PTy} {v : PyVal}
    {kvs : List (String × JVal)} (hv : redact = false ∨ ∀ d, v ≠ .dict d)
    (h : encode E env perms redact norm t v = .ok (.obj kvs)) :
    encode E env perms redact norm (t.withFlags {}) v = .ok (.obj kvs) := by
  rcases encode_ok_flags h with ⟨hr, r, -, hrv⟩ | ⟨-, -, hj⟩ | h'
  · obtain ⟨d, hd⟩ := redactValue_obj_dict hrv
    rcases hv with hv | hv
    · rw [hr] at hv; cases hv
    · exact absurd hd (hv d)
  · cases hj
  · exact h'

theorem encode_redact_top (E : Ext) (env : Env) (perms : List String) (norm : Bool) (t : PTy) (v : PyVal)
    (r : Redactor) (hr : t.topRedactor = some r) :
    encode E env perms true norm t v = redactValue E r v ∨
    (isNone v = true ∧ encode E env perms true norm t v = .ok .null) ∨
    ∃ e, validate E env t v = .error e ∧ encode E env perms true norm t v = .error e := by
  rcases topRedactor_cases hr with ho | ⟨hn, ho, hi⟩
  · exact .inl (encode_redact_outer E env perms norm t v r ho)
  · rw [encode_redact_inner E env perms norm v hn ho hi]
    cases hv : isNone v with
    | true => exact .inr (.inl ⟨rfl, rfl⟩)
    | false =>
      cases hval : validate E env t v with
      | ok w => exact .inl rfl
      | error e => exact .inr (.inr ⟨e, rfl, rfl⟩)

theorem redacted_field_entry (E : Ext) (env : Env) (perms : List String)
    (fields : List FieldDef) (slots : List (String × PyVal)) (kvs : List (String × JVal))
    (h : assembleStruct fields slots (encodeSlots E env perms true fields slots) = .ok kvs)
    (k : String) (j : JVal) (hkj : (k, j) ∈ kvs) (r : Redactor)
    (hr : ∀ g ∈ fields, g.name = k → g.ty.topRedactor = some r) :
    ∃ x, firstSet k slots = some x ∧ redactValue E r x = .ok j := by
  obtain ⟨g, x, hg, hx, he⟩ := mem_encoded_fields h hkj
  have hnn := (firstSet_some hx).2
  refine ⟨x, hx, ?_⟩
  rcases encode_redact_top E env perms false g.ty x r
      (hr g (List.mem_of_find?_eq_some hg) (by simpa using List.find?_some hg)) with h1 | ⟨h1, _⟩ | ⟨e, _, h1⟩
  · rw [← h1, he]
  · have := (isNone_eq_isNoneV x).symm.trans h1; rw [hnn] at this; cases this
  · rw [he] at h1; cases h1

theorem setRedact_outerRedactor (r : Redactor) (t : PTy) : (setRedact (some r) t).outerRedactor = some r := by
  unfold setRedact PTy.outerRedactor
  by_cases h : t.flags.nullable = true
  · simp [h, flags_withFlags]
  · simp [h, flags_withFlags]

theorem validatorOf_redactOuter (t : IrTy) (T : PTy) (h : validatorOf t = some T)
    (hn : T.flags.nullable = false) : T.flags.redactOuter = none := by
  induction t generalizing T with
  | bool | str | bytes | ts | void | union => simp [validatorOf] at h; subst h; rfl
  | int cls mn mx =>
    simp only [validatorOf, Option.map_eq_some_iff] at h
    obtain ⟨p, _, hp⟩ := h; subst hp; rfl
  | float cls mn mx =>
    simp only [validatorOf, Option.map_eq_some_iff] at h
    obtain ⟨p, _, hp⟩ := h; subst hp; rfl
  | list t a b ih =>
    simp only [validatorOf, Option.map_eq_some_iff] at h
    obtain ⟨p, _, hp⟩ := h; subst hp; rfl
  | map k v ihk ihv =>
    simp only [validatorOf] at h
    split at h
    · simp at h; subst h; rfl
    · simp at h
  | struct cls sub =>
    simp only [validatorOf, Option.some.injEq] at h
    subst h
    cases sub <;> rfl
  | nullable t ih =>
    simp only [validatorOf] at h
    split at h
    · split at h
      · simp at h
      · split at h
        · simp at h
        · simp only [Option.some.injEq] at h
          subst h
          simp [flags_withFlags] at hn
    · simp at h
  | alias n r t ih =>
    simp only [validatorOf, Option.map_eq_some_iff] at h
    obtain ⟨T0, hT0, hT⟩ := h
    subst hT
    rw [IrCheck.setRedact_nullable] at hn
    have := ih T0 hT0 hn
    unfold setRedact
    cases r with
    | none => exact this
    | some r => simp [hn, flags_withFlags, this]

theorem validatorOf_alias_outer (n : String) (r : Redactor) (t : IrTy) (T : PTy)
    (h : validatorOf (.alias n (some r) t) = some T) : T.outerRedactor = some r := by
  simp only [validatorOf, Option.map_eq_some_iff] at h
  obtain ⟨T0, _, hT⟩ := h
  subst hT
  exact setRedact_outerRedactor r T0

theorem validatorOf_list_alias (n : String) (r : Redactor) (t : IrTy) (a b : Option Nat) (T : PTy)
    (h : validatorOf (.list (.alias n (some r) t) a b) = some T) :
    ∃ item, T = .list {} item a b ∧ item.outerRedactor = some r := by
  simp only [validatorOf, Option.map_eq_some_iff] at h
  obtain ⟨item, hitem, hT⟩ := h
  refine ⟨item, hT.symm, validatorOf_alias_outer n r t item ?_⟩
  simp only [validatorOf, Option.map_eq_some_iff]
  exact hitem

theorem validatorOf_map_alias (n : String) (r : Redactor) (k t : IrTy) (T : PTy)
    (h : validatorOf (.map k (.alias n (some r) t)) = some T) :
    ∃ kt vt, T = .map {} kt vt ∧ vt.outerRedactor = some r := by
  simp only [validatorOf] at h
  split at h
  · rename_i kt vt hk hv
    simp only [Option.some.injEq] at h
    refine ⟨kt, vt, h.symm, validatorOf_alias_outer n r t vt ?_⟩
    simpa [validatorOf] using hv
  · simp at h

end StoneVerif.Rt.PermL
