import StoneVerif.Model.Cli
/-! Lemmas about the filter-expression parser `Cli.run` (C19): printed expressions are read back with
their meaning, the accepted token sequences are exactly the grammar `GExpr`. -/
namespace StoneVerif.Cli

@[simp] theorem run_want_lpar (o a st ts) :
    run (.want o a) st (.lpar :: ts) = run (.want none none) ((o, a) :: st) ts := rfl

@[simp] theorem run_want_atom (o a st x) (op : Op) (l ts) :
    run (.want o a) st (.id x :: op.tok :: .lit l :: ts) = run (.got o (mkAnd a (.pred op x l))) st ts := by
  cases op <;> rfl

@[simp] theorem run_got_and (o a st ts) : run (.got o a) st (.and :: ts) = run (.want o (some a)) st ts := rfl

@[simp] theorem run_got_or (o a st ts) :
    run (.got o a) st (.or :: ts) = run (.want (some (mkOr o a)) none) st ts := rfl

@[simp] theorem run_got_rpar (o a o' a' st ts) :
    run (.got o a) ((o', a') :: st) (.rpar :: ts) = run (.got o' (mkAnd a' (mkOr o a))) st ts := rfl

@[simp] theorem run_got_end (o a) : run (.got o a) [] [] = .ok (mkOr o a) := rfl

def evO (o : Option Expr) (r : Attrs) : Bool :=
  match o with
  | none => false
  | some e => e.eval r

def evA (a : Option Expr) (r : Attrs) : Bool :=
  match a with
  | none => true
  | some e => e.eval r

@[simp] theorem eval_mkOr (o e r) : (mkOr o e).eval r = (evO o r || e.eval r) := by
  cases o <;> simp [mkOr, evO, Expr.eval]

@[simp] theorem eval_mkAnd (a e r) : (mkAnd a e).eval r = (evA a r && e.eval r) := by
  cases a <;> simp [mkAnd, evA, Expr.eval]

def SExpr.toks (s : SExpr) : List Tok := s.stoks.map STok.tok

def parens (ts : List Tok) : List Tok := .lpar :: ts ++ [.rpar]

theorem toks_atom (op a l) : (SExpr.atom op a l).toks = [.id a, op.tok, .lit l.val] := by
  simp [SExpr.toks, SExpr.stoks, STok.tok]

theorem toks_paren (p : SExpr) : (SExpr.paren p).toks = parens p.toks := by
  simp [SExpr.toks, SExpr.stoks, sparens, parens, STok.tok]

theorem toks_or (l r : SExpr) : (SExpr.conj .or l r).toks = l.toks ++ .or :: r.toks := by
  simp [SExpr.toks, SExpr.stoks, STok.tok, Conj.tok]

def wrapOr (p : SExpr) : List Tok := if p.isOr then parens p.toks else p.toks

theorem toks_and (l r : SExpr) : (SExpr.conj .and l r).toks = wrapOr l ++ .and :: wrapOr r := by
  simp only [SExpr.toks, SExpr.stoks, wrapOr, parens]
  cases hl : l.isOr <;> cases hr : r.isOr <;> simp [sparens, STok.tok, Conj.tok]

/-- `ts` is read as an operand of value `v`: from any state that expects an operand the parser reaches, after
`ts`, the state in which the pending conjunction has absorbed `v` -/
def ReadsOperand (ts : List Tok) (v : Attrs → Bool) : Prop :=
  ∀ o a st rest, ∃ a', run (.want o a) st (ts ++ rest) = run (.got o a') st rest ∧
    ∀ r, a'.eval r = (evA a r && v r)

/-- `ts` is read as an expression of value `v` where no conjunction is pending: the level's disjunction absorbs `v` -/
def Reads (ts : List Tok) (v : Attrs → Bool) : Prop :=
  ∀ o st rest, ∃ o' a', run (.want o none) st (ts ++ rest) = run (.got o' a') st rest ∧
    ∀ r, (mkOr o' a').eval r = (evO o r || v r)

theorem ReadsOperand.reads {ts v} (h : ReadsOperand ts v) : Reads ts v := by
  intro o st rest
  obtain ⟨a', h1, h2⟩ := h o none st rest
  exact ⟨o, a', h1, fun r => by simp [h2 r, evA]⟩

theorem readsOperand_atom (op : Op) (x : Name) (l : Lit) :
    ReadsOperand [.id x, op.tok, .lit l] (Expr.pred op x l).eval :=
  fun o a st rest => ⟨mkAnd a (.pred op x l), by simp, fun r => by simp⟩

theorem Reads.inParens {ts v} (h : Reads ts v) : ReadsOperand (parens ts) v := by
  intro o a st rest
  obtain ⟨o', a'', h1, h2⟩ := h none ((o, a) :: st) (.rpar :: rest)
  refine ⟨mkAnd a (mkOr o' a''), ?_, fun r => ?_⟩
  · simp only [parens, List.cons_append, List.append_assoc, List.nil_append, run_want_lpar]
    rw [h1, run_got_rpar]
  · rw [eval_mkAnd, h2 r]
    rfl

theorem Reads.or {x y v w} (hx : Reads x v) (hy : Reads y w) : Reads (x ++ .or :: y) fun r => v r || w r := by
  intro o st rest
  obtain ⟨o1, a1, h1, e1⟩ := hx o st (.or :: (y ++ rest))
  obtain ⟨o2, a2, h2, e2⟩ := hy (some (mkOr o1 a1)) st rest
  refine ⟨o2, a2, ?_, fun r => ?_⟩
  · rw [List.append_assoc, List.cons_append, h1, run_got_or, h2]
  · rw [e2 r, evO, e1 r, Bool.or_assoc]

theorem ReadsOperand.and {x y v w} (hx : ReadsOperand x v) (hy : ReadsOperand y w) :
    ReadsOperand (x ++ .and :: y) fun r => v r && w r := by
  intro o a st rest
  obtain ⟨a1, h1, e1⟩ := hx o a st (.and :: (y ++ rest))
  obtain ⟨a2, h2, e2⟩ := hy o (some a1) st rest
  refine ⟨a2, ?_, fun r => ?_⟩
  · rw [List.append_assoc, List.cons_append, h1, run_got_and, h2]
  · rw [e2 r, evA, e1 r, Bool.and_assoc]

/-- A written expression is read with its meaning; unless it is a bare `or`, also as an operand (an `or` is an
operand of `and` only in parentheses, which is how `SExpr.stoks` prints it). -/
theorem run_print (p : SExpr) :
    Reads p.toks p.strip.eval ∧ (p.isOr = false → ReadsOperand p.toks p.strip.eval) := by
  induction p with
  | atom op x l =>
    have h : ReadsOperand (SExpr.atom op x l).toks (SExpr.atom op x l).strip.eval := by
      rw [toks_atom]; exact readsOperand_atom op x l.val
    exact ⟨h.reads, fun _ => h⟩
  | paren p ih =>
    have h : ReadsOperand (SExpr.paren p).toks (SExpr.paren p).strip.eval := by
      rw [toks_paren]; exact ih.1.inParens
    exact ⟨h.reads, fun _ => h⟩
  | conj c l r ihl ihr =>
    cases c with
    | or =>
      refine ⟨?_, fun h => by simp [SExpr.isOr] at h⟩
      rw [toks_or]
      exact ihl.1.or ihr.1
    | and =>
      have hw : ∀ q : SExpr, Reads q.toks q.strip.eval ∧ (q.isOr = false → ReadsOperand q.toks q.strip.eval) →
          ReadsOperand (wrapOr q) q.strip.eval := by
        intro q ih
        unfold wrapOr
        cases hq : q.isOr with
        | true => exact ih.1.inParens
        | false => exact ih.2 hq
      have h : ReadsOperand (SExpr.conj .and l r).toks (SExpr.conj .and l r).strip.eval := by
        rw [toks_and]
        exact (hw l ihl).and (hw r ihr)
      exact ⟨h.reads, fun _ => h⟩

/-- flat sequences: `and` binds tighter than `or`, both left associative -/
theorem run_flat (rest : List (Conj × Atom)) : ∀ (o : Option Expr) (acc : Expr),
    ∃ e, run (.got o acc) [] (rest.flatMap (fun p => p.1.tok :: p.2.toks)) = .ok e ∧
      ∀ r, e.eval r = (evO o r || orOfAnds (fun b => b.expr.eval r) (acc.eval r) rest) := by
  induction rest with
  | nil => intro o acc; exact ⟨mkOr o acc, by simp, fun r => by simp [orOfAnds]⟩
  | cons p rest ih =>
    intro o acc
    obtain ⟨c, b⟩ := p
    cases c with
    | and =>
      obtain ⟨e, h1, h2⟩ := ih o (mkAnd (some acc) b.expr)
      refine ⟨e, ?_, ?_⟩
      · simpa [List.flatMap_cons, Conj.tok, Atom.toks, Atom.expr] using h1
      · intro r; rw [h2 r]; simp [orOfAnds, evA]
    | or =>
      obtain ⟨e, h1, h2⟩ := ih (some (mkOr o acc)) (mkAnd none b.expr)
      refine ⟨e, ?_, ?_⟩
      · simpa [List.flatMap_cons, Conj.tok, Atom.toks, Atom.expr] using h1
      · intro r; rw [h2 r]; simp [orOfAnds, evO, mkAnd, Bool.or_assoc]

/-- what one level has consumed when an operand is expected: nothing, or an expression and a connective -/
def NeedPre (p : List Tok) : Prop :=
  p = [] ∨ ∃ x, GExpr x ∧ (p = x ++ [.and] ∨ p = x ++ [.or])

theorem NeedPre.append {p x : List Tok} (hp : NeedPre p) (hx : GExpr x) : GExpr (p ++ x) := by
  rcases hp with rfl | ⟨y, hy, rfl | rfl⟩
  · simpa using hx
  · simpa using GExpr.and hy hx
  · simpa using GExpr.or hy hx

/-- the whole input, reassembled from the per-level prefixes (innermost first) and the rest -/
def assemble : List (List Tok) → List Tok → List Tok
  | [], inner => inner
  | p :: ps, inner => assemble ps (p ++ .lpar :: inner)

def StateOk : PState → List Tok → Prop
  | .want _ _, pc => NeedPre pc
  | .got _ _, pc => GExpr pc

theorem run_sound (s : PState) (st : List Frame) (ts : List Tok) (e : Expr) (h : run s st ts = .ok e) :
    ∀ (ps : List (List Tok)) (pc : List Tok), ps.length = st.length → (∀ p ∈ ps, NeedPre p) → StateOk s pc →
      GExpr (assemble ps (pc ++ ts)) := by
  -- the equations of `run` in order: 1-3 shift `(` or an atom, 12 `and`, 13 `or`, 14 `)`, 17 the end; the rest are errors
  fun_induction run s st ts with
  | case1 o a st ts ih =>
    intro ps pc hl hps hpc
    have := ih h (pc :: ps) [] (by simp [hl]) (by
      intro p hp
      rcases List.mem_cons.mp hp with rfl | hp
      · exact hpc
      · exact hps p hp) (Or.inl rfl)
    simpa [assemble] using this
  | case2 o a st x l ts ih =>
    intro ps pc hl hps hpc
    have := ih h ps (pc ++ [.id x, .eq, .lit l]) hl hps (NeedPre.append hpc (GExpr.predEq x l))
    simpa using this
  | case3 o a st x l ts ih =>
    intro ps pc hl hps hpc
    have := ih h ps (pc ++ [.id x, .neq, .lit l]) hl hps (NeedPre.append hpc (GExpr.predNeq x l))
    simpa using this
  | case12 o a st ts ih =>
    intro ps pc hl hps hpc
    have := ih h ps (pc ++ [.and]) hl hps (Or.inr ⟨pc, hpc, Or.inl rfl⟩)
    simpa using this
  | case13 o a st ts ih =>
    intro ps pc hl hps hpc
    have := ih h ps (pc ++ [.or]) hl hps (Or.inr ⟨pc, hpc, Or.inr rfl⟩)
    simpa using this
  | case14 o a o' a' st ts ih =>
    intro ps pc hl hps hpc
    match ps, hl, hps with
    | p :: ps', hl, hps =>
      have hp : NeedPre p := hps p (by simp)
      have hg : GExpr (p ++ (Tok.lpar :: pc ++ [Tok.rpar])) := NeedPre.append hp (GExpr.parens hpc)
      have := ih h ps' (p ++ (Tok.lpar :: pc ++ [Tok.rpar])) (by simpa using hl)
        (fun q hq => hps q (List.mem_cons_of_mem _ hq)) (by simpa [StateOk] using hg)
      simpa [assemble] using this
  | case17 o a =>
    intro ps pc hl hps hpc
    match ps, hl with
    | [], _ => simpa [assemble, StateOk] using hpc
  | _ => cases h

theorem parseToks_sound {ts e} (h : parseToks ts = .ok e) : GExpr ts := by
  have := run_sound _ _ _ _ h [] [] rfl (by simp) (Or.inl rfl)
  simpa [assemble] using this

theorem run_complete {ts : List Tok} (h : GExpr ts) :
    ∀ o a st rest, ∃ o' a', run (.want o a) st (ts ++ rest) = run (.got o' a') st rest := by
  induction h with
  | predEq x l => intro o a st rest; exact ⟨o, _, by simpa [Op.tok] using run_want_atom o a st x .eq l rest⟩
  | predNeq x l => intro o a st rest; exact ⟨o, _, by simpa [Op.tok] using run_want_atom o a st x .neq l rest⟩
  | parens _ ih =>
    intro o a st rest
    obtain ⟨o', a', h1⟩ := ih none none ((o, a) :: st) (.rpar :: rest)
    exact ⟨o, mkAnd a (mkOr o' a'), by simp [h1]⟩
  | @or x y _ _ iha ihb =>
    intro o a st rest
    obtain ⟨o1, a1, h1⟩ := iha o a st (.or :: (y ++ rest))
    obtain ⟨o2, a2, h2⟩ := ihb (some (mkOr o1 a1)) none st rest
    exact ⟨o2, a2, by simp [h1, h2]⟩
  | @and x y _ _ iha ihb =>
    intro o a st rest
    obtain ⟨o1, a1, h1⟩ := iha o a st (.and :: (y ++ rest))
    obtain ⟨o2, a2, h2⟩ := ihb o1 (some a1) st rest
    exact ⟨o2, a2, by simp [h1, h2]⟩

theorem GExpr_balanced {ts : List Tok} (h : GExpr ts) : ts.count .lpar = ts.count .rpar := by
  induction h with
  | predEq x l => simp
  | predNeq x l => simp
  | parens _ ih => simp [List.count_append, ih]
  | or _ _ iha ihb => simp [List.count_append, iha, ihb]
  | and _ _ iha ihb => simp [List.count_append, iha, ihb]

theorem parseToks_complete {ts : List Tok} (h : GExpr ts) : ∃ e, parseToks ts = .ok e := by
  obtain ⟨o', a', h1⟩ := run_complete h none none [] []
  exact ⟨mkOr o' a', by simpa [parseToks] using h1⟩

end StoneVerif.Cli
