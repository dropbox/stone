import StoneVerif.Lemmas.DeclPySections
/-!
Loading a module (C09). `load_module`, by induction on the rank in the acyclic import graph: a module none of whose
imports is started but unfinished is entered into `sys.modules`, runs its imports (`run_imports`) and its body
(`body_ok`), and ends `Loaded`. The fuel of `runMod` bounds the nesting depth; a nested call that does anything starts a
module not yet started, so `unstarted` stays below the fuel left and the number of modules plus one is enough.
-/
namespace StoneVerif.DeclPy

theorem stWF_start {st : St} (hwf : StWF st) (m : Name) : StWF { st with started := m :: st.started } :=
  ⟨hwf.tbl, hwf.clsval, hwf.keyglob, fun m' n h => List.mem_cons_of_mem _ (hwf.globstarted m' n h)⟩

theorem le_start (st : St) (m : Name) : Le st { st with started := m :: st.started } :=
  ⟨⟨[], rfl, by simp⟩, fun _ h => h, fun _ _ _ h => h, fun _ h => List.mem_cons_of_mem _ h⟩

theorem runMod_started {mods : List (Name × List Stmt)} {fuel : Nat} {st : St} {m : Name}
    (h : m ∈ st.started) (hfuel : 0 < fuel) : runMod mods fuel st m = .ok st := by
  have : st.started.contains m = true := by simpa using h
  cases fuel with
  | zero => cases hfuel
  | succ k =>
    unfold runMod
    simp only [this, if_true]
    rfl

theorem lookup_pyModules {api : Api} (hapi : apiWF api = true) {ns : Namespace} (hns : ns ∈ api.namespaces) :
    (pyModules api).lookup (modName ns) = some (pyTypesStmts api ns) :=
  lookup_of_mem (by rw [pyModules, List.map_map]; exact (nodup_names_of_apiWF hapi).2) (List.mem_map_of_mem hns)

theorem countP_lt {α : Type} {p q : α → Bool} {l : List α} (h : ∀ x ∈ l, p x = true → q x = true) {a : α}
    (ha : a ∈ l) (hpa : p a = false) (hqa : q a = true) : l.countP p < l.countP q := by
  obtain ⟨l1, l2, rfl⟩ := List.append_of_mem ha
  have h1 : l1.countP p ≤ l1.countP q := List.countP_mono_left fun y hy => h y (List.mem_append_left _ hy)
  have h2 : l2.countP p ≤ l2.countP q :=
    List.countP_mono_left fun y hy => h y (List.mem_append_right _ (List.mem_cons_of_mem _ hy))
  simp only [List.countP_append, List.countP_cons, hpa, hqa, if_true, Bool.false_eq_true, if_false]
  omega

def unstartedIn (l : List Name) (st : St) : Nat := l.countP fun m => !st.started.contains m

theorem not_started_anti {st st' : St} (h : ∀ m ∈ st.started, m ∈ st'.started) (m : Name)
    (hm : (!st'.started.contains m) = true) : (!st.started.contains m) = true := by
  simp only [Bool.not_eq_true', List.contains_eq_mem, decide_eq_false_iff_not] at hm ⊢
  exact fun hin => hm (h m hin)

theorem unstartedIn_anti {st st' : St} (h : ∀ m ∈ st.started, m ∈ st'.started) (l : List Name) :
    unstartedIn l st' ≤ unstartedIn l st :=
  List.countP_mono_left fun m _ => not_started_anti h m

theorem unstartedIn_lt {st st' : St} {m : Name} (hnot : m ∉ st.started) (hin : m ∈ st'.started)
    (h : ∀ m ∈ st.started, m ∈ st'.started) (l : List Name) (hm : m ∈ l) : unstartedIn l st' < unstartedIn l st :=
  countP_lt (fun x _ => not_started_anti h x) hm (by simpa using hin) (by simpa using hnot)

theorem unstartedIn_le_length (l : List Name) (st : St) : unstartedIn l st ≤ l.length := List.countP_le_length

def unstarted (api : Api) (st : St) : Nat := unstartedIn (api.namespaces.map modName) st

/-- no module of rank below `r` is started but unfinished -/
def LowerLoaded (api : Api) (rank : Name → Nat) (st : St) (r : Nat) : Prop :=
  ∀ ns' ∈ api.namespaces, rank ns'.name < r → modName ns' ∈ st.started → Loaded api st ns'

/-- `frame`: the importing module's globals are untouched, so the name it is about to bind is still fresh. `newer`: what
was started on the way has rank ≤ that of `ns` and is `Loaded`, which restores `LowerLoaded` after each import. -/
structure LoadPost (api : Api) (rank : Name → Nat) (st st' : St) (ns : Namespace) : Prop where
  le : Le st st'
  wf : StWF st'
  loaded : Loaded api st' ns
  frame : ∀ m ∈ st.started, ∀ n, st'.global? m n = st.global? m n
  newer : ∀ ns' ∈ api.namespaces, modName ns' ∈ st'.started →
    modName ns' ∈ st.started ∨ (rank ns'.name ≤ rank ns.name ∧ Loaded api st' ns')

structure FoldPost (api : Api) (rank : Name → Nat) (st : St) (ns : Namespace) (st2 : St) : Prop where
  wf : StWF st2
  le : Le { st with started := modName ns :: st.started } st2
  only : ∀ n, (st2.global? (modName ns) n).isSome = true → n ∈ ns.imports.map fmtNamespace
  imported : ∀ m ∈ ns.imports, ∃ nsm ∈ api.namespaces, nsm.name = m ∧ Loaded api st2 nsm
    ∧ st2.global? (modName ns) (fmtNamespace m) = some (.modu (fmtNamespace m))
  frame : ∀ m ∈ st.started, ∀ n, st2.global? m n = st.global? m n
  newer : ∀ ns' ∈ api.namespaces, modName ns' ∈ st2.started →
    modName ns' ∈ modName ns :: st.started ∨ (rank ns'.name < rank ns.name ∧ Loaded api st2 ns')

def Loads (api : Api) (rank : Name → Nat) (fuel : Nat) (ns : Namespace) : Prop :=
  ∀ st, StWF st → unstarted api st < fuel → LowerLoaded api rank st (rank ns.name + 1) →
    ∃ st', runMod (pyModules api) fuel st (modName ns) = .ok st' ∧ LoadPost api rank st st' ns

/-- The invariant of the loop is what `FoldPost` says of the module with only the imports `done` run so far. -/
theorem run_imports {api : Api} (hapi : apiWF api = true) {rank : Name → Nat}
    (hrank : ∀ e ∈ importEdges api, rank e.2 < rank e.1) {ns : Namespace} (hns : ns ∈ api.namespaces) {fuel : Nat}
    (load : ∀ nsm ∈ api.namespaces, rank nsm.name < rank ns.name → Loads api rank fuel nsm) {st : St}
    (hnot : modName ns ∉ st.started) :
    ∀ (ms done : List Name), ns.imports = done ++ ms → ∀ st1, FoldPost api rank st { ns with imports := done } st1 →
      unstarted api st1 < fuel → LowerLoaded api rank st1 (rank ns.name) →
      ∃ st2, execStmts (runMod (pyModules api) fuel) (modName ns) st1 (ms.map fun m => Stmt.imp (fmtNamespace m))
          = .ok st2 ∧ FoldPost api rank st ns st2 := by
  intro ms
  induction ms with
  | nil =>
    intro done hsplit st1 hp _ _
    rw [List.append_nil] at hsplit
    rw [← hsplit] at hp
    exact ⟨st1, rfl, hp⟩
  | cons m ms' ihms =>
    intro done hsplit st1 ⟨hwf1, hle1, honly, himp, hframe, hnewer⟩ hfuel1 hinv1
    -- `modName { ns with imports := done }` and `{ ns with imports := done }.imports` reduce to `modName ns` and `done`
    have honly : ∀ n, (st1.global? (modName ns) n).isSome = true → n ∈ done.map fmtNamespace := honly
    have hm : m ∈ ns.imports := hsplit ▸ List.mem_append_cons_self
    obtain ⟨nsm, hnsm, hnm⟩ := imports_exist hapi hns hm
    have hmod : fmtNamespace m = modName nsm := by simp [modName, hnm]
    have hrk : rank nsm.name < rank ns.name := by
      rw [hnm]
      exact hrank (ns.name, m) (List.mem_flatMap.mpr ⟨ns, hns, List.mem_map.mpr ⟨m, hm, rfl⟩⟩)
    have hMst1 : modName ns ∈ st1.started := hle1.started _ List.mem_cons_self
    obtain ⟨st1', hrun, ⟨hle', hwf', hloaded', hframe', hnewer'⟩⟩ :=
      load nsm hnsm hrk st1 hwf1 hfuel1 fun ns' hns' hlt => hinv1 ns' hns' (Nat.lt_of_lt_of_le hlt hrk)
    have hfresh : st1'.global? (modName ns) (fmtNamespace m) = none := by
      rw [hframe' _ hMst1]
      cases hg : st1.global? (modName ns) (fmtNamespace m) with
      | none => rfl
      | some v =>
        have hin := honly (fmtNamespace m) (by rw [hg]; rfl)
        have hnd := imports_nodup hapi hns
        rw [hsplit, List.map_append, List.map_cons] at hnd
        have := (List.nodup_append.mp hnd).2.2 _ hin _ List.mem_cons_self
        exact absurd rfl this
    obtain ⟨hleb, hwfb, hgb, hframeb⟩ := bind_fresh (v := .modu (fmtNamespace m))
      (st' := { st1' with globals := ((modName ns, fmtNamespace m), .modu (fmtNamespace m)) :: st1'.globals })
      hwf' (hle'.started _ hMst1) hfresh [] [] hwf'.tbl (fun _ h => nomatch h) (fun _ h => nomatch h) rfl
    have hle1b := hle'.trans hleb
    obtain ⟨st2, hexec, hpost⟩ := ihms (done ++ [m]) (by rw [hsplit, List.append_assoc, List.singleton_append])
      { st1' with globals := ((modName ns, fmtNamespace m), .modu (fmtNamespace m)) :: st1'.globals }
      ⟨hwfb, hle1.trans hle1b,
        (by
          intro n hn
          show n ∈ (done ++ [m]).map fmtNamespace
          by_cases heq : n = fmtNamespace m
          · rw [heq]; exact List.mem_map.mpr ⟨m, by simp, rfl⟩
          · have hn' : (St.global? _ (modName ns) n).isSome = true := hn
            rw [hframeb _ _ (by simpa using heq), hframe' _ hMst1] at hn'
            rw [List.map_append]
            exact List.mem_append_left _ (honly n hn')),
        (by
          intro m0 hm0
          rcases List.mem_append.mp (show m0 ∈ done ++ [m] from hm0) with hm0 | hm0
          · obtain ⟨nsm0, h1, h2, h3, h4⟩ := himp m0 hm0
            exact ⟨nsm0, h1, h2, h3.mono hle1b, hle1b.glob _ _ _ h4⟩
          · rw [List.mem_singleton.mp hm0]
            exact ⟨nsm, hnsm, hnm, hloaded'.mono hleb, hgb⟩),
        (by
          intro m0 hm0 n
          have hne : (m0, n) ≠ (modName ns, fmtNamespace m) := by
            intro h; injection h with h1 _; subst h1; exact hnot hm0
          rw [hframeb _ _ hne, hframe' _ (hle1.started _ (List.mem_cons_of_mem _ hm0)), hframe _ hm0]),
        (by
          intro ns' hns' hs'
          rcases hnewer' ns' hns' hs' with h | ⟨hr', h⟩
          · rcases hnewer ns' hns' h with h2 | ⟨h2, h3⟩
            · exact Or.inl h2
            · exact Or.inr ⟨h2, h3.mono hle1b⟩
          · exact Or.inr ⟨Nat.lt_of_le_of_lt hr' hrk, h.mono hleb⟩)⟩
      (Nat.lt_of_le_of_lt (unstartedIn_anti (fun x hx => hle1b.started x hx) _) hfuel1)
      (by
        intro ns' hns' hlt hs'
        rcases hnewer' ns' hns' hs' with h | ⟨_, h⟩
        · exact (hinv1 ns' hns' hlt h).mono hle1b
        · exact h.mono hleb)
    refine ⟨st2, ?_, hpost⟩
    simp only [List.map_cons, execStmts, hmod, hrun, bind, Except.bind]
    rw [← hmod]
    exact hexec

theorem load_module {api : Api} (hapi : apiWF api = true) (rank : Name → Nat)
    (hrank : ∀ e ∈ importEdges api, rank e.2 < rank e.1) :
    ∀ (r : Nat) (ns : Namespace), ns ∈ api.namespaces → rank ns.name < r → ∀ fuel, Loads api rank fuel ns := by
  intro r
  induction r with
  | zero => intro ns _ h; exact absurd h (Nat.not_lt_zero _)
  | succ r ih =>
    intro ns hns hr fuel st hwf hfuel hinv
    by_cases hnot : modName ns ∈ st.started
    · exact ⟨st, runMod_started hnot (Nat.zero_lt_of_lt hfuel), Le.refl _, hwf, hinv ns hns (Nat.lt_succ_self _) hnot,
        fun _ _ _ => rfl, fun ns' _ h => Or.inl h⟩
    cases fuel with
    | zero => exact absurd hfuel (Nat.not_lt_zero _)
    | succ fuel =>
      have hself : ∀ ns' ∈ api.namespaces, modName ns' = modName ns → ns' = ns :=
        fun ns' hns' h => key_inj_of_nodup modName (nodup_names_of_apiWF hapi).2 _ hns' _ hns h
      have hle0 := le_start st (modName ns)
      obtain ⟨st2, hexec2, hpost2⟩ := run_imports hapi hrank hns
        (fun nsm hnsm hlt => ih nsm hnsm (Nat.lt_of_lt_of_le hlt (Nat.le_of_lt_succ hr)) fuel) hnot ns.imports [] rfl { st with started := modName ns :: st.started }
        ⟨stWF_start hwf (modName ns), Le.refl _, fun n hn => absurd (hwf.globstarted _ _ hn) hnot,
          fun m hm => (nomatch hm), fun _ _ _ => rfl, fun ns' _ h => Or.inl h⟩
        (Nat.lt_of_lt_of_le (unstartedIn_lt hnot List.mem_cons_self (fun m h => List.mem_cons_of_mem _ h) _
          (List.mem_map.mpr ⟨ns, hns, rfl⟩)) (Nat.le_of_lt_succ hfuel))
        (fun ns' hns' hlt hs' => by
          rcases List.mem_cons.mp hs' with h | h
          · rw [hself ns' hns' h] at hlt; exact absurd hlt (Nat.lt_irrefl _)
          · exact (hinv ns' hns' (Nat.lt_succ_of_lt hlt) h).mono hle0)
      obtain ⟨st3, hs3, hloaded3⟩ := body_ok hapi hns st2 hpost2.wf
        ⟨hpost2.le.started _ List.mem_cons_self, hpost2.imported⟩ hpost2.only
      refine ⟨st3, ?_, hle0.trans (hpost2.le.trans hs3.le), hs3.wf, hloaded3, ?_, ?_⟩
      · have hc : st.started.contains (modName ns) = false := by simpa using hnot
        simp only [runMod, hc, Bool.false_eq_true, if_false, lookup_pyModules hapi hns]
        rw [pyTypesStmts_eq, execStmts_append, importStmts, hexec2]
        simp only [bind, Except.bind]
        rw [execStmts_noimp _ _ _ _ (body_noimp api ns)]
        exact hs3.ok
      · intro m0 hm0 n
        rw [hs3.frame m0 n (fun h => by subst h; exact absurd hm0 hnot), hpost2.frame m0 hm0]
      · intro ns' hns' hs'
        rw [hs3.started] at hs'
        rcases hpost2.newer ns' hns' hs' with h | ⟨h1, h2⟩
        · rcases List.mem_cons.mp h with h | h
          · rw [hself ns' hns' h]
            exact Or.inr ⟨Nat.le_refl _, hloaded3⟩
          · exact Or.inl h
        · exact Or.inr ⟨Nat.le_of_lt h1, h2.mono hs3.le⟩

theorem pyModules_length (api : Api) : (pyModules api).length = (api.namespaces.map modName).length := by
  simp [pyModules]

/-- at top level (no module is executing) every module in `sys.modules` is completely loaded -/
structure TopInv (api : Api) (st : St) : Prop where
  wf : StWF st
  loaded : ∀ ns ∈ api.namespaces, modName ns ∈ st.started → Loaded api st ns

theorem TopInv.empty (api : Api) : TopInv api {} := ⟨stWF_empty, fun _ _ hs => nomatch hs⟩

theorem import_step {api : Api} (hapi : apiWF api = true) (hdag : Acyclic (importEdges api)) {st : St}
    (hinv : TopInv api st) {ns : Namespace} (hns : ns ∈ api.namespaces) :
    ∃ st', runMod (pyModules api) ((pyModules api).length + 1) st (modName ns) = .ok st' ∧ TopInv api st'
      ∧ Le st st' ∧ Loaded api st' ns := by
  obtain ⟨rank, hrank⟩ := hdag
  obtain ⟨st', hrun, hpost⟩ := load_module hapi rank hrank (rank ns.name + 1) ns hns (Nat.lt_succ_self _)
    ((pyModules api).length + 1) st hinv.wf
    (by rw [pyModules_length]; exact Nat.lt_succ_of_le (unstartedIn_le_length _ _))
    fun ns' hns' _ hs' => hinv.loaded ns' hns' hs'
  refine ⟨st', hrun, ⟨hpost.wf, fun ns' hns' hs' => ?_⟩, hpost.le, hpost.loaded⟩
  rcases hpost.newer ns' hns' hs' with h | ⟨_, h⟩
  · exact (hinv.loaded ns' hns' h).mono hpost.le
  · exact h

theorem import_steps {api : Api} (hapi : apiWF api = true) (hdag : Acyclic (importEdges api)) (l : List Namespace)
    (hsub : ∀ ns ∈ l, ns ∈ api.namespaces) (st : St) (hinv : TopInv api st) :
    ∃ st', (l.map modName).foldlM (fun st m => runMod (pyModules api) ((pyModules api).length + 1) st m) st = .ok st'
      ∧ TopInv api st' ∧ Le st st' ∧ ∀ ns ∈ l, modName ns ∈ st'.started := by
  induction l generalizing st with
  | nil => exact ⟨st, rfl, hinv, Le.refl st, fun _ h => nomatch h⟩
  | cons x xs ih =>
    obtain ⟨st1, hrun, hinv1, hle1, hl1⟩ := import_step hapi hdag hinv (hsub x List.mem_cons_self)
    obtain ⟨st2, hfold, hinv2, hle2, hall2⟩ := ih (fun ns hns => hsub ns (List.mem_cons_of_mem _ hns)) st1 hinv1
    refine ⟨st2, ?_, hinv2, hle1.trans hle2, fun ns hns => ?_⟩
    · simp only [List.map_cons, List.foldlM_cons, hrun, bind, Except.bind]
      exact hfold
    · rcases List.mem_cons.mp hns with rfl | hns
      · exact hle2.started _ hl1.started
      · exact hall2 ns hns

end StoneVerif.DeclPy
