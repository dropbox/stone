import StoneVerif.Model.Cli
/-! Lemmas about `Expr.eval` (the code) and `evalSpec` (the reference) (C19). -/
namespace StoneVerif.Cli

theorem decEq10_int (a b : Int) : decEq10 a 0 b 0 = (a == b) := by
  simp [decEq10]

theorem pyEq_null_right (v : Lit) : pyEq v .null = true ↔ v = .null := by
  cases v <;> simp [pyEq, Lit.num?]

theorem attrSpec_eq_attrGet (r : Attrs) (k : Name) : attrSpec r k = attrGet r k := by
  unfold attrSpec attrGet
  cases r.lookup k <;> rfl

theorem specEq_sound {v l : Lit} {b : Bool} (h : specEq v l = some b) : pyEq v l = b := by
  cases v <;> cases l <;> simp [specEq] at h <;> subst h <;> simp [pyEq, Lit.num?, decEq10_int]
  case bool.bool x y => cases x <;> cases y <;> decide

theorem kAnd_sound {x y : Option Bool} {a b v : Bool} (hx : ∀ u, x = some u → a = u) (hy : ∀ u, y = some u → b = u)
    (h : kAnd x y = some v) : (a && b) = v := by
  cases x with
  | none =>
    cases y with
    | none => simp [kAnd] at h
    | some q =>
      cases q <;> simp [kAnd] at h
      subst h; simp [hy false rfl]
  | some p =>
    cases p
    · simp [kAnd] at h; subst h; simp [hx false rfl]
    · cases y with
      | none => simp [kAnd] at h
      | some q =>
        cases q <;> simp [kAnd] at h <;> subst h <;> simp [hx true rfl, hy _ rfl]

theorem kOr_sound {x y : Option Bool} {a b v : Bool} (hx : ∀ u, x = some u → a = u) (hy : ∀ u, y = some u → b = u)
    (h : kOr x y = some v) : (a || b) = v := by
  cases x with
  | none =>
    cases y with
    | none => simp [kOr] at h
    | some q =>
      cases q <;> simp [kOr] at h
      subst h; simp [hy true rfl]
  | some p =>
    cases p
    · cases y with
      | none => simp [kOr] at h
      | some q =>
        cases q <;> simp [kOr] at h <;> subst h <;> simp [hx false rfl, hy _ rfl]
    · simp [kOr] at h; subst h; simp [hx true rfl]

/-- the code-following evaluation refines the reference: whenever the property fixes whether a
route satisfies the expression, `eval` returns that -/
theorem evalSpec_sound (e : Expr) (r : Attrs) : ∀ v, evalSpec e r = some v → e.eval r = v := by
  induction e with
  | pred op a l =>
    intro v h
    cases op with
    | eq =>
      simp only [evalSpec, attrSpec_eq_attrGet] at h
      simpa [Expr.eval] using specEq_sound h
    | neq =>
      simp only [evalSpec, attrSpec_eq_attrGet, Option.map_eq_some_iff] at h
      obtain ⟨b, hb, rfl⟩ := h
      simp [Expr.eval, specEq_sound hb]
  | conj c l rr ihl ihr =>
    intro v h
    cases c with
    | and => exact kAnd_sound ihl ihr (by simpa [evalSpec] using h)
    | or => exact kOr_sound ihl ihr (by simpa [evalSpec] using h)

end StoneVerif.Cli
