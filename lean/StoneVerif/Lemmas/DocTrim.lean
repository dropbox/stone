import StoneVerif.Model.DocTrim
import StoneVerif.Lemmas.Path
/-! Lemmas about `Model/DocTrim.lean` (split / join / rstrip) used by the C11 theorems on documentation strings. -/
namespace StoneVerif.DocTrim

theorem splitNL_eq (s : List Char) : splitNL s = Path.splitOn '\n' s := by
  fun_induction splitNL s <;> simp_all [Path.splitOn]

theorem joinNL_eq (ls : List (List Char)) : joinNL ls = Path.joinSep ['\n'] ls := by
  fun_induction joinNL ls <;> simp_all [Path.joinSep]

theorem splitNL_ne_nil (s : List Char) : splitNL s ≠ [] := splitNL_eq s ▸ Path.splitOn_ne_nil '\n' s

theorem splitNL_joinNL (ls : List (List Char)) (hne : ls ≠ []) (h : ∀ l ∈ ls, '\n' ∉ l) :
    splitNL (joinNL ls) = ls := by
  rw [splitNL_eq, joinNL_eq]
  exact Path.splitOn_joinSep '\n' ls hne h

theorem joinNL_splitNL (s : List Char) : joinNL (splitNL s) = s := by
  rw [splitNL_eq, joinNL_eq, Path.joinSep_splitOn]

theorem splitNL_no_nl (s : List Char) : ∀ l ∈ splitNL s, '\n' ∉ l := splitNL_eq s ▸ Path.splitOn_no_sep '\n' s

theorem rstrip_blank (w : List Char) (h : ∀ c ∈ w, isSpace c = true) : rstrip w = [] := by
  induction w with
  | nil => rfl
  | cons c cs ih =>
    simp [rstrip, ih (fun x hx => h x (by simp [hx])), h c (by simp)]

theorem rstrip_append_blank (l w : List Char) (h : ∀ c ∈ w, isSpace c = true) :
    rstrip (l ++ w) = rstrip l := by
  induction l with
  | nil => simpa [rstrip] using rstrip_blank w h
  | cons c cs ih => simp only [List.cons_append, rstrip, ih]

theorem rstrip_sub (l : List Char) : ∀ c ∈ rstrip l, c ∈ l := by
  fun_induction rstrip l with
  | case1 | case2 | case3 => simp
  | case4 c cs r rs h ih =>
    intro x hx
    rcases List.mem_cons.mp hx with e | hx
    · simp [e]
    · exact List.mem_cons_of_mem _ (ih x (h ▸ hx))

theorem rstrip_getLast (l : List Char) (c : Char) (h : (rstrip l).getLast? = some c) : isSpace c = false := by
  fun_induction rstrip l with
  | case1 | case2 => cases h
  | case3 a as e hs => cases h; simpa using hs
  | case4 a as r rs e ih => exact ih (by rw [e, ← h, List.getLast?_cons_cons])

theorem rstrip_idem (l : List Char) : rstrip (rstrip l) = rstrip l := by
  fun_induction rstrip l with
  | case1 | case2 => rfl
  | case3 c cs e hs => simp [rstrip, hs]
  | case4 c cs r rs e ih => rw [e] at ih; rw [rstrip, ih]

theorem blankTail_mem {w : List Char} (h : blankTail w = true) {c : Char} (hc : c ∈ w) :
    isSpace c = true ∧ c ≠ '\n' := by
  simpa using List.all_eq_true.1 h c hc

theorem addTrail_ne_nil (ls ws : List (List Char)) (h : ls ≠ []) : addTrail ls ws ≠ [] := by
  cases ls with
  | nil => exact absurd rfl h
  | cons l ls => cases ws <;> simp [addTrail]

theorem addTrail_length (ls ws : List (List Char)) : (addTrail ls ws).length = ls.length := by
  induction ls generalizing ws with
  | nil => simp [addTrail]
  | cons l ls ih => cases ws <;> simp [addTrail, ih]

theorem addTrail_no_nl (ls ws : List (List Char)) (hl : ∀ l ∈ ls, '\n' ∉ l)
    (hw : ∀ w ∈ ws, blankTail w = true) : ∀ l ∈ addTrail ls ws, '\n' ∉ l := by
  induction ls generalizing ws with
  | nil => simp [addTrail]
  | cons l ls ih =>
    cases ws with
    | nil => simpa [addTrail] using hl
    | cons w ws =>
      intro x hx
      simp only [addTrail, List.mem_cons] at hx
      rcases hx with e | hx
      · have h1 := hl l (by simp)
        have h2 : '\n' ∉ w := fun hm => (blankTail_mem (hw w (by simp)) hm).2 rfl
        simp [e, h1, h2]
      · exact ih ws (fun y hy => hl y (by simp [hy])) (fun y hy => hw y (by simp [hy])) x hx

theorem map_rstrip_addTrail (ls ws : List (List Char)) (hw : ∀ w ∈ ws, blankTail w = true) :
    (addTrail ls ws).map rstrip = ls.map rstrip := by
  induction ls generalizing ws with
  | nil => simp [addTrail]
  | cons l ls ih =>
    cases ws with
    | nil => simp [addTrail]
    | cons w ws =>
      have hsp : ∀ c ∈ w, isSpace c = true := fun c hc => (blankTail_mem (hw w (by simp)) hc).1
      simp only [addTrail, List.map_cons, rstrip_append_blank l w hsp,
        ih ws (fun y hy => hw y (by simp [hy]))]

theorem docCleanS_ofList (cs : List Char) : docCleanS (String.ofList cs) = String.ofList (docClean cs) := by
  rw [docCleanS, String.toList_ofList]

end StoneVerif.DocTrim
