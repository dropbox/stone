import StoneVerif.Model.Rt.RoundTripSpec
import StoneVerif.Lemmas.RtValidate
import StoneVerif.Lemmas.RtModelDecode
import StoneVerif.Lemmas.RtWire
/-!
The round trip `decode ∘ wire` (C04) is proved of good values: `Good` bundles the hypotheses on one (type, value) pair;
`good_induct`, the induction over good values, is the only place of the round trip where the nested recursion over
`PyVal` is unfolded. Then the leaves: what `canon`, `wire`, the decoder and `==` do at a valid leaf in stored form, under
the laws of the external calls (`ExtLaws`).
-/
namespace StoneVerif.Rt.RoundTrip

attribute [local simp] R_bind_ok
@[simp] theorem R_bind_error {α β} (e : Err) (f : α → R β) : ((Except.error e : R α) >>= f) = .error e := rfl
@[simp] theorem R_pure {α} (a : α) : (pure a : R α) = .ok a := rfl
@[simp] theorem R_map_ok {α β} (a : α) (f : α → β) : (f <$> (Except.ok a : R α)) = .ok (f a) := rfl
@[simp] theorem R_map_ok' {α β} (a : α) (f : α → β) : Except.map f (Except.ok a : R α) = .ok (f a) := rfl

/-- The hypotheses of C04 on one (type, value) pair (`Props/C04.lean`: witnesses for `wf`, `unamb`); not `V8.Good`.  `wf` makes
the instance at a `Struct` position one of exactly the declared class: hence `cls` twice in `hstruct` below. -/
structure Good (E : Ext) (env : Env) (t : PTy) (v : PyVal) : Prop where
  twf : tyWF env t = true
  valid : validB E env t v = true
  normal : normalB env t v = true
  wf : valWF E env t v = true
  unamb : ambiguousEmpty env t v = false

section
variable {E : Ext} {env : Env} (hwf : envWF env = true) (P : PTy → PyVal → Prop)
  (hleaf : ∀ t v, Good E env t v → isLeaf v = true → P t v)
  (hlist : ∀ fl item mn mx xs, Good E env (.list fl item mn mx) (.list xs) →
    (∀ x ∈ xs, Good E env item x ∧ P item x) → P (.list fl item mn mx) (.list xs))
  (hmap : ∀ fl kt vt kvs, Good E env (.map fl kt vt) (.dict kvs) →
    (∀ kx ∈ kvs, (∃ s, kx.1 = .str s) ∧ Good E env kt kx.1 ∧ Good E env vt kx.2 ∧ P vt kx.2) →
    P (.map fl kt vt) (.dict kvs))
  (hstruct : ∀ fl cls slots, Good E env (.struct fl cls) (.struct cls slots) →
    (∀ k x f, (k, x) ∈ slots → (publicFields env cls).find? (·.name == k) = some f → Good E env f.ty x ∧ P f.ty x) →
    P (.struct fl cls) (.struct cls slots))
  (htree : ∀ fl cls c slots, Good E env (.tree fl cls) (.struct c slots) →
    (∀ k x f, (k, x) ∈ slots → (publicFields env c).find? (·.name == k) = some f → Good E env f.ty x ∧ P f.ty x) →
    P (.tree fl cls) (.struct c slots))
  (hunion : ∀ fl cls c tag payload td, Good E env (.union fl cls) (.union c tag payload) →
    publicTag? env cls tag = some td → Good E env td.ty payload → P td.ty payload →
    P (.union fl cls) (.union c tag payload))

include hwf hleaf hlist hmap hstruct htree hunion

-- the four theorems of the block each take all seven hypotheses, and each uses some
set_option linter.unusedSectionVars false

mutual
theorem good_induct (t : PTy) (v : PyVal) (h : Good E env t v) : P t v := by
  have h0 := h.twf; have h2 := h.normal; have h3 := h.wf; have h4 := h.unamb
  cases validB_view h.valid with
  | leaf hl => exact hleaf _ _ h (by cases hl <;> rfl)
  | tuple => cases h2
  | list fl _ _ hxs => exact hlist fl _ _ _ _ h (good_induct_list _ _ h0 hxs h2 h3 h4)
  | dict fl hkvs =>
    simp only [valWF, Bool.and_eq_true] at h3
    simp only [tyWF, Bool.and_eq_true] at h0
    exact hmap fl _ _ _ h (good_induct_dict _ _ _ h0.1 h0.2 hkvs h2 h3.2 h4)
  | @struct fl cls c slots _ _ hs =>
    simp only [valWF, Bool.and_eq_true, beq_iff_eq] at h3
    obtain ⟨⟨hc, _⟩, h3⟩ := h3
    subst hc
    exact hstruct fl c slots h (good_induct_slots (publicFields env c) slots
      (fun f hf => publicFields_tyWF hwf hf) hs h2 h3 h4)
  | @tree fl cls c tag slots _ _ _ hs =>
    simp only [valWF, Bool.and_eq_true] at h3
    exact htree fl cls c slots h (good_induct_slots (publicFields env c) slots
      (fun f hf => publicFields_tyWF hwf hf) hs h2 h3.2 h4)
  | @union fl cls c tag payload td _ htd hp =>
    simp only [normalB, htd] at h2
    simp only [valWF, htd, Bool.and_eq_true] at h3
    simp only [ambiguousEmpty, htd, Bool.or_eq_false_iff] at h4
    have htw := publicTag_tyWF hwf htd
    have g : Good E env td.ty payload := ⟨htw, validB_payload hp, h2, h3.2, h4.2⟩
    exact hunion fl cls c tag payload td h htd g (good_induct td.ty payload g)
termination_by structural v
theorem good_induct_list (t : PTy) (xs : List PyVal) (h0 : tyWF env t = true) (h1 : validList E env t xs = true)
    (h2 : normalList env t xs = true) (h3 : valWFList E env t xs = true) (h4 : ambList env t xs = false) :
    ∀ x ∈ xs, Good E env t x ∧ P t x := by
  match xs with
  | [] => intro x hx; cases hx
  | y :: ys =>
    simp only [validList, Bool.and_eq_true] at h1
    simp only [normalList, Bool.and_eq_true] at h2
    simp only [valWFList, Bool.and_eq_true] at h3
    simp only [ambList, Bool.or_eq_false_iff] at h4
    intro x hx
    rcases List.mem_cons.1 hx with e | hx
    · have g : Good E env t y := ⟨h0, h1.1, h2.1, h3.1, h4.1⟩
      rw [e]
      exact ⟨g, good_induct t y g⟩
    · exact good_induct_list t ys h0 h1.2 h2.2 h3.2 h4.2 x hx
termination_by structural xs
theorem good_induct_dict (kt vt : PTy) (kvs : List (PyVal × PyVal))
    (hk : (match kt with | .str fl _ _ _ => !fl.nullable | _ => false) = true) (h0 : tyWF env vt = true)
    (h1 : validDict E env kt vt kvs = true) (h2 : normalDict env kt vt kvs = true)
    (h3 : valWFDict E env vt kvs = true) (h4 : ambDict env vt kvs = false) :
    ∀ kx ∈ kvs, (∃ s, kx.1 = .str s) ∧ Good E env kt kx.1 ∧ Good E env vt kx.2 ∧ P vt kx.2 := by
  match kvs with
  | [] => intro x hx; cases hx
  | (k, y) :: ys =>
    simp only [validDict, Bool.and_eq_true] at h1
    simp only [normalDict, Bool.and_eq_true] at h2
    simp only [valWFDict, Bool.and_eq_true] at h3
    simp only [ambDict, Bool.or_eq_false_iff] at h4
    intro x hx
    rcases List.mem_cons.1 hx with e | hx
    · have g : Good E env vt y := ⟨h0, h1.1.2, h2.1.2, h3.1, h4.1⟩
      rw [e]
      have hkv := h1.1.1
      obtain ⟨s, rfl⟩ := validB_strKey hk hkv
      refine ⟨⟨s, rfl⟩, ?_, g, good_induct vt y g⟩
      cases kt <;> first | cases hk | exact ⟨rfl, hkv, rfl, rfl, rfl⟩
    · exact good_induct_dict kt vt ys hk h0 h1.2 h2.2 h3.2 h4.2 x hx
termination_by structural kvs
theorem good_induct_slots (fields : List FieldDef) (slots : List (String × PyVal))
    (h0 : ∀ f ∈ fields, tyWF env f.ty = true)
    (h1 : validSlots E env fields slots = true) (h2 : normalSlots env fields slots = true)
    (h3 : valWFSlots E env fields slots = true) (h4 : ambSlots env fields slots = false) :
    ∀ k x f, (k, x) ∈ slots → fields.find? (·.name == k) = some f → Good E env f.ty x ∧ P f.ty x := by
  match slots with
  | [] => intro k x f hx; cases hx
  | (k', y) :: ys =>
    simp only [validSlots, Bool.and_eq_true] at h1
    simp only [normalSlots, Bool.and_eq_true] at h2
    simp only [valWFSlots, Bool.and_eq_true] at h3
    simp only [ambSlots, Bool.or_eq_false_iff] at h4
    intro k x f hx hf
    rcases List.mem_cons.1 hx with e | hx
    · have e1 : k = k' := congrArg Prod.fst e
      have e2 : x = y := congrArg Prod.snd e
      rw [e1] at hf
      rw [hf] at h1 h2 h3 h4
      have g : Good E env f.ty y := ⟨h0 f (List.mem_of_find?_eq_some hf), h1.1, h2.1, h3.1, h4.1⟩
      rw [e2]
      exact ⟨g, good_induct f.ty y g⟩
    · exact good_induct_slots fields ys h0 h1.2 h2.2 h3.2 h4.2 k x f hx hf
termination_by structural slots
end
end

structure ExtLaws (E : Ext) (env : Env) : Prop where
  /-- `base64.b64decode(base64.b64encode(b)) == b` -/
  b64 : ∀ h, E.b64dec (E.b64enc h) = some (some h)
  flt_irrefl : ∀ x, E.fltLt x x = false
  /-- `==` is reflexive on None, booleans, integers, strings, non-NaN floats and void union members: all a default can
  be -/
  dflt_refl : ∀ s ∈ env.structs, ∀ f ∈ s.allAttrs, ∀ d, f.dflt = some d → shallowEq E env d d = true

theorem Good.leaf {E : Ext} {env : Env} {t : PTy} {v : PyVal} (g : Good E env t v) (hl : isLeaf v = true) :
    ValidLeaf E t v := by
  cases validB_view g.valid with
  | leaf h => exact h
  | _ => cases hl

theorem validLeaf_canon {E : Ext} {env : Env} {t : PTy} {v : PyVal} (h : ValidLeaf E t v)
    (hn : normalB env t v = true) :
    ValidLeaf E t (canon env t v) ∧ normalB env t (canon env t v) = true := by
  cases h with
  | unset hn' => exact ⟨.unset hn', normalB_none env _⟩
  | void fl => exact ⟨.void fl, rfl⟩
  | bool fl b => exact ⟨.bool fl b, rfl⟩
  | int fl c h1 h2 => exact ⟨.int fl c h1 h2, rfl⟩
  | intOfBool fl c h1 h2 => exact ⟨.int fl c h1 h2, rfl⟩
  | float fl c h1 => exact ⟨.float fl c h1, rfl⟩
  | floatOfInt => cases hn
  | floatOfBool => cases hn
  | str fl h1 h2 h3 => exact ⟨.str fl h1 h2 h3, rfl⟩
  | bytes fl h => exact ⟨.bytes fl h, rfl⟩
  | ts fl fmt id => exact ⟨.ts fl fmt id, rfl⟩

theorem canon_leaf_valid {E : Ext} {env : Env} (t : PTy) (v : PyVal) (h : Good E env t v)
    (hl : isLeaf v = true) :
    validB E env t (canon env t v) = true ∧ normalB env t (canon env t v) = true :=
  have hc := validLeaf_canon (h.leaf hl) h.normal
  ⟨hc.1.validB, hc.2⟩

theorem wire_canon_leaf {E : Ext} {env : Env} (t : PTy) (v : PyVal) (h : Good E env t v)
    (hl : isLeaf v = true) : wire E env t (canon env t v) = wire E env t v := by
  cases h.leaf hl with
  | floatOfInt => cases h.normal
  | floatOfBool => cases h.normal
  | _ => rfl

theorem wire_isNull_leaf {E : Ext} {env : Env} (t : PTy) (v : PyVal) (h : Good E env t v)
    (hl : isLeaf v = true) : isNullJ (wire E env t v) = isNoneV v := by
  cases h.leaf hl <;> rfl

theorem pyEq_canon_leaf {E : Ext} {env : Env} (laws : ExtLaws E env) (t : PTy) (v : PyVal)
    (h : Good E env t v) (hl : isLeaf v = true) : pyEq E env v (canon env t v) = true := by
  cases h.leaf hl with
  | floatOfInt => cases h.normal
  | floatOfBool => cases h.normal
  | float fl c h1 =>
    obtain ⟨hnan, -, -⟩ := inRange_checks h1
    simp only [Bool.or_eq_false_iff] at hnan
    simp [pyEq, numEq, intOf, canon, laws.flt_irrefl, hnan.1]
  | _ => simp [pyEq, numEq, intOf, canon]

theorem makeStoneFriendly_leaf {E : Ext} {env : Env} (laws : ExtLaws E env) (perms : List String)
    (strict validateIt : Bool) {t : PTy} {v : PyVal} (h : ValidLeaf E t v) (hn : normalB env t v = true)
    (hw : valWF E env t v = true) (hg : (t.flags.nullable && isNoneV v) = false) :
    makeStoneFriendly E env perms strict validateIt t (wire E env t v) = .ok (canon env t v) := by
  -- types without a conversion of their own: the JSON value as it stands, validated on request
  have plain : ∀ (t' : PTy) (y : PyVal), ValidLeaf E t' y →
      (if validateIt = true then
        match validate E env t' y with
        | .error e => .error e
        | .ok _ => .ok y
       else .ok y : R PyVal) = .ok y := by
    intro t' y hy
    cases validateIt
    · rfl
    · simp only [validate_leaf E env hy, if_true]
  cases h with
  | unset hn' => rw [hn'] at hg; cases hg
  | void fl => simp only [makeStoneFriendly, wire, canon, Bool.and_false, Bool.false_eq_true, if_false]
  | bool fl b => exact plain _ _ (.bool {} b)
  | int fl c h1 h2 => exact plain _ _ (.int {} c h1 h2)
  | intOfBool fl c h1 h2 => exact plain _ _ (.int {} c h1 h2)
  | float fl c h1 => exact plain _ _ (.float {} c h1)
  | floatOfInt => cases hn
  | floatOfBool => cases hn
  | str fl h1 h2 h3 => exact plain _ _ (.str {} h1 h2 h3)
  | bytes fl h => simp only [makeStoneFriendly, wire, canon, laws.b64]
  | ts fl fmt id =>
    simp only [valWF, beq_iff_eq] at hw
    simp only [makeStoneFriendly, wire, canon, hw]

theorem decode_wire_leaf {E : Ext} {env : Env} (laws : ExtLaws E env) (strict : Bool) (t : PTy) (v : PyVal)
    (h : Good E env t v) (hl : isLeaf v = true) :
    decode E env [] strict t (wire E env t v) = .ok (canon env t v) := by
  cases hg : t.flags.nullable && isNoneV v with
  | true =>
    rw [Bool.and_eq_true] at hg
    cases isNoneV_iff.1 hg.2
    exact decode_nullable_null E env [] strict hg.1
  | false =>
    rw [decode_prim_of_not_null E env [] strict ((h.leaf hl).withFlags {} hg).1 (by rw [wire_isNull_leaf t v h hl, hg])]
    exact makeStoneFriendly_leaf laws [] strict false (h.leaf hl) h.normal h.wf hg

end StoneVerif.Rt.RoundTrip
