import StoneVerif.Lemmas.RtRoundTrip.Good
/-!
What `canonSlots` and `fillSlots` hold for a given name; `firstSet` against `lookupSlot` where no name occurs
twice.
-/
namespace StoneVerif.Rt.RoundTrip

theorem find_field_none {fields : List FieldDef} {k : String}
    (h : fields.find? (·.name == k) = none) : k ∉ fields.map (·.name) :=
  find_name_none h

theorem canonSlots_eq_mapSlots (env : Env) (fields : List FieldDef) (slots : List (String × PyVal)) :
    canonSlots env fields slots = mapSlots (fun f x => canon env f.ty x) fields slots := by
  induction slots with
  | nil => rfl
  | cons kx rest ih =>
    obtain ⟨k, x⟩ := kx
    rw [canonSlots.eq_def]
    simp only [mapSlots, List.filterMap_cons] at ih ⊢
    split
    · rename_i h; simp only [h, isNoneV_none, Option.bind_some, if_true, ih]
    · rename_i f h hx; simp only [h, isNoneV_of_ne hx, Option.bind_some, Bool.false_eq_true, if_false, ih]
    · rename_i h; simp only [h, Option.bind_none, ih]

theorem lookupSlot_canonSlots (env : Env) (fields : List FieldDef) (name : String) {f : FieldDef}
    (hf : fields.find? (·.name == name) = some f) (slots : List (String × PyVal)) :
    lookupSlot name (canonSlots env fields slots) = (firstSet name slots).map (canon env f.ty) := by
  rw [canonSlots_eq_mapSlots, lookupSlot_eq_find?, find?_mapSlots, hf]
  rfl

theorem firstSet_eq_lookupSlot {slots : List (String × PyVal)} (hnd : (slots.map (·.1)).Nodup) (k : String) :
    firstSet k slots = (lookupSlot k slots).bind fun x => if isNoneV x then none else some x := by
  induction slots with
  | nil => rfl
  | cons a as ih =>
    obtain ⟨k', x⟩ := a
    simp only [List.map_cons, List.nodup_cons] at hnd
    unfold firstSet at ih ⊢
    simp only [List.find?_cons, lookupSlot]
    by_cases e : k' = k
    · subst e
      simp only [beq_self_eq_true, Bool.true_and, if_true, Option.bind_some]
      cases isNoneV x
      · rfl
      · simp only [Bool.not_true, if_true]
        rw [ih hnd.2, lookupSlot_none_of_not_mem hnd.1]
        rfl
    · have hne : (k' == k) = false := by simpa using e
      simp only [hne, Bool.false_and, Bool.false_eq_true, if_false]
      exact ih hnd.2

def fillOne (env : Env) (rs : List (String × PyVal)) (f : FieldDef) : Option (String × PyVal) :=
  match lookupSlot f.name rs with
  | some y => some (f.name, y)
  | none => if hasDefault env f.ty && !f.attrNullable then some (f.name, getDefault f.ty) else none

theorem fillSlots_eq (env : Env) (fields : List FieldDef) (rs : List (String × PyVal)) :
    fillSlots env fields rs = fields.filterMap (fillOne env rs) := rfl

theorem fillOne_fst {env : Env} {rs : List (String × PyVal)} {f : FieldDef} {p : String × PyVal}
    (h : fillOne env rs f = some p) : p.1 = f.name := by
  unfold fillOne at h
  split at h
  · cases h; rfl
  · split at h
    · cases h; rfl
    · cases h

/-- `fillSlots` as a table listed by name, the shape `keys_filterMap_sublist` and `find?_filterMap_of_mem` are stated
for. -/
theorem fillSlots_shape (env : Env) (fields : List FieldDef) (rs : List (String × PyVal)) :
    fillSlots env fields rs = fields.filterMap fun f => ((fillOne env rs f).map (·.2)).map fun y => (f.name, y) := by
  rw [fillSlots_eq]
  apply filterMap_congr_mem
  intro f _
  cases h : fillOne env rs f with
  | none => rfl
  | some p => rw [Option.map_some, Option.map_some, ← fillOne_fst h]

theorem fillSlots_keys_sublist (env : Env) (fields : List FieldDef) (rs : List (String × PyVal)) :
    ((fillSlots env fields rs).map (·.1)).Sublist (fields.map (·.name)) := by
  rw [fillSlots_shape]; exact keys_filterMap_sublist (·.name) _ fields

theorem fillSlots_nodup {env : Env} {fields : List FieldDef} (hnd : (fields.map (·.name)).Nodup)
    (rs : List (String × PyVal)) : ((fillSlots env fields rs).map (·.1)).Nodup :=
  hnd.sublist (fillSlots_keys_sublist env fields rs)

theorem lookupSlot_fillSlots {env : Env} {fields : List FieldDef} (hnd : (fields.map (·.name)).Nodup)
    (rs : List (String × PyVal)) {f : FieldDef} (hf : f ∈ fields) :
    lookupSlot f.name (fillSlots env fields rs) = (fillOne env rs f).map (·.2) := by
  rw [lookupSlot_eq_find?, fillSlots_shape]
  exact find?_filterMap_of_mem (·.name) _ fields hnd f hf

theorem lookupSlot_fillSlots_none {env : Env} {fields : List FieldDef} (rs : List (String × PyVal)) {k : String}
    (hk : k ∉ fields.map (·.name)) : lookupSlot k (fillSlots env fields rs) = none :=
  lookupSlot_none_of_not_mem fun hm => hk ((fillSlots_keys_sublist env fields rs).subset hm)

end StoneVerif.Rt.RoundTrip
