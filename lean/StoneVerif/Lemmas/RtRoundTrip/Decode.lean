import StoneVerif.Lemmas.RtRoundTrip.Fields
import StoneVerif.Lemmas.RtCompatReadings
/-!
Decoding the wire form of a good value yields its canonical form (`decode (wire v) = canon v`), case by case, and
the induction (`decode_wire_canon`).
-/
namespace StoneVerif.Rt.RoundTrip

theorem decodeList_canon {E : Ext} {env : Env} (strict : Bool) (t : PTy) (xs : List PyVal)
    (h : ∀ x ∈ xs, decode E env [] strict t (wire E env t x) = .ok (canon env t x)) :
    decodeList E env [] strict t (wireList E env t xs) = .ok (canonList env t xs) := by
  induction xs with
  | nil => rfl
  | cons x xs ih =>
    simp only [wireList, canonList, decodeList]
    rw [h x List.mem_cons_self, ih fun y hy => h y (List.mem_cons_of_mem _ hy)]
    rfl

theorem decodeMap_canon {E : Ext} {env : Env} (strict : Bool) (vt : PTy) (kvs : List (PyVal × PyVal))
    (h : ∀ kx ∈ kvs, (∃ s, kx.1 = .str s) ∧
      decode E env [] strict vt (wire E env vt kx.2) = .ok (canon env vt kx.2)) :
    decodeMap E env [] strict vt (wireDict E env vt kvs) = .ok (canonDict env vt kvs) := by
  induction kvs with
  | nil => rfl
  | cons a as ih =>
    obtain ⟨k, x⟩ := a
    obtain ⟨⟨s, hs⟩, hx⟩ := h (k, x) List.mem_cons_self
    simp only at hs hx
    subst hs
    simp only [wireDict, canonDict, decodeMap]
    rw [hx, ih fun y hy => h y (List.mem_cons_of_mem _ hy)]
    rfl

theorem wire_isNull {E : Ext} {env : Env} (hwf : envWF env = true) (t : PTy) (v : PyVal) (h : Good E env t v) :
    isNullJ (wire E env t v) = isNoneV v := by
  refine good_induct hwf (fun t v => isNullJ (wire E env t v) = isNoneV v) ?_ ?_ ?_ ?_ ?_ ?_ t v h
  · exact wire_isNull_leaf
  · intro fl item mn mx xs _ _; simp [wire, isNullJ, isNoneV]
  · intro fl kt vt kvs _ _; simp [wire, isNullJ, isNoneV]
  · intro fl cls slots _ _; simp [wire, isNullJ, isNoneV]
  · intro fl cls c slots g _
    obtain ⟨s, d, tag, _, _, _, hl, _, _⟩ := good_tree_inv g
    simp [wire, hl, isNullJ, isNoneV]
  · intro fl cls c tag payload td g htd gp ihp
    generalize hj : wire E env (.union fl cls) (.union c tag payload) = j
    cases WireUnion.of_valid htd gp.valid hj <;> rfl

theorem withFlags_flags (fl : Flags) (t : PTy) : (t.withFlags fl).flags = fl := flags_withFlags t fl
theorem withFlags_withFlags (a b : Flags) (t : PTy) : (t.withFlags a).withFlags b = t.withFlags b :=
  Rt.withFlags_withFlags t a b

theorem structTable_no_tag {env : Env} (hwf : envWF env = true) (cls : String) :
    ∀ p ∈ Compat.structTable env cls, p.1 ≠ ".tag" := by
  intro p hp
  obtain ⟨f, hf, rfl⟩ := List.mem_map.1 hp
  exact Compat.publicFields_ne_tag hwf cls f hf

theorem memberTable_struct_structTable {env : Env} (strict : Bool) (fl : Flags) {cls : String}
    {s : StructDef} (hs : env.struct? cls = some s) (kvs : List (String × JVal)) :
    memberTable env [] strict (.struct fl cls) kvs = Compat.structTable env cls := by
  simp only [memberTable, hs, Compat.structTable, publicFields_eq hs, fieldsFor_nil s]

theorem decode_wire_struct {E : Ext} {env : Env} (hwf : envWF env = true) (hrt : envRT env = true)
    (strict : Bool) {fl : Flags} {cls : String} {slots : List (String × PyVal)}
    (g : Good E env (.struct fl cls) (.struct cls slots))
    (ih : ∀ k x f, (k, x) ∈ slots → (publicFields env cls).find? (·.name == k) = some f →
      Good E env f.ty x ∧ decode E env [] strict f.ty (wire E env f.ty x) = .ok (canon env f.ty x)) :
    decode E env [] strict (.struct fl cls) (wire E env (.struct fl cls) (.struct cls slots)) =
      .ok (canon env (.struct fl cls) (.struct cls slots)) := by
  obtain ⟨s, hs, hall, hnds⟩ := good_struct_inv g
  simp only [wire, canon]
  rw [decode_struct_obj, memberTable_struct_structTable strict fl hs]
  exact finishStruct_canon hwf hrt strict hs hnds hall ih [] (fun _ h => by cases h) _ rfl _ rfl

theorem memberTable_tree_structTable {env : Env} (hwf : envWF env = true) (strict : Bool) (fl : Flags) {cls c tag : String}
    {s d : StructDef} (hs : env.struct? cls = some s) (hd : env.struct? c = some d)
    (h : leafTag? env cls c = some tag) (rest : List (String × JVal)) :
    memberTable env [] strict (.tree fl cls) ((".tag", .str tag) :: rest) = Compat.structTable env c := by
  simp only [memberTable, jsonLookup, beq_self_eq_true, if_true, hs, find?_tag_of_leafTag hwf hs h, hd, Compat.structTable,
    publicFields_eq hd, fieldsFor_nil d, Bool.false_eq_true, if_false]

theorem decode_wire_tree {E : Ext} {env : Env} (hwf : envWF env = true) (hrt : envRT env = true)
    (strict : Bool) {fl : Flags} {cls c : String} {slots : List (String × PyVal)}
    (g : Good E env (.tree fl cls) (.struct c slots))
    (ih : ∀ k x f, (k, x) ∈ slots → (publicFields env c).find? (·.name == k) = some f →
      Good E env f.ty x ∧ decode E env [] strict f.ty (wire E env f.ty x) = .ok (canon env f.ty x)) :
    decode E env [] strict (.tree fl cls) (wire E env (.tree fl cls) (.struct c slots)) =
      .ok (canon env (.tree fl cls) (.struct c slots)) := by
  obtain ⟨s, d, tag, hs, hd, hsub, hleaf, hall, hnds⟩ := good_tree_inv g
  rw [decode_tree]
  simp only [wire, hleaf, canon, Bool.and_false, Bool.false_eq_true, if_false, jsonLookup, beq_self_eq_true,
    if_true, hs, find?_tag_of_leafTag hwf hs hleaf]
  rw [memberTable_tree_structTable hwf strict fl hs hd hleaf]
  exact finishStruct_canon hwf hrt strict hd hnds hall ih [(".tag", .str tag)]
    (fun kx h => by simp at h; rw [h]) _ rfl _ rfl

theorem nothingSet_false {fields : List FieldDef} {slots : List (String × PyVal)}
    (h : nothingSet fields slots = false) :
    ∃ k x f, (k, x) ∈ slots ∧ fields.find? (·.name == k) = some f ∧ isNoneV x = false := by
  obtain ⟨⟨k, x⟩, hm, hn⟩ := List.all_eq_false.1 h
  simp only [Bool.or_eq_true, not_or, Bool.not_eq_true] at hn
  cases hf : fields.find? (·.name == k) with
  | none => rw [hf] at hn; simp at hn
  | some f => exact ⟨k, x, f, hm, hf, hn.2⟩

theorem pick_ne_nil {E : Ext} {env : Env} {fields : List FieldDef} (hndf : (fields.map (·.name)).Nodup)
    {slots : List (String × PyVal)} (hnds : (slots.map (·.1)).Nodup)
    (h : nothingSet fields slots = false) : pick fields (wireSlots E env fields slots) ≠ [] := by
  obtain ⟨k, x, f, hm, hf, hx⟩ := nothingSet_false h
  obtain ⟨hfm, hfn⟩ := find_name_some hf
  intro e
  have h1 := lookupW_pick hndf (wireSlots E env fields slots) hfm
  rw [e, lookupW_wireSlots E env fields _ (hfn ▸ hf), firstSet_eq_lookupSlot hnds, hfn, lookupSlot_of_mem hnds hm] at h1
  simp [hx, lookupW] at h1

theorem decode_wire_union {E : Ext} {env : Env} (hwf : envWF env = true) (hrt : envRT env = true)
    (strict : Bool) {fl : Flags} {cls c tag : String} {payload : PyVal} {td : TagDef}
    (g : Good E env (.union fl cls) (.union c tag payload)) (htd : publicTag? env cls tag = some td)
    (gp : Good E env td.ty payload)
    (ihp : decode E env [] strict td.ty (wire E env td.ty payload) = .ok (canon env td.ty payload)) :
    decode E env [] strict (.union fl cls) (wire E env (.union fl cls) (.union c tag payload)) =
      .ok (canon env (.union fl cls) (.union c tag payload)) := by
  have htagne : tag ≠ ".tag" := Compat.publicTag_ne_dotTag hwf htd
  have htagne1 : (".tag" == tag) = false := by simpa using fun e : ".tag" = tag => htagne e.symm
  have htagne2 : (tag == ".tag") = false := by simpa using htagne
  have h3 := g.wf; have h4 := g.unamb
  simp only [valWF, htd, Bool.and_eq_true] at h3
  simp only [ambiguousEmpty, htd, Bool.or_eq_false_iff] at h4
  cases hu : env.union? cls with
  | none => simp only [publicTag?, hu] at htd; cases htd
  | some u =>
  simp only [hu, Bool.not_eq_true', beq_eq_false_iff_ne, ne_eq] at h3
  have hca : (some tag == u.catchAll) = false := by
    simp only [beq_eq_false_iff_ne, ne_eq]; exact fun e => h3.1 e.symm
  -- `Union.__init__` validates the decoded payload: `validate_canon`
  have hmk : mkUnion E env cls tag (canon env td.ty payload) = .ok (.union cls tag (canon env td.ty payload)) :=
    V8.mkUnion_ok E env hu (ctorValidator_of_public hwf hu htd) (validate_canon hwf hrt _ _ gp)
      (fun hv => by rw [canon_isNone gp, validB_void_inv hv gp.valid]; rfl)
  have htag : ∀ rest, jsonLookup ".tag" ((".tag", JVal.str tag) :: rest) = some (.str tag) := fun _ => by
    rw [jsonLookup, beq_self_eq_true, if_pos rfl]
  simp only [canon, htd]
  -- each shape of the wire form is one reading of the document
  refine Compat.UnionOk.decode_eq hwf hu fl ?_
  generalize hj : wire E env (.union fl cls) (.union c tag payload) = j
  -- `void` → `.void`, `unset` → `.bare` | `.nested`, `flat` → `.struct`, `nested` → `.nested`
  cases WireUnion.of_valid htd gp.valid hj with
  | void hv =>
    rw [show canon env td.ty .none = .none by simp [canon]]
    exact .void (htag _) htd hca hv (by simp [Compat.voidExtra, jsonLookup, htagne1])
  | unset hv hnl =>
    rw [show canon env td.ty .none = .none by simp [canon]] at hmk ⊢
    cases hps : isPlainStruct td.ty with
    | true =>
      obtain ⟨sfl, sc, hq⟩ := isPlainStruct_iff.1 hps
      exact .bare htd hca hq (by rw [hq] at hnl; exact hnl)
    | false =>
      exact .nested (htag _) htd hca hv hps
        (by simp [Compat.payloadOf, decodeMembers, htagne2, childLookup, jsonLookup, htagne1, hnl])
        (by simp) hmk
  | @flat fl2 sc c' slots htt =>
    rw [htt] at gp ihp hmk h4 ⊢
    obtain rfl : c' = sc := by
      have := gp.wf
      simp only [valWF, Bool.and_eq_true, beq_iff_eq] at this
      exact this.1.1
    obtain ⟨s, hs, hall, hnds⟩ := good_struct_inv gp
    have hndf := publicFields_nodup hwf c'
    simp only [wire] at ihp
    rw [decode_struct_obj, memberTable_struct_structTable strict fl2 hs] at ihp
    -- `decode_union_dict` reads an object that is the tag alone as `None` where the member is nullable: the one step
    -- that needs `ambiguousEmpty = false`
    have hlen : (fl2.nullable && ((".tag", JVal.str tag) ::
        pick (publicFields env c') (wireSlots E env (publicFields env c') slots)).length == 1) = false := by
      cases hn : fl2.nullable
      · rfl
      · have := h4.1
        simp only [hn, Bool.true_and] at this
        have hne := pick_ne_nil (E := E) (env := env) hndf hnds this
        cases hpk : pick (publicFields env c') (wireSlots E env (publicFields env c') slots) with
        | nil => exact absurd hpk hne
        | cons a as => simp
    refine .struct (htag _) htd hca htt hlen ?_ hmk
    rw [decodeMembers_tag_prefix _ _ _ _ _ (structTable_no_tag hwf c'), finishStruct_tag_prefix, ihp]
  | nested hv hps hpn =>
    have hnn : isNullJ (wire E env td.ty payload) = false := by rw [wire_isNull hwf _ _ gp]; exact hpn
    refine .nested (htag _) htd hca hv hps ?_ (by simp) hmk
    simp only [Compat.payloadOf, decodeMembers, List.find?, htagne2, beq_self_eq_true, childLookup,
      decode_withFlags E env [] strict td.ty _ hnn, ihp, if_true]

theorem decode_wire_canon {E : Ext} {env : Env} (hwf : envWF env = true) (hrt : envRT env = true)
    (laws : ExtLaws E env) (strict : Bool) (t : PTy) (v : PyVal) (h : Good E env t v) :
    decode E env [] strict t (wire E env t v) = .ok (canon env t v) := by
  refine good_induct hwf (fun t v => decode E env [] strict t (wire E env t v) = .ok (canon env t v))
    (decode_wire_leaf laws strict) ?_ ?_ ?_ ?_ ?_ t v h
  · intro fl item mn mx xs g ih
    simp only [wire, canon]
    rw [decode_list_arr, decodeList_canon strict item xs fun x hx => (ih x hx).2]
    rfl
  · intro fl kt vt kvs g ih
    simp only [wire, canon]
    rw [decode_map_obj, decodeMap_canon strict vt kvs fun kx hkx => ⟨(ih kx hkx).1, (ih kx hkx).2.2.2⟩]
    rfl
  · intro fl cls slots g ih
    exact decode_wire_struct hwf hrt strict g ih
  · intro fl cls c slots g ih
    exact decode_wire_tree hwf hrt strict g ih
  · intro fl cls c tag payload td g htd gp ihp
    exact decode_wire_union hwf hrt strict g htd gp ihp

end StoneVerif.Rt.RoundTrip
