import StoneVerif.Lemmas.RtRoundTrip.Valid
import StoneVerif.Lemmas.RtFields
/-!
`decode_struct_fields` on the wire form of an instance (`finishFields`, `finishStruct`, `decodeMembers`), given that
every member decodes to its canonical form.
-/
namespace StoneVerif.Rt.RoundTrip

theorem jsonLookup_eq_lookupW (k : String) (kvs : List (String × JVal)) : jsonLookup k kvs = lookupW k kvs := by
  rw [jsonLookup_eq_find?, lookupW_eq_find?]

theorem attrOK_of_validate {E : Ext} {env : Env} {f : FieldDef} (hf : fieldRT env f = true) {y : PyVal}
    (h : validate E env f.ty y = .ok y) : AttrOK E env f y := by
  unfold AttrOK
  split
  · rename_i hu
    have hut := (fieldRT_parts hf).2.1 hu
    exact (V8.validateTypeOnly_good env f.ty y hut).of_acc
      (V8.typeOnlyB_of_satB hut ((V8.validate_spec E env f.ty y).ok_eq h).1)
  · exact h

theorem finishFields_fill (E : Ext) (env : Env) (children : List (String × R PyVal)) (rs : List (String × PyVal))
    (fields : List FieldDef) (hnd : (fields.map (·.name)).Nodup)
    (hch : ∀ f ∈ fields, childLookup f.name children = (lookupSlot f.name rs).map .ok)
    (hset : ∀ f ∈ fields, ∀ y, lookupSlot f.name rs = some y → isNoneV y = false ∧ AttrOK E env f y)
    (hdef : ∀ f ∈ fields, hasDefault env f.ty = true →
        (f.attrNullable = true → isNoneV (getDefault f.ty) = true) ∧
        (f.attrNullable = false → AttrOK E env f (getDefault f.ty))) :
    finishFields E env fields children [] = .ok (fillSlots env fields rs) := by
  rw [finishFields_run E env children fields hnd,
    runFields_of_steps E env children (fun f => (fillOne env rs f).map (·.2))]
  · rw [fillSlots_shape]
  · intro f hf
    rw [fieldStep, hch f hf, fillOne]
    cases hl : lookupSlot f.name rs with
    | some y =>
      obtain ⟨hy, hok⟩ := hset f hf y hl
      exact storeVal_ok (Or.inl hy) hok
    | none =>
      simp only [Option.map_none]
      by_cases hd : hasDefault env f.ty = true
      · obtain ⟨h1, h2⟩ := hdef f hf hd
        rw [if_pos hd, hd, Bool.true_and]
        cases ha : f.attrNullable with
        | true => simp only [storeVal, ha, h1 ha, Bool.and_self, if_true]; rfl
        | false => rw [storeVal_ok (Or.inr ha) (h2 ha)]; rfl
      · rw [if_neg hd]
        simp only [Bool.not_eq_true] at hd
        simp only [hd, Bool.false_and, Bool.false_eq_true, if_false, Option.map_none]

theorem validate_tree_own {E : Ext} {env : Env} (hwf : envWF env = true) {fl : Flags} {cls : String}
    {s : StructDef} (hs : env.struct? cls = some s) (slots' : List (String × PyVal))
    (hall : ∀ f ∈ publicFields env cls, attrHas f slots' = true) :
    validate E env (.tree fl cls) (.struct cls slots') = .ok (.struct cls slots') :=
  validate_struct_val E env (.inr rfl) (structSubclass_self hwf hs)
    (by rw [structFieldsOk_public hs, List.all_eq_true]; exact hall)

theorem validate_getDefault {E : Ext} {env : Env} (hwf : envWF env = true) (t : PTy)
    (hd : hasDefault env t = true) : validate E env t (getDefault t) = .ok (getDefault t) := by
  have h := DefaultOf.of_hasDefault hd
  generalize getDefault t = v at h
  cases h with
  | nullable hn => exact validate_nullable_none E env hn
  | void hn => rw [validate_void, hn]; rfl
  | struct _ hs hall => exact validate_struct_canon hwf hs [] hall

/-- `kvs`: the serialised fields of a good instance, possibly after a `.tag` member (`pre`). -/
theorem finishStruct_canon {E : Ext} {env : Env} (hwf : envWF env = true) (hrt : envRT env = true)
    (strict : Bool) {cls : String} {s : StructDef} (hs : env.struct? cls = some s)
    {slots : List (String × PyVal)} (hnds : (slots.map (·.1)).Nodup)
    (hall : ∀ f ∈ publicFields env cls, attrHas f slots = true)
    (ih : ∀ k x f, (k, x) ∈ slots → (publicFields env cls).find? (·.name == k) = some f →
      Good E env f.ty x ∧ decode E env [] strict f.ty (wire E env f.ty x) = .ok (canon env f.ty x))
    (pre : List (String × JVal)) (hpre : ∀ kx ∈ pre, kx.1 = ".tag")
    (fields : List FieldDef) (hfe : fields = publicFields env cls)
    (kvs : List (String × JVal)) (hkvs : kvs = pre ++ pick fields (wireSlots E env fields slots)) :
    finishStruct E env [] strict cls kvs
        (decodeMembers E env [] strict (fields.map fun f => (f.name, f.ty)) kvs)
      = .ok (.struct cls (fillSlots env fields (canonSlots env fields slots))) := by
  subst hfe
  -- `fields` replaces `publicFields env cls` in `ih`, `hall`, `hkvs` as well
  generalize hfd : publicFields env cls = fields at *
  obtain ⟨hndf, hfacts⟩ := publicFields_facts hwf cls
  rw [hfd] at hndf hfacts
  have hff : s.fieldsFor [] = fields := by rw [fieldsFor_nil s, ← hfd]; exact (publicFields_eq hs).symm
  have hfrt : ∀ f ∈ fields, fieldRT env f = true := fun f hf => fieldRT_public hrt hs (hfd ▸ hf)
  have hlook : ∀ f ∈ fields, lookupW f.name kvs = (firstSet f.name slots).map (wire E env f.ty) := by
    intro f hf
    have hne' : f.name ≠ ".tag" := ne_tag_of_not_dot (hfacts f hf).1
    have : lookupW f.name kvs = lookupW f.name (pick fields (wireSlots E env fields slots)) := by
      rw [hkvs]
      clear ih hall hkvs
      induction pre with
      | nil => rfl
      | cons a as iha =>
        obtain ⟨k', j⟩ := a
        have := hpre (k', j) List.mem_cons_self
        simp only at this; subst this
        simp only [List.cons_append, lookupW]
        rw [if_neg (by simpa using fun e : ".tag" = f.name => hne' e.symm)]
        exact iha fun kx h => hpre kx (List.mem_cons_of_mem _ h)
    rw [this, lookupW_pick hndf _ hf, lookupW_wireSlots E env fields f.name (find_name_of_mem hndf hf)]
  rw [finishStruct_eq E env [] strict hs, hff]
  have hstrict : (strict && kvs.any fun (k, _) => !(fields.map (·.name)).contains k && !k.startsWith ".tag") = false := by
    cases strict
    · rfl
    · simp only [Bool.true_and, List.any_eq_false, Bool.and_eq_true, Bool.not_eq_true', not_and, Bool.not_eq_false]
      intro kx hkx hnot
      rw [hkvs] at hkx
      rcases List.mem_append.1 hkx with h | h
      · rw [hpre kx h]; exact tag_startsWith_tag
      · have := pick_keys_subset _ _ kx h
        simp only [List.contains_eq_mem, decide_eq_false_iff_not] at hnot
        exact absurd this hnot
  rw [hstrict]
  simp only [Bool.false_eq_true, if_false]
  have hfin := finishFields_fill E env
    (decodeMembers E env [] strict (fields.map fun f => (f.name, f.ty)) kvs)
    (canonSlots env fields slots) fields hndf ?_ ?_ ?_
  · rw [hfin]
    simp only [R_bind_ok]
    have := attrHas_canon_all hwf hrt hs hnds (by rw [hfd]; exact hall)
      fun k x f hm hf => (ih k x f hm (by rw [← hfd]; exact hf)).1
    rw [hfd] at this
    rw [if_pos this]
  · intro f hf
    have hfind := find_name_of_mem hndf hf
    rw [childLookup_decodeMembers, jsonLookup_eq_lookupW, List.find?_map]
    have : (fields.find? ((fun p : String × PTy => p.1 == f.name) ∘ fun f => (f.name, f.ty)))
        = fields.find? (·.name == f.name) := rfl
    rw [this, hfind, hlook f hf, lookupSlot_canonSlots env fields f.name hfind]
    cases hx : firstSet f.name slots with
    | none => rfl
    | some x =>
      simp only [Option.map_some, Option.bind_some]
      rw [(ih f.name x f (firstSet_some hx).1 hfind).2]
  · intro f hf y hy
    have hfind := find_name_of_mem hndf hf
    rw [lookupSlot_canonSlots env fields f.name hfind] at hy
    obtain ⟨x, hx, rfl⟩ := Option.map_eq_some_iff.mp hy
    have g := (ih f.name x f (firstSet_some hx).1 hfind).1
    exact ⟨by rw [canon_isNone g]; exact (firstSet_some hx).2,
      attrOK_of_validate (hfrt f hf) (validate_canon hwf hrt _ _ g)⟩
  · intro f hf hd
    refine ⟨fun ha => ?_, fun _ => attrOK_of_validate (hfrt f hf) (validate_getDefault hwf _ hd)⟩
    rw [getDefault_nullable ((fieldRT_parts (hfrt f hf)).1 ha)]; rfl

end StoneVerif.Rt.RoundTrip
