import StoneVerif.Lemmas.RtRoundTrip.Slots
import StoneVerif.Lemmas.RtWireEnv
/-!
What the canonical instance stores for one public field (`CanonSlot`); from it the canonical (decoded) form of a good
value is valid and in stored form (`canon_valid`), hence passes `validate` unchanged (`validate_canon`): what
`Attribute.__set__`, `Union.__init__` and the entry point check on the decoder's result.
-/
namespace StoneVerif.Rt.RoundTrip

theorem canon_isNone {E : Ext} {env : Env} {t : PTy} {v : PyVal} (h : Good E env t v) :
    isNoneV (canon env t v) = isNoneV v := by
  cases validB_view h.valid with
  | leaf hl => cases hl <;> rfl
  | union _ _ htd _ => simp only [canon, htd]; rfl
  | _ => rfl

theorem canonList_length (env : Env) (t : PTy) (xs : List PyVal) : (canonList env t xs).length = xs.length := by
  induction xs with
  | nil => rfl
  | cons x xs ih => simp [canonList, ih]

theorem envRT_struct {env : Env} (h : envRT env = true) {c : String} {s : StructDef} (hs : env.struct? c = some s) :
    (∀ f ∈ s.allAttrs, fieldRT env f = true) ∧ chainRT env s = true := by
  simp only [envRT, List.all_eq_true, Bool.and_eq_true] at h
  exact h s (struct?_some hs).1

theorem fieldRT_public {env : Env} (hrt : envRT env = true) {c : String} {d : StructDef} (hd : env.struct? c = some d)
    {f : FieldDef} (hf : f ∈ publicFields env c) : fieldRT env f = true := by
  rw [publicFields_eq hd] at hf
  exact (envRT_struct hrt hd).1 f ((fieldsSpec_sublist d []).subset hf)

theorem ancestor_field {env : Env} (hrt : envRT env = true) {c cls : String} {d a : StructDef}
    (hd : env.struct? c = some d) (ha : env.struct? cls = some a) (hsub : d.ancestors.contains cls = true)
    {f : FieldDef} (hf : f ∈ a.fieldsSpec []) :
    ∃ f' ∈ d.fieldsSpec [], f'.name = f.name ∧
      (f'.attrNullable || f'.dflt.isSome) = (f.attrNullable || f.dflt.isSome) := by
  have hc := (envRT_struct hrt hd).2
  simp only [chainRT, List.all_eq_true] at hc
  simp only [StructDef.ancestors, List.contains_eq_mem, List.mem_map, decide_eq_true_eq] at hsub
  obtain ⟨l, hl, e⟩ := hsub
  have := hc l hl
  rw [e, ha] at this
  rw [fieldsSpec_nil] at hf ⊢
  obtain ⟨hfa, hfo⟩ := List.mem_filter.1 hf
  have hm : (f.name, f.attrNullable || f.dflt.isSome, f.omitted) ∈ optSig a.allAttrs :=
    List.mem_map.2 ⟨f, hfa, rfl⟩
  obtain ⟨f', hf', e'⟩ := List.mem_map.1 (mem_of_isPrefixOf this _ hm)
  simp only [Prod.mk.injEq] at e'
  refine ⟨f', List.mem_filter.2 ⟨hf', ?_⟩, e'.1, e'.2.1⟩
  rw [e'.2.2]; exact hfo

theorem good_struct_inv {E : Ext} {env : Env} {fl : Flags} {cls : String} {slots : List (String × PyVal)}
    (h : Good E env (.struct fl cls) (.struct cls slots)) :
    ∃ s, env.struct? cls = some s ∧ (∀ f ∈ publicFields env cls, attrHas f slots = true) ∧
      (slots.map (·.1)).Nodup := by
  have h0 := h.twf; have h3 := h.wf
  simp only [tyWF] at h0
  simp only [valWF, Bool.and_eq_true] at h3
  cases validB_view h.valid with
  | leaf hl => cases hl
  | struct _ _ hall _ =>
    cases hs : env.struct? cls with
    | none => rw [hs] at h0; cases h0
    | some s => exact ⟨s, rfl, List.all_eq_true.mp hall, (nodupS_iff _).1 h3.1.2⟩

theorem good_tree_inv {E : Ext} {env : Env} {fl : Flags} {cls c : String} {slots : List (String × PyVal)}
    (h : Good E env (.tree fl cls) (.struct c slots)) :
    ∃ s d tag, env.struct? cls = some s ∧ env.struct? c = some d ∧ d.ancestors.contains cls = true ∧
      leafTag? env cls c = some tag ∧ (∀ f ∈ publicFields env c, attrHas f slots = true) ∧
      (slots.map (·.1)).Nodup := by
  have h0 := h.twf; have h3 := h.wf
  simp only [tyWF] at h0
  simp only [valWF, Bool.and_eq_true] at h3
  cases validB_view h.valid with
  | leaf hl => cases hl
  | tree _ ht hsub hall _ =>
    unfold Env.structSubclass at hsub
    cases hs : env.struct? cls with
    | none => rw [hs] at h0; cases h0
    | some s =>
      cases hd : env.struct? c with
      | none => rw [hd] at hsub; cases hsub
      | some d =>
        rw [hd] at hsub
        exact ⟨s, d, _, rfl, rfl, hsub, ht, List.all_eq_true.mp hall, (nodupS_iff _).1 h3.1⟩

theorem fieldRT_parts {env : Env} {f : FieldDef} (h : fieldRT env f = true) :
    (f.attrNullable = true → f.ty.flags.nullable = true) ∧ (f.attrUserDefined = true → isUserTyC08 f.ty = true) ∧
    (∀ d, f.dflt = some d → hasDefault env f.ty = true → f.ty.flags.nullable = true ∧ isNoneV d = true) := by
  simp only [fieldRT, Bool.and_eq_true, Bool.or_eq_true, Bool.not_eq_true'] at h
  refine ⟨fun h1 => ?_, fun h1 => ?_, fun d hd hh => ?_⟩
  · rcases h.1.1 with h2 | h2
    · rw [h1] at h2; cases h2
    · exact h2
  · rcases h.1.2 with h2 | h2
    · rw [h1] at h2; cases h2
    · -- `userTy` is C08's `isUserTyC08` under another name
      cases hty : f.ty <;> first | rfl | (rw [hty] at h2; cases h2)
  · have := h.2
    rw [hd] at this
    simp only [Bool.or_eq_true, Bool.not_eq_true', Bool.and_eq_true] at this
    rcases this with h2 | h2
    · rw [hh] at h2; cases h2
    · exact h2

/-- A held `None` is valid only at a nullable type; an unset field that answers `hasattr` has an explicit default, which
`fieldRT` allows beside a defaulting validator only where that one is nullable. -/
theorem fill_default_nullable {E : Ext} {env : Env} {slots : List (String × PyVal)}
    {f : FieldDef} (hfrt : fieldRT env f = true) (hvoid : isVoidT f.ty = false)
    (hhas : attrHas f slots = true)
    (hvalid : ∀ x, lookupSlot f.name slots = some x → validB E env f.ty x = true)
    (hnone : ∀ x, lookupSlot f.name slots = some x → isNoneV x = true)
    (hd : (hasDefault env f.ty && !f.attrNullable) = true) : f.ty.flags.nullable = true := by
  simp only [Bool.and_eq_true, Bool.not_eq_true'] at hd
  cases hl : lookupSlot f.name slots with
  | some x =>
    cases isNoneV_iff.1 (hnone x hl)
    exact nullable_of_validB_none (hvalid _ hl) hvoid
  | none =>
    rw [attrHas_eq, hl, hd.2] at hhas
    simp only [Option.isSome_none, Bool.false_or] at hhas
    cases hdf : f.dflt with
    | none => rw [hdf] at hhas; cases hhas
    | some d => exact ((fieldRT_parts hfrt).2.2 d hdf hd.1).1

/-- What the canonical instance stores under the name of a public field `f`, given the slots of a good instance: the
canonical form of the value that is set; `None` where nothing is set and the validator supplies the default (then it is
nullable); nothing otherwise.  Its index is the looked-up slot: `generalize` it before `cases`. -/
inductive CanonSlot (env : Env) (f : FieldDef) (slots : List (String × PyVal)) : Option PyVal → Prop
  | set {x : PyVal} (hx : lookupSlot f.name slots = some x) (hn : isNoneV x = false) :
    CanonSlot env f slots (some (canon env f.ty x))
  | dflt (hu : ∀ x, lookupSlot f.name slots = some x → isNoneV x = true) (hn : f.ty.flags.nullable = true)
    (ha : f.attrNullable = false) : CanonSlot env f slots (some .none)
  | unset (hu : ∀ x, lookupSlot f.name slots = some x → isNoneV x = true)
    (hd : (hasDefault env f.ty && !f.attrNullable) = false) : CanonSlot env f slots none

theorem canonSlot_view {E : Ext} {env : Env} (hwf : envWF env = true) (hrt : envRT env = true)
    {c : String} {d : StructDef} (hd : env.struct? c = some d)
    {slots : List (String × PyVal)} (hnds : (slots.map (·.1)).Nodup)
    (hall : ∀ f ∈ publicFields env c, attrHas f slots = true)
    (hvalid : ∀ k x f, (k, x) ∈ slots → (publicFields env c).find? (·.name == k) = some f →
      validB E env f.ty x = true)
    {f : FieldDef} (hf : f ∈ publicFields env c) :
    CanonSlot env f slots
      (lookupSlot f.name (fillSlots env (publicFields env c) (canonSlots env (publicFields env c) slots))) := by
  obtain ⟨hndf, hfacts⟩ := publicFields_facts hwf c
  have hfrt := fieldRT_public hrt hd hf
  have hfind := find_name_of_mem hndf hf
  rw [lookupSlot_fillSlots hndf _ hf, fillOne, lookupSlot_canonSlots env _ _ hfind, firstSet_eq_lookupSlot hnds]
  have hdef : (∀ x, lookupSlot f.name slots = some x → isNoneV x = true) →
      CanonSlot env f slots (Option.map (·.2) (if (hasDefault env f.ty && !f.attrNullable) = true
        then some (f.name, getDefault f.ty) else none)) := by
    intro hu
    cases hdd : hasDefault env f.ty && !f.attrNullable with
    | false => exact .unset hu hdd
    | true =>
      have hn := fill_default_nullable (E := E) hfrt (hfacts f hf).2.2 (hall f hf)
        (fun x hl => hvalid f.name x f (mem_of_lookupSlot hl) hfind) hu hdd
      rw [if_pos rfl, Option.map_some, getDefault_nullable hn]
      exact .dflt hu hn (by simpa using ((Bool.and_eq_true _ _).mp hdd).2)
  cases hl : lookupSlot f.name slots with
  | none => exact hdef fun x hx => by rw [hl] at hx; cases hx
  | some x =>
    rw [Option.bind_some]
    cases hx : isNoneV x with
    | true => exact hdef fun z hz => by rw [hl] at hz; cases hz; exact hx
    | false => exact .set hl hx

theorem attrHas_canon_all {E : Ext} {env : Env} (hwf : envWF env = true) (hrt : envRT env = true) {c : String}
    {d : StructDef} (hd : env.struct? c = some d)
    {slots : List (String × PyVal)} (hnds : (slots.map (·.1)).Nodup)
    (hall : ∀ f ∈ publicFields env c, attrHas f slots = true)
    (ih : ∀ k x f, (k, x) ∈ slots → (publicFields env c).find? (·.name == k) = some f → Good E env f.ty x) :
    ((publicFields env c).all fun f =>
      attrHas f (fillSlots env (publicFields env c) (canonSlots env (publicFields env c) slots))) = true := by
  rw [List.all_eq_true]
  intro f hf
  have hfind := find_name_of_mem (publicFields_nodup hwf c) hf
  have hv := canonSlot_view hwf hrt hd hnds hall (fun k x f hm hf => (ih k x f hm hf).valid) hf
  have hhas := hall f hf
  rw [attrHas_eq] at hhas ⊢
  generalize lookupSlot f.name (fillSlots env (publicFields env c) (canonSlots env (publicFields env c) slots)) = o
    at hv
  cases hv with
  | set _ _ => rfl
  | dflt _ _ _ => rfl
  | unset hu hdd =>
    cases hl : lookupSlot f.name slots with
    | none => simpa only [hl, Option.isSome_none, Bool.false_or] using hhas
    | some x =>
      cases isNoneV_iff.1 (hu x hl)
      rw [hasDefault_of_valid_none (ih f.name _ f (mem_of_lookupSlot hl) hfind).valid, Bool.true_and,
        Bool.not_eq_false'] at hdd
      simp only [hdd, Bool.true_or, Bool.or_true]

theorem validate_struct_canon {E : Ext} {env : Env} (hwf : envWF env = true) {fl : Flags} {cls : String}
    {s : StructDef} (hs : env.struct? cls = some s) (slots' : List (String × PyVal))
    (hall : ∀ f ∈ publicFields env cls, attrHas f slots' = true) :
    validate E env (.struct fl cls) (.struct cls slots') = .ok (.struct cls slots') :=
  validate_struct_val E env (.inl rfl) (structSubclass_self hwf hs)
    (by rw [structFieldsOk_public hs, List.all_eq_true]; exact hall)

theorem canonList_valid {E : Ext} {env : Env} (t : PTy) (xs : List PyVal)
    (h : ∀ x ∈ xs, validB E env t (canon env t x) = true ∧ normalB env t (canon env t x) = true) :
    validList E env t (canonList env t xs) = true ∧ normalList env t (canonList env t xs) = true := by
  induction xs with
  | nil => exact ⟨rfl, rfl⟩
  | cons x xs ih =>
    have hx := h x List.mem_cons_self
    have ih := ih fun y hy => h y (List.mem_cons_of_mem _ hy)
    simp only [canonList, validList, normalList, Bool.and_eq_true]
    exact ⟨⟨hx.1, ih.1⟩, hx.2, ih.2⟩

theorem canonDict_valid {E : Ext} {env : Env} (kt vt : PTy) (kvs : List (PyVal × PyVal))
    (h : ∀ kx ∈ kvs, (∃ s, kx.1 = .str s) ∧ (validB E env kt kx.1 = true ∧ normalB env kt kx.1 = true) ∧
      validB E env vt (canon env vt kx.2) = true ∧ normalB env vt (canon env vt kx.2) = true) :
    validDict E env kt vt (canonDict env vt kvs) = true ∧ normalDict env kt vt (canonDict env vt kvs) = true := by
  induction kvs with
  | nil => exact ⟨rfl, rfl⟩
  | cons a as ih =>
    obtain ⟨k, x⟩ := a
    obtain ⟨⟨s, hs⟩, hk, hx⟩ := h (k, x) List.mem_cons_self
    have ih := ih fun y hy => h y (List.mem_cons_of_mem _ hy)
    simp only at hs hk hx
    subst hs
    simp only [canonDict, validDict, normalDict, Bool.and_eq_true]
    exact ⟨⟨⟨hk.1, hx.1⟩, ih.1⟩, ⟨hk.2, hx.2⟩, ih.2⟩

theorem validSlots_of_mem {E : Ext} {env : Env} (fields : List FieldDef) (S : List (String × PyVal))
    (h : ∀ ky ∈ S, ∀ f, fields.find? (·.name == ky.1) = some f →
      validB E env f.ty ky.2 = true ∧ normalB env f.ty ky.2 = true) :
    validSlots E env fields S = true ∧ normalSlots env fields S = true := by
  induction S with
  | nil => exact ⟨rfl, rfl⟩
  | cons a as ih =>
    obtain ⟨k, y⟩ := a
    have ih := ih fun ky hky => h ky (List.mem_cons_of_mem _ hky)
    simp only [validSlots, normalSlots, Bool.and_eq_true]
    cases hf : fields.find? (·.name == k) with
    | none => exact ⟨⟨rfl, ih.1⟩, rfl, ih.2⟩
    | some f =>
      have := h (k, y) List.mem_cons_self f hf
      exact ⟨⟨this.1, ih.1⟩, this.2, ih.2⟩

theorem mem_fill_canon {E : Ext} {env : Env} (hwf : envWF env = true) (hrt : envRT env = true)
    {c : String} {d : StructDef} (hd : env.struct? c = some d)
    {slots : List (String × PyVal)} (hnds : (slots.map (·.1)).Nodup)
    (hall : ∀ f ∈ publicFields env c, attrHas f slots = true)
    (hgood : ∀ k x f, (k, x) ∈ slots → (publicFields env c).find? (·.name == k) = some f → Good E env f.ty x)
    {k : String} {y : PyVal}
    (hm : (k, y) ∈ fillSlots env (publicFields env c) (canonSlots env (publicFields env c) slots))
    {f : FieldDef} (hf : (publicFields env c).find? (·.name == k) = some f) :
    (∃ x, (k, x) ∈ slots ∧ isNoneV x = false ∧ y = canon env f.ty x) ∨
      (y = .none ∧ f.ty.flags.nullable = true) := by
  have hndf := publicFields_nodup hwf c
  obtain ⟨hfm, rfl⟩ := find_name_some hf
  have hv := canonSlot_view hwf hrt hd hnds hall (fun k x f hm hf => (hgood k x f hm hf).valid) hfm
  rw [lookupSlot_of_mem (fillSlots_nodup hndf _) hm] at hv
  cases hv with
  | set hx hn => exact .inl ⟨_, mem_of_lookupSlot hx, hn, rfl⟩
  | dflt _ hn _ => exact .inr ⟨rfl, hn⟩

theorem canon_slots_valid {E : Ext} {env : Env} (hwf : envWF env = true) (hrt : envRT env = true)
    {c : String} {d : StructDef} (hd : env.struct? c = some d)
    {slots : List (String × PyVal)} (hnds : (slots.map (·.1)).Nodup)
    (hall : ∀ f ∈ publicFields env c, attrHas f slots = true)
    (ih : ∀ k x f, (k, x) ∈ slots → (publicFields env c).find? (·.name == k) = some f → Good E env f.ty x ∧
      validB E env f.ty (canon env f.ty x) = true ∧ normalB env f.ty (canon env f.ty x) = true) :
    let S := fillSlots env (publicFields env c) (canonSlots env (publicFields env c) slots)
    ((publicFields env c).all fun f => attrHas f S) = true ∧ validSlots E env (publicFields env c) S = true ∧
      normalSlots env (publicFields env c) S = true := by
  have hgood := fun k x f hm hf => (ih k x f hm hf).1
  have hmem := fun (ky : String × PyVal) hm f hf =>
    mem_fill_canon hwf hrt hd hnds hall hgood (k := ky.1) (y := ky.2) hm (f := f) hf
  refine ⟨attrHas_canon_all hwf hrt hd hnds hall hgood, validSlots_of_mem _ _ ?_⟩
  intro ky hky f hf
  rcases hmem ky hky f hf with ⟨x, hx, _, e⟩ | ⟨e, hn⟩
  · rw [e]; exact (ih ky.1 x f hx hf).2
  · rw [e]; exact ⟨(ValidLeaf.unset hn).validB, normalB_none env _⟩

theorem canon_valid {E : Ext} {env : Env} (hwf : envWF env = true) (hrt : envRT env = true)
    (t : PTy) (v : PyVal) (h : Good E env t v) :
    validB E env t (canon env t v) = true ∧ normalB env t (canon env t v) = true := by
  refine good_induct hwf
    (fun t v => validB E env t (canon env t v) = true ∧ normalB env t (canon env t v) = true)
    canon_leaf_valid ?_ ?_ ?_ ?_ ?_ t v h
  · intro fl item mn mx xs g ih
    obtain ⟨hv, hn⟩ := canonList_valid item xs fun x hx => (ih x hx).2
    cases validB_view g.valid with
    | leaf hl => cases hl
    | list _ h1 h2 _ =>
      rw [← canonList_length env item xs] at h1 h2
      exact ⟨(ValidView.list fl h1 h2 hv).validB, by simpa only [canon, normalB] using hn⟩
  · intro fl kt vt kvs g ih
    obtain ⟨hv, hn⟩ := canonDict_valid kt vt kvs fun kx hkx =>
      ⟨(ih kx hkx).1, ⟨(ih kx hkx).2.1.valid, (ih kx hkx).2.1.normal⟩, (ih kx hkx).2.2.2⟩
    exact ⟨(ValidView.dict fl hv).validB, by simpa only [canon, normalB] using hn⟩
  · intro fl cls slots g ih
    obtain ⟨s, hs, hall, hnds⟩ := good_struct_inv g
    obtain ⟨hcan, hv, hn⟩ := canon_slots_valid hwf hrt hs hnds hall ih
    exact ⟨(ValidView.struct fl (structSubclass_self hwf hs) hcan hv).validB, hn⟩
  · intro fl cls c slots g ih
    obtain ⟨s, d, tag, hs, hd, hsub, hleaf, hall, hnds⟩ := good_tree_inv g
    obtain ⟨hcan, hv, hn⟩ := canon_slots_valid hwf hrt hd hnds hall ih
    refine ⟨(ValidView.tree fl hleaf ?_ hcan hv).validB, hn⟩
    simp only [Env.structSubclass, hd, hsub]
  · intro fl cls c tag payload td g htd gp ihp
    cases validB_view g.valid with
    | leaf hl => cases hl
    | union _ hsub htd' hp =>
      cases htd.symm.trans htd'
      obtain ⟨u, hu⟩ := tyWF_union g.twf
      refine ⟨?_, by simpa only [canon, htd, normalB] using ihp.2⟩
      simp only [canon, htd]
      refine (ValidView.union fl (unionSubclass_self hwf hu) htd ?_).validB
      -- a void member holds `None` before and after
      cases hv : isVoidT td.ty with
      | true => rw [canon_isNone gp]; simpa only [hv, if_true] using hp
      | false => exact ihp.1

/-- `fieldsOk_of_envWFX` (`RtEncodeWire`) gives it from `envWFX`. -/
theorem fieldsOk_of_envRT {env : Env} (hwf : envWF env = true) (hrt : envRT env = true) : FieldsOkFromPublic env := by
  intro c cls slots hsub hall
  unfold Env.structSubclass at hsub
  cases hd : env.struct? c with
  | none => rw [hd] at hsub; cases hsub
  | some d =>
    rw [hd] at hsub
    unfold structFieldsOk
    cases hs : env.struct? cls with
    | none =>
      have hwfd := envWF_struct hwf hd
      simp only [StructDef.wf, Bool.and_eq_true, List.all_eq_true] at hwfd
      simp only [StructDef.ancestors, List.contains_iff_mem, List.mem_map] at hsub
      obtain ⟨l, hl, rfl⟩ := hsub
      have := hwfd.1.2 l hl
      rw [hs] at this
      cases this
    | some s =>
      simp only [allFieldsAttr_none_getD_eq_fieldsSpec, List.all_eq_true] at hall ⊢
      intro f hf
      obtain ⟨f', hf', e1, e2⟩ := ancestor_field hrt hd hs hsub hf
      have := hall f' (by rw [publicFields_eq hd]; exact hf')
      rw [attrHas_eq] at this ⊢
      rw [← e1, ← e2]; exact this

theorem validate_canon {E : Ext} {env : Env} (hwf : envWF env = true) (hrt : envRT env = true) (t : PTy) (v : PyVal)
    (h : Good E env t v) : validate E env t (canon env t v) = .ok (canon env t v) := by
  obtain ⟨hv, hn⟩ := canon_valid hwf hrt t v h
  rw [validate_valid (fieldsOk_of_envRT hwf hrt) _ _ hv, normOf_of_normal _ _ hn]

end StoneVerif.Rt.RoundTrip
