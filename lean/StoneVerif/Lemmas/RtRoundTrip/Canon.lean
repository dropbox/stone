import StoneVerif.Lemmas.RtRoundTrip.Decode
/-!
The canonical form `canon v` of a good value: `v == canon v`, it serialises to the same JSON again, and the entry point
`json_compat_obj_decode` returns it. At the end `ExtLaws.dflt_refl` from its decidable form `dfltsReflB`.
-/
namespace StoneVerif.Rt.RoundTrip

theorem pyEqList_canon {E : Ext} {env : Env} (t : PTy) (xs : List PyVal)
    (h : ∀ x ∈ xs, pyEq E env x (canon env t x) = true) : pyEqList E env xs (canonList env t xs) = true := by
  induction xs with
  | nil => simp [pyEqList, canonList]
  | cons x xs ih =>
    simp only [canonList, pyEqList, Bool.and_eq_true]
    exact ⟨h x List.mem_cons_self, ih fun y hy => h y (List.mem_cons_of_mem _ hy)⟩

theorem canonDict_length (env : Env) (vt : PTy) (kvs : List (PyVal × PyVal))
    (h : ∀ kx ∈ kvs, ∃ s, kx.1 = .str s) : (canonDict env vt kvs).length = kvs.length := by
  induction kvs with
  | nil => rfl
  | cons a as ih =>
    obtain ⟨k, x⟩ := a
    obtain ⟨s, hs⟩ := h (k, x) List.mem_cons_self
    simp only at hs; subst hs
    simp [canonDict, ih fun y hy => h y (List.mem_cons_of_mem _ hy)]

theorem mem_dictKeys {s : String} {x : PyVal} {kvs : List (PyVal × PyVal)} (h : (.str s, x) ∈ kvs) :
    s ∈ dictKeys kvs := by
  unfold dictKeys
  exact List.mem_filterMap.2 ⟨(.str s, x), h, rfl⟩

theorem dictLookup_canonDict {E : Ext} {env : Env} (vt : PTy) {kvs : List (PyVal × PyVal)}
    (hk : ∀ kx ∈ kvs, ∃ s, kx.1 = .str s) (hnd : (dictKeys kvs).Nodup) {s : String} {x : PyVal}
    (hm : (.str s, x) ∈ kvs) :
    dictLookup E env (.str s) (canonDict env vt kvs) = some (canon env vt x) := by
  induction kvs with
  | nil => cases hm
  | cons a as ih =>
    obtain ⟨k', x'⟩ := a
    obtain ⟨s', hs'⟩ := hk (k', x') List.mem_cons_self
    simp only at hs'; subst hs'
    have hnd' : s' ∉ dictKeys as ∧ (dictKeys as).Nodup := by
      have : dictKeys ((PyVal.str s', x') :: as) = s' :: dictKeys as := by simp [dictKeys]
      rw [this] at hnd; exact List.nodup_cons.1 hnd
    have hse : shallowEq E env (.str s) (.str s') = (s == s') := by simp [shallowEq]
    simp only [canonDict, dictLookup, hse]
    rcases List.mem_cons.1 hm with e | hm2
    · cases e; simp
    · have : s ≠ s' := by
        intro e; rw [e] at hm2; exact hnd'.1 (mem_dictKeys hm2)
      rw [if_neg (by simpa using this)]
      exact ih (fun y hy => hk y (List.mem_cons_of_mem _ hy)) hnd'.2 hm2

theorem pyEqDict_of_mem {E : Ext} {env : Env} (ys : List (PyVal × PyVal)) (rest : List (PyVal × PyVal))
    (h : ∀ kx ∈ rest, ∃ y, dictLookup E env kx.1 ys = some y ∧ pyEq E env kx.2 y = true) :
    pyEqDict E env rest ys = true := by
  induction rest with
  | nil => simp [pyEqDict]
  | cons a as ih =>
    obtain ⟨k, x⟩ := a
    obtain ⟨y, h1, h2⟩ := h (k, x) List.mem_cons_self
    simp only [pyEqDict, h1, h2, Bool.true_and]
    exact ih fun y hy => h y (List.mem_cons_of_mem _ hy)

theorem all_contains_self (l : List String) : l.all l.contains = true := by
  simp [List.all_eq_true]

theorem pyEqSlots_of_mem {E : Ext} {env : Env} (names : List String) (fs2 : List FieldDef)
    (s2 : List (String × PyVal)) (rest : List (String × PyVal))
    (h : ∀ kx ∈ rest, names.contains kx.1 = true →
      ∃ y, effective fs2 s2 kx.1 = some y ∧ pyEq E env kx.2 y = true) :
    pyEqSlots E env names fs2 s2 rest = true := by
  induction rest with
  | nil => simp [pyEqSlots]
  | cons a as ih =>
    obtain ⟨k, x⟩ := a
    simp only [pyEqSlots, Bool.and_eq_true]
    refine ⟨?_, ih fun y hy => h y (List.mem_cons_of_mem _ hy)⟩
    by_cases hc : names.contains k = true
    · obtain ⟨y, hy, he⟩ := h (k, x) List.mem_cons_self hc
      simp only at hy he
      rw [hc, hy]; simp [he]
    · have hc : names.contains k = false := by simpa using hc
      rw [hc]; rfl

/-- `Struct.__eq__` between an instance and its decoded form (both of class `c`) -/
theorem pyEq_struct_canon {E : Ext} {env : Env} (hwf : envWF env = true) (hrt : envRT env = true)
    (laws : ExtLaws E env) {c : String} {d : StructDef} (hd : env.struct? c = some d)
    {slots : List (String × PyVal)} (hnds : (slots.map (·.1)).Nodup)
    (hall : ∀ f ∈ publicFields env c, attrHas f slots = true)
    (ih : ∀ k x f, (k, x) ∈ slots → (publicFields env c).find? (·.name == k) = some f →
      Good E env f.ty x ∧ pyEq E env x (canon env f.ty x) = true) :
    pyEq E env (.struct c slots)
      (.struct c (fillSlots env (publicFields env c) (canonSlots env (publicFields env c) slots))) = true := by
  have hndf := publicFields_nodup hwf c
  have hanc := StructDef.cls_mem_ancestors (envWF_struct hwf hd)
  rw [(struct?_some hd).2] at hanc
  have hfs : (d.allFieldsAttr none).getD [] = publicFields env c := by
    rw [allFieldsAttr_none_getD_eq_fieldsSpec, publicFields_eq hd]
  have hview := fun f hf => canonSlot_view hwf hrt hd hnds hall
    (fun k x f hm hf => (ih k x f hm hf).1.valid) (f := f) hf
  unfold pyEq
  simp only [hd, hfs, all_contains_self, Bool.and_self, hanc, Bool.or_self, Bool.true_and, Bool.and_eq_true]
  constructor
  · apply pyEqSlots_of_mem
    intro kx hkx hc
    obtain ⟨k, x⟩ := kx
    simp only [List.contains_eq_mem, List.mem_map, decide_eq_true_eq] at hc
    obtain ⟨f, hf, rfl⟩ := hc
    have hfind := find_name_of_mem hndf hf
    have hl := lookupSlot_of_mem hnds hkx
    obtain ⟨g, he⟩ := ih f.name x f hkx hfind
    have hv := hview f hf
    simp only [effective, hfind, Option.bind_some, attrGet]
    generalize lookupSlot f.name (fillSlots env (publicFields env c) (canonSlots env (publicFields env c) slots)) = o
      at hv
    cases hv with
    | set hx hn => rw [hl] at hx; cases hx; exact ⟨_, rfl, he⟩
    | dflt hu _ _ => cases isNoneV_iff.1 (hu x hl); exact ⟨_, rfl, by simp only [pyEq]⟩
    | unset hu hdd =>
      cases isNoneV_iff.1 (hu x hl)
      rw [hasDefault_of_valid_none g.valid, Bool.true_and, Bool.not_eq_false'] at hdd
      exact ⟨.none, by simp only [hdd, if_true], by simp only [pyEq]⟩
  · rw [List.all_eq_true]
    intro f hf
    cases hl : lookupSlot f.name slots with
    | some x => rfl
    | none =>
      have hfind := find_name_of_mem hndf hf
      have hfm : f ∈ d.allAttrs := (fieldsSpec_sublist d []).subset (by rw [← publicFields_eq hd]; exact hf)
      have hhas := hall f hf
      rw [attrHas_eq, hl] at hhas
      have hv := hview f hf
      simp only [Option.isSome_none, Bool.false_or, effective, hfind, Option.bind_some, attrGet, lookupSlot]
      generalize lookupSlot f.name (fillSlots env (publicFields env c) (canonSlots env (publicFields env c) slots)) = o
        at hv
      cases hv with
      | set hx _ => rw [hl] at hx; cases hx
      | dflt _ hn ha =>
        simp only [ha, Bool.false_eq_true, if_false, Bool.false_or, Option.isSome_none] at hhas ⊢
        obtain ⟨dv, hdf⟩ := Option.isSome_iff_exists.mp hhas
        have hdn := ((fieldRT_parts (fieldRT_public hrt hd hf)).2.2 dv hdf (hasDefault_nullable env hn)).2
        cases isNoneV_iff.1 hdn
        rw [hdf]; rfl
      | unset _ hdd =>
        cases ha : f.attrNullable with
        | true => rfl
        | false =>
          simp only [ha, Bool.false_eq_true, if_false, Bool.false_or, Option.isSome_none] at hhas ⊢
          obtain ⟨dv, hdf⟩ := Option.isSome_iff_exists.mp hhas
          rw [hdf]
          exact laws.dflt_refl d (struct?_some hd).1 f hfm dv hdf

theorem pyEq_canon {E : Ext} {env : Env} (hwf : envWF env = true) (hrt : envRT env = true)
    (laws : ExtLaws E env) (t : PTy) (v : PyVal) (h : Good E env t v) :
    pyEq E env v (canon env t v) = true := by
  refine good_induct hwf (fun t v => pyEq E env v (canon env t v) = true)
    (pyEq_canon_leaf laws) ?_ ?_ ?_ ?_ ?_ t v h
  · intro fl item mn mx xs _ ih
    simp only [canon, pyEq]
    exact pyEqList_canon item xs fun x hx => (ih x hx).2
  · intro fl kt vt kvs g ih
    have h3 := g.wf
    simp only [valWF, Bool.and_eq_true] at h3
    have hk : ∀ kx ∈ kvs, ∃ s, kx.1 = .str s := fun kx hkx => (ih kx hkx).1
    simp only [canon, pyEq, canonDict_length env vt kvs hk, beq_self_eq_true, Bool.true_and]
    apply pyEqDict_of_mem
    intro kx hkx
    obtain ⟨⟨s, hs⟩, _, _, he⟩ := ih kx hkx
    refine ⟨_, ?_, he⟩
    obtain ⟨k, x⟩ := kx
    simp only at hs; subst hs
    exact dictLookup_canonDict vt hk ((nodupS_iff _).1 h3.1) hkx
  · intro fl cls slots g ih
    obtain ⟨s, hs, hall, hnds⟩ := good_struct_inv g
    simp only [canon]
    exact pyEq_struct_canon hwf hrt laws hs hnds hall ih
  · intro fl cls c slots g ih
    obtain ⟨s, d, tag, _, hd, _, _, hall, hnds⟩ := good_tree_inv g
    simp only [canon]
    exact pyEq_struct_canon hwf hrt laws hd hnds hall ih
  · intro fl cls c tag payload td g htd _ ihp
    cases validB_view g.valid with
    | leaf hl => cases hl
    | union _ hsub _ _ => simp only [canon, htd, pyEq, hsub, Bool.or_true, beq_self_eq_true, Bool.true_and, ihp]

theorem wireList_canon {E : Ext} {env : Env} (t : PTy) (xs : List PyVal)
    (h : ∀ x ∈ xs, wire E env t (canon env t x) = wire E env t x) :
    wireList E env t (canonList env t xs) = wireList E env t xs := by
  induction xs with
  | nil => simp [canonList]
  | cons x xs ih =>
    simp only [canonList, wireList]
    rw [h x List.mem_cons_self, ih fun y hy => h y (List.mem_cons_of_mem _ hy)]

theorem wireDict_canon {E : Ext} {env : Env} (vt : PTy) (kvs : List (PyVal × PyVal))
    (h : ∀ kx ∈ kvs, (∃ s, kx.1 = .str s) ∧ wire E env vt (canon env vt kx.2) = wire E env vt kx.2) :
    wireDict E env vt (canonDict env vt kvs) = wireDict E env vt kvs := by
  induction kvs with
  | nil => simp [canonDict]
  | cons a as ih =>
    obtain ⟨k, x⟩ := a
    obtain ⟨⟨s, hs⟩, hx⟩ := h (k, x) List.mem_cons_self
    simp only at hs hx
    subst hs
    simp only [canonDict, wireDict]
    rw [hx, ih fun y hy => h y (List.mem_cons_of_mem _ hy)]

theorem pick_wire_canon {E : Ext} {env : Env} (hwf : envWF env = true) (hrt : envRT env = true)
    {c : String} {d : StructDef} (hd : env.struct? c = some d)
    {slots : List (String × PyVal)} (hnds : (slots.map (·.1)).Nodup)
    (hall : ∀ f ∈ publicFields env c, attrHas f slots = true)
    (ih : ∀ k x f, (k, x) ∈ slots → (publicFields env c).find? (·.name == k) = some f →
      Good E env f.ty x ∧ wire E env f.ty (canon env f.ty x) = wire E env f.ty x) :
    pick (publicFields env c) (wireSlots E env (publicFields env c)
        (fillSlots env (publicFields env c) (canonSlots env (publicFields env c) slots))) =
      pick (publicFields env c) (wireSlots E env (publicFields env c) slots) := by
  have hndf := publicFields_nodup hwf c
  apply pick_congr
  intro f hf
  have hfind := find_name_of_mem hndf hf
  have hv := canonSlot_view hwf hrt hd hnds hall (fun k x f hm hf => (ih k x f hm hf).1.valid) hf
  rw [lookupW_wireSlots E env _ _ hfind, lookupW_wireSlots E env _ _ hfind,
    firstSet_eq_lookupSlot (fillSlots_nodup hndf _), firstSet_eq_lookupSlot hnds]
  have hunset : (∀ x, lookupSlot f.name slots = some x → isNoneV x = true) →
      ((lookupSlot f.name slots).bind fun x => if isNoneV x = true then none else some x) = none := by
    intro hu
    cases hl : lookupSlot f.name slots with
    | none => rfl
    | some x => simp only [Option.bind_some, hu x hl, if_true]
  generalize lookupSlot f.name (fillSlots env (publicFields env c) (canonSlots env (publicFields env c) slots)) = o
    at hv
  cases hv with
  | set hx hn =>
    obtain ⟨g, he⟩ := ih f.name _ f (mem_of_lookupSlot hx) hfind
    simp only [hx, Option.bind_some, canon_isNone g, hn, Bool.false_eq_true, if_false, Option.map_some, he]
  | dflt hu _ _ => rw [hunset hu]; rfl
  | unset hu _ => rw [hunset hu]; rfl

theorem wire_canon {E : Ext} {env : Env} (hwf : envWF env = true) (hrt : envRT env = true)
    (t : PTy) (v : PyVal) (h : Good E env t v) : wire E env t (canon env t v) = wire E env t v := by
  refine good_induct hwf (fun t v => wire E env t (canon env t v) = wire E env t v)
    wire_canon_leaf ?_ ?_ ?_ ?_ ?_ t v h
  · intro fl item mn mx xs _ ih
    simp only [canon, wire]
    rw [wireList_canon item xs fun x hx => (ih x hx).2]
  · intro fl kt vt kvs _ ih
    simp only [canon, wire]
    rw [wireDict_canon vt kvs fun kx hkx => ⟨(ih kx hkx).1, (ih kx hkx).2.2.2⟩]
  · intro fl cls slots g ih
    obtain ⟨s, hs, hall, hnds⟩ := good_struct_inv g
    simp only [canon, wire]
    rw [pick_wire_canon hwf hrt hs hnds hall ih]
  · intro fl cls c slots g ih
    obtain ⟨s, d, tag, _, hd, _, hleaf, hall, hnds⟩ := good_tree_inv g
    simp only [canon, wire, hleaf]
    rw [pick_wire_canon hwf hrt hd hnds hall ih]
  · intro fl cls c tag payload td g htd gp ihp
    simp only [canon, htd]
    rw [wire_union E env htd, wire_union E env htd, canon_isNone gp, ihp]

theorem jsonCompatObjDecode_wire_canon {E : Ext} {env : Env} (hwf : envWF env = true) (hrt : envRT env = true)
    (laws : ExtLaws E env) (strict : Bool) (t : PTy) (v : PyVal) (h : Good E env t v) :
    jsonCompatObjDecode E env [] strict t (wire E env t v) = .ok (canon env t v) := by
  have hdec := decode_wire_canon hwf hrt laws strict t v h
  have hval := validate_canon hwf hrt t v h
  rw [jsonCompatObjDecode_eq]
  cases hn : t.flags.nullable with
  | true =>
    simp only [Bool.not_true, Bool.false_and, Bool.false_eq_true, if_false, hdec, R_bind_ok, Bool.true_or, if_true, hval]
  | false =>
    cases validB_view h.valid with
    | leaf hl =>
      -- a primitive type: `make_stone_friendly` with validation
      have hm := makeStoneFriendly_leaf laws [] strict true hl h.normal h.wf (by rw [hn]; rfl)
      cases hl with
      | unset hn' => rw [hn'] at hn; cases hn
      | _ => simpa only [Bool.not_false, Bool.true_and, isPrimTy, if_true] using hm
    | _ =>
      simp only [Bool.not_false, Bool.true_and, isPrimTy, Bool.false_eq_true, if_false, hdec, R_bind_ok, Bool.false_or,
        if_true, hval]

theorem dflt_refl_of_dfltsReflB {E : Ext} {env : Env} (h : dfltsReflB E env = true) :
    ∀ s ∈ env.structs, ∀ f ∈ s.allAttrs, ∀ d, f.dflt = some d → shallowEq E env d d = true := by
  intro s hs f hf d hd
  simp only [dfltsReflB, List.all_eq_true] at h
  have := h s hs f hf
  rw [hd] at this
  exact this

end StoneVerif.Rt.RoundTrip
