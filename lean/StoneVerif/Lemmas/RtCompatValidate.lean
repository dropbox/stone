import StoneVerif.Lemmas.RtCompatTags
/-!
Validators across the two environments: what B's validator accepts, A's accepts in its A-view (`validate_sub`); what A's
accepts, B's accepts once the value is seen under B (`validate_lift`); the same for `validate_type_only`, `get_default`, the
required-field test (`fieldsOk_*`).  What does not depend on the direction is in section `transport`, along a translation `T`
of values, one step of the decoder's field loop (`fieldStep_transport`) included.
-/
namespace StoneVerif.Rt.Compat

theorem matchNone_eq (v : PyVal) : (match v with | .none => true | _ => false) = isNoneV v :=
  matchNone_eq_isNoneV v

theorem validate_prim_withFlags (E : Ext) (A B : Env) {a : PTy} (hp : isPrimTy a = true) {g : Flags}
    (hn : a.flags.nullable = g.nullable) (x : PyVal) : validate E A a x = validate E B (a.withFlags g) x := by
  cases a <;> simp only [isPrimTy, Bool.false_eq_true] at hp <;>
    (cases g; simp only [PTy.flags] at hn; subst hn; unfold validate; rfl)

theorem validate_prim_sub (E : Ext) (A B : Env) {ρ : Rho} {tA tB : PTy} (h : tySub ρ tA tB = true)
    (hp : isPrimTy tB = true) (x : PyVal) : validate E A tA x = validate E B tB x := by
  cases TySub.of_eq_true h with
  | prim hp' hn => exact validate_prim_withFlags E A B hp' hn x
  | list | map | struct | tree | union => cases hp

section transport
variable {E : Ext} {X Y : Env} {tX tY : PTy} {T : PyVal → PyVal}

theorem validate_transport (hT : T .none = .none) (hn : tX.flags.nullable = tY.flags.nullable)
    (core : ∀ x x', (tX.flags.nullable && isNoneV x) = false → validate E X tX x = .ok x' →
      validate E Y tY (T x) = .ok (T x')) :
    ∀ x x', validate E X tX x = .ok x' → validate E Y tY (T x) = .ok (T x') := by
  intro x x' hv
  by_cases hnone : (tX.flags.nullable && isNoneV x) = true
  · rw [Bool.and_eq_true] at hnone
    rw [isNoneV_iff.1 hnone.2, validate_nullable_none E X hnone.1] at hv
    cases hv
    rw [isNoneV_iff.1 hnone.2, hT]
    exact validate_nullable_none E Y (hn ▸ hnone.1)
  · exact core x x' (by simpa using hnone) hv

theorem validateList_transport {TL : List PyVal → List PyVal} (hnil : TL [] = [])
    (hcons : ∀ x xs, TL (x :: xs) = T x :: TL xs)
    (ih : ∀ x x', validate E X tX x = .ok x' → validate E Y tY (T x) = .ok (T x')) :
    ∀ xs ys, validateList E X tX xs = .ok ys → validateList E Y tY (TL xs) = .ok (TL ys)
  | [], ys, hv => by
    cases hv
    rw [hnil]; rfl
  | x :: xs, ys, hv => by
    simp only [validateList, bind, Except.bind] at hv
    cases h1 : validate E X tX x with
    | error e => simp [h1] at hv
    | ok y =>
      cases h2 : validateList E X tX xs with
      | error e => simp [h1, h2] at hv
      | ok ys' =>
        simp only [h1, h2, pure, Except.pure, Except.ok.injEq] at hv
        subst hv
        simp only [hcons, validateList, bind, Except.bind, ih x y h1, validateList_transport hnil hcons ih xs ys' h2, pure,
          Except.pure]

theorem validateDict_transport {kX kY : PTy} {TD : List (PyVal × PyVal) → List (PyVal × PyVal)} (hnil : TD [] = [])
    (hcons : ∀ k x rest, TD ((k, x) :: rest) = (k, T x) :: TD rest)
    (hk : ∀ k k', validate E X kX k = .ok k' → validate E Y kY k = .ok k')
    (ih : ∀ x x', validate E X tX x = .ok x' → validate E Y tY (T x) = .ok (T x')) :
    ∀ kvs ys, validateDict E X kX tX kvs = .ok ys → validateDict E Y kY tY (TD kvs) = .ok (TD ys)
  | [], ys, hv => by
    cases hv
    rw [hnil]; rfl
  | (k, x) :: rest, ys, hv => by
    simp only [validateDict, bind, Except.bind] at hv
    cases h0 : validate E X kX k with
    | error e => simp [h0] at hv
    | ok k' =>
      cases h1 : validate E X tX x with
      | error e => simp [h0, h1] at hv
      | ok y =>
        cases h2 : validateDict E X kX tX rest with
        | error e => simp [h0, h1, h2] at hv
        | ok ys' =>
          simp only [h0, h1, h2, pure, Except.pure, Except.ok.injEq] at hv
          subst hv
          simp only [hcons, validateDict, bind, Except.bind, hk k k' h0, ih x y h1,
            validateDict_transport hnil hcons hk ih rest ys' h2, pure, Except.pure]

theorem fieldStep_transport {f g : FieldDef} {cX cY : List (String × R PyVal)} (hname : f.name = g.name)
    (hnul : f.attrNullable = g.attrNullable) (hud : f.attrUserDefined = g.attrUserDefined)
    (hnone : ∀ x, isNoneV (T x) = isNoneV x)
    (hvto : ∀ x, validateTypeOnly X f.ty x = .ok () → validateTypeOnly Y g.ty (T x) = .ok ())
    (hv : ∀ x x', validate E X f.ty x = .ok x' → validate E Y g.ty (T x) = .ok (T x'))
    (hhd : hasDefault X f.ty = hasDefault Y g.ty) (hgd : T (getDefault f.ty) = getDefault g.ty)
    (hch : match childLookup f.name cX with
      | some (.ok x) => childLookup f.name cY = some (.ok (T x))
      | some (.error _) => True
      | none => childLookup f.name cY = none)
    (o : Option PyVal) (h : fieldStep E X cX f = .ok o) : fieldStep E Y cY g = .ok (o.map T) := by
  have store : ∀ x o, storeVal E X f x = .ok o → storeVal E Y g (T x) = .ok (o.map T) := by
    intro x o h
    unfold storeVal at h ⊢
    rw [hnone, ← hnul, ← hud]
    by_cases h1 : (f.attrNullable && isNoneV x) = true
    · rw [if_pos h1] at h ⊢
      cases h; rfl
    · rw [if_neg h1] at h ⊢
      by_cases h2 : f.attrUserDefined = true
      · rw [if_pos h2] at h ⊢
        cases hx : validateTypeOnly X f.ty x with
        | error e => rw [hx] at h; cases h
        | ok u => rw [hx] at h; cases h; rw [hvto x hx]; rfl
      · rw [if_neg h2] at h ⊢
        cases hx : validate E X f.ty x with
        | error e => rw [hx] at h; cases h
        | ok x' => rw [hx] at h; cases h; rw [hv x x' hx]; rfl
  unfold fieldStep at h ⊢
  rw [← hname]
  cases hc : childLookup f.name cX with
  | none =>
    rw [hc] at h hch
    rw [hch, ← hhd]
    by_cases hd : hasDefault X f.ty = true
    · rw [if_pos hd] at h ⊢
      rw [← hgd]
      exact store _ o h
    · rw [if_neg hd] at h ⊢
      cases h; rfl
  | some r =>
    cases r with
    | error e => rw [hc] at h; cases h
    | ok x =>
      rw [hc] at h hch
      rw [hch]
      exact store x o h

end transport

theorem attrHas_orderView {F : List FieldDef} (hnd : nodupS (F.map (·.name)) = true)
    {S : List (String × PyVal) → List (String × PyVal)} {T : PTy → PyVal → PyVal}
    (hS : ∀ k slots, lookupSlot k (S slots) = match F.find? (·.name == k) with
      | some f => (lookupSlot k slots).map (T f.ty)
      | none => none)
    {f g : FieldDef} (slots : List (String × PyVal)) (hname : f.name = g.name)
    (hnul : f.attrNullable = g.attrNullable) (hd : f.dflt.isSome = g.dflt.isSome)
    (hmem : g.name ∈ F.map (·.name)) (hf : attrHas f slots = true) : attrHas g (orderSlots F (S slots)) = true := by
  rw [attrHas_eq] at hf ⊢
  rw [lookupSlot_orderSlots _ _ _ hnd, if_pos hmem, hS, ← hnul, ← hd, ← hname]
  cases hq : F.find? (·.name == f.name) with
  | none => exact absurd (hname ▸ hmem) (find_name_none hq)
  | some f'' => cases hl : lookupSlot f.name slots <;> simp_all

theorem attrHas_orderLift (ρ : Rho) (B : Env) {fb' : List FieldDef} (hnd : nodupS (fb'.map (·.name)) = true)
    {g : FieldDef} (slots : List (String × PyVal)) (hmem : g.name ∈ fb'.map (·.name))
    (h : (∃ f : FieldDef, f.name = g.name ∧ f.attrNullable = g.attrNullable ∧ f.dflt.isSome = g.dflt.isSome ∧
            attrHas f slots = true) ∨ newFieldOk B g = true) :
    attrHas g (orderSlots fb' (liftSlots ρ B fb' slots)) = true := by
  rcases h with ⟨f, hname, hnul, hd, hf⟩ | hnew
  · exact attrHas_orderView hnd (lookupSlot_liftSlots ρ B fb') slots hname hnul hd hmem hf
  · rw [attrHas_eq]
    have := newFieldOk_optional hnew
    simp only [optionalAttr, Bool.or_eq_true] at this
    rcases this with h | h <;> simp [h]

theorem fieldsOk_view {ρ : Rho} {A : Env} {fa fb fa' : List FieldDef}
    (hcommon : ∀ f ∈ fa, ∃ g ∈ fb, fieldSub ρ f g = true)
    (hnd : nodupS (fa'.map (·.name)) = true) (hnames : ∀ f ∈ fa, f.name ∈ fa'.map (·.name))
    (slots : List (String × PyVal)) (hall : fb.all (fun g => attrHas g slots) = true) :
    (fa.all fun f => attrHas f (orderSlots fa' (viewSlots ρ A fa' slots))) = true := by
  rw [List.all_eq_true] at hall ⊢
  intro f hf
  obtain ⟨g, hg, hsub⟩ := hcommon f hf
  have hp := fieldSub_parts hsub
  exact attrHas_orderView hnd (lookupSlot_viewSlots ρ A fa') slots (fieldSub_name hsub).symm hp.2.2.1.symm hp.2.2.2.2.symm
    (hnames f hf) (hall g hg)

theorem fieldsOk_lift {ρ : Rho} {B : Env} {fa fb fb' : List FieldDef} (hrel : FieldsRel ρ B fa fb)
    (hnd : nodupS (fb'.map (·.name)) = true) (hnames : ∀ g ∈ fb, g.name ∈ fb'.map (·.name))
    (slots : List (String × PyVal)) (hall : fa.all (fun f => attrHas f slots) = true) :
    (fb.all fun g => attrHas g (orderSlots fb' (liftSlots ρ B fb' slots))) = true := by
  rw [List.all_eq_true] at hall ⊢
  intro g hg
  apply attrHas_orderLift ρ B hnd slots (hnames g hg)
  rcases fieldsRel_partner hrel hg with ⟨f, hf, hsub⟩ | ⟨_, hnew⟩
  · have hp := fieldSub_parts hsub
    exact .inl ⟨f, fieldSub_name hsub, hp.2.2.1, hp.2.2.2.2, hall f hf⟩
  · exact .inr hnew

theorem view_getDefault {ρ : Rho} {A : Env} (hρ : ρ.wf = true) {tA tB : PTy} (h : tySub ρ tA tB = true) :
    view ρ A tA (getDefault tB) = getDefault tA := by
  unfold getDefault
  rw [tySub_nullable h]
  split
  · exact view_none ρ A tA
  · cases TySub.of_eq_true h with
    | struct => simp only [view_struct_struct, viewSlots, orderSlots_nil]
    | tree _ hr =>
      simp only [view_tree_struct, viewSlots, orderSlots_nil, treeClassA_root hρ A hr]
    | prim hp => cases tA <;> first | exact view_none ρ A _ | cases hp
    | list | map | union => exact view_none ρ A _

theorem lift_getDefault {ρ : Rho} {B : Env} (hρ : ρ.wf = true) {tA tB : PTy} (h : tySub ρ tA tB = true) :
    lift ρ B tB (getDefault tA) = getDefault tB := by
  unfold getDefault
  rw [tySub_nullable h]
  split
  · exact lift_none ρ B tB
  · cases TySub.of_eq_true h with
    | struct => simp only [lift_struct_struct, liftSlots, orderSlots_nil]
    | tree _ hr =>
      simp only [lift_tree_struct, liftSlots, orderSlots_nil, treeClassB_root hρ B hr]
    | prim hp => cases tA <;> first | exact lift_none ρ B _ | cases hp
    | list | map | union => exact lift_none ρ B _

theorem validateTypeOnly_sub {ρ : Rho} {A B : Env} (hA : envWF A = true) {tA tB : PTy} (h : tySub ρ tA tB = true)
    (hw : tyWF A tA = true) (x : PyVal) (hv : validateTypeOnly B tB x = .ok ()) :
    validateTypeOnly A tA (view ρ A tA x) = .ok () := by
  by_cases hnone : (tB.flags.nullable && isNoneV x) = true
  · rw [Bool.and_eq_true] at hnone
    rw [isNoneV_iff.1 hnone.2, view_none]
    exact validateTypeOnly_nullable_none A (tySub_nullable h ▸ hnone.1)
  · have hother : isUserTyC08 tB = false → False := fun ht => by
      rw [validateTypeOnly_of_not_user B _ ht, if_neg hnone] at hv; cases hv
    cases TySub.of_eq_true h with
    | prim hp => exact (hother (by rw [isUserTyC08_withFlags]; exact isUserTyC08_prim hp)).elim
    | list | map => exact (hother rfl).elim
    | @struct f g c c' =>
      obtain ⟨sa, hsa, -⟩ := tyWF_struct hw
      rw [validateTypeOnly_struct, if_neg (show ¬(g.nullable && isNoneV x) = true from hnone)] at hv
      obtain ⟨sc, slots, rfl⟩ := structTypeOk_inv (by split at hv; assumption; cases hv)
      rw [view_struct_struct, validateTypeOnly_struct]
      simp only [isNoneV, structTypeOk, structSubclass_self hA hsa, Bool.and_false, Bool.false_eq_true, if_false, if_true]
    | @tree f g c c' =>
      obtain ⟨sa, hsa, -⟩ := tyWF_tree hw
      rw [validateTypeOnly_tree, validateTypeOnly_struct, if_neg (show ¬(g.nullable && isNoneV x) = true from hnone)] at hv
      obtain ⟨sc, slots, rfl⟩ := structTypeOk_inv (by split at hv; assumption; cases hv)
      rw [view_tree_struct, validateTypeOnly_tree, validateTypeOnly_struct]
      simp only [isNoneV, structTypeOk, structSubclass_treeClassA hA hsa, Bool.and_false, Bool.false_eq_true, if_false,
        if_true]
    | @union f g c c' =>
      obtain ⟨ua, hua⟩ := tyWF_union hw
      rw [validateTypeOnly_union, if_neg (show ¬(g.nullable && isNoneV x) = true from hnone)] at hv
      obtain ⟨uc, tag, p, rfl⟩ := unionTypeOk_inv (by split at hv; assumption; cases hv)
      obtain ⟨tag', p', hvw⟩ := view_union_shape ρ A f c uc tag p
      rw [hvw, validateTypeOnly_union]
      simp only [isNoneV, unionTypeOk, unionSubclass_self hA hua, Bool.and_false, Bool.false_eq_true, if_false, if_true]

theorem tyWF_B_struct {ρ : Rho} {A B : Env} (cx : Ctx ρ A B) {f g : Flags} {c c' : String}
    (hw : tyWF A (.struct f c) = true) (hr : ρ.rel c c' = true) : ∃ sa sb, A.struct? c = some sa ∧ B.struct? c' = some sb := by
  obtain ⟨sa, hsa, -⟩ := tyWF_struct hw
  obtain ⟨sb, hsb⟩ := struct_related cx.compat hr hsa
  exact ⟨sa, sb, hsa, hsb⟩

theorem validateTypeOnly_lift {ρ : Rho} {A B : Env} (cx : Ctx ρ A B) {tA tB : PTy} (h : tySub ρ tA tB = true)
    (hw : tyWF A tA = true) (x : PyVal) (hv : validateTypeOnly A tA x = .ok ()) :
    validateTypeOnly B tB (lift ρ B tB x) = .ok () := by
  by_cases hnone : (tA.flags.nullable && isNoneV x) = true
  · rw [Bool.and_eq_true] at hnone
    rw [isNoneV_iff.1 hnone.2, lift_none]
    exact validateTypeOnly_nullable_none B (tySub_nullable h ▸ hnone.1)
  · have hother : isUserTyC08 tA = false → False := fun ht => by
      rw [validateTypeOnly_of_not_user A _ ht, if_neg hnone] at hv; cases hv
    cases TySub.of_eq_true h with
    | prim hp => exact (hother (isUserTyC08_prim hp)).elim
    | list | map => exact (hother rfl).elim
    | @struct f g c c' _ hr =>
      obtain ⟨sa, sb, hsa, hsb⟩ := tyWF_B_struct (g := g) cx hw hr
      rw [validateTypeOnly_struct, if_neg (show ¬(f.nullable && isNoneV x) = true from hnone)] at hv
      obtain ⟨sc, slots, rfl⟩ := structTypeOk_inv (by split at hv; assumption; cases hv)
      rw [lift_struct_struct, validateTypeOnly_struct]
      simp only [isNoneV, structTypeOk, structSubclass_self cx.wfB hsb, Bool.and_false, Bool.false_eq_true, if_false, if_true]
    | @tree f g c c' _ hr =>
      obtain ⟨sa, hsa, -⟩ := tyWF_tree hw
      obtain ⟨sb, hsb⟩ := struct_related cx.compat hr hsa
      rw [validateTypeOnly_tree, validateTypeOnly_struct, if_neg (show ¬(f.nullable && isNoneV x) = true from hnone)] at hv
      obtain ⟨sc, slots, rfl⟩ := structTypeOk_inv (by split at hv; assumption; cases hv)
      rw [lift_tree_struct, validateTypeOnly_tree, validateTypeOnly_struct]
      simp only [isNoneV, structTypeOk, structSubclass_treeClassB cx.wfB hsb, Bool.and_false, Bool.false_eq_true, if_false,
        if_true]
    | @union f g c c' _ hr =>
      obtain ⟨ua, hua⟩ := tyWF_union hw
      obtain ⟨ub, hub⟩ := union_related cx.compat hr hua
      rw [validateTypeOnly_union, if_neg (show ¬(f.nullable && isNoneV x) = true from hnone)] at hv
      obtain ⟨uc, tag, p, rfl⟩ := unionTypeOk_inv (by split at hv; assumption; cases hv)
      obtain ⟨p', hvw⟩ := lift_union_shape ρ B g c' uc tag p
      rw [hvw, validateTypeOnly_union]
      simp only [isNoneV, unionTypeOk, unionSubclass_self cx.wfB hub, Bool.and_false, Bool.false_eq_true, if_false, if_true]

theorem validate_sub (E : Ext) {ρ : Rho} {A B : Env} (cx : Ctx ρ A B) {tA tB : PTy} (h : TySub ρ tA tB) :
    tyWF A tA = true → ∀ x x', validate E B tB x = .ok x' → validate E A tA (view ρ A tA x) = .ok (view ρ A tA x') := by
  induction h with
  | prim hp hn =>
    intro _ x x' hv
    rw [view_prim ρ A hp, view_prim ρ A hp, validate_prim_withFlags E A B hp hn]; exact hv
  | @list f g ia ib lo hi hn _ ih =>
    intro hw
    refine validate_transport (view_none ..) hn.symm fun x x' hnone hv => ?_
    obtain ⟨xs, ys, hx, rfl, h1, h2, hl⟩ := validate_list_ok hv hnone
    have ihl := validateList_transport (TL := viewList ρ A ia) rfl (fun _ _ => rfl) (ih hw) xs ys hl
    rw [view_list_list]
    refine validate_list_of (xs := viewList ρ A ia xs) ?_ (by rwa [viewList_length]) (by rwa [viewList_length]) ihl
    rcases hx with rfl | rfl
    · exact .inl (view_list_list ..)
    · exact .inr (view_list_tuple ..)
  | @map f g ka kb va vb hn hk _ ihk ihv =>
    intro hw
    refine validate_transport (view_none ..) hn.symm fun x x' hnone hv => ?_
    obtain ⟨kvs, ys, rfl, rfl, hl⟩ := validate_map_ok hv hnone
    have hpk : isPrimTy kb = true := tySub_isPrim hk.eq_true ▸ (tyWF_map hw).1
    rw [view_map_dict, view_map_dict]
    exact validate_map_of (validateDict_transport (TD := viewDict ρ A va) rfl (fun _ _ _ => rfl)
      (fun k k' h0 => by rw [validate_prim_sub E A B hk.eq_true hpk]; exact h0) (ihv (tyWF_map hw).2.2) kvs ys hl)
  | @struct f g c c' hn hr =>
    intro hw
    refine validate_transport (view_none ..) hn.symm fun x x' hnone hv => ?_
    obtain ⟨sa, hsa, -⟩ := tyWF_struct hw
    obtain ⟨sb, hsb⟩ := struct_related cx.compat hr hsa
    obtain ⟨rfl, h1, h2⟩ := validate_struct_ok hv hnone
    obtain ⟨sc, slots, rfl⟩ := structTypeOk_inv h1
    rw [structFieldsOk_public hsb] at h2
    have hrel := fieldsRel_public cx.compat cx.wfA cx.wfB hr hsa
    rw [view_struct_struct]
    exact validate_struct_val E A (.inl rfl) (structSubclass_self cx.wfA hsa) ((structFieldsOk_public hsa _).trans
      (fieldsOk_view hrel.common hrel.nodupA (fun f' hf' => List.mem_map.mpr ⟨f', hf', rfl⟩) slots h2))
  | @tree f g c c' hn hr =>
    intro hw
    refine validate_transport (view_none ..) hn.symm fun x x' hnone hv => ?_
    obtain ⟨sa, hsa, -⟩ := tyWF_tree hw
    obtain ⟨sb, hsb⟩ := struct_related cx.compat hr hsa
    rw [validate_tree] at hv
    obtain ⟨rfl, h1, h2⟩ := validate_struct_ok hv hnone
    obtain ⟨sc, slots, rfl⟩ := structTypeOk_inv h1
    rw [structFieldsOk_public hsb] at h2
    have hrel := fieldsRel_public cx.compat cx.wfA cx.wfB hr hsa
    have hsubc := structSubclass_treeClassA (ρ := ρ) (c := sc) cx.wfA hsa
    obtain ⟨_, _, _, _, hpre⟩ := publicFields_prefix cx.wfxA hsubc
    rw [view_tree_struct]
    exact validate_struct_val E A (.inr rfl) hsubc ((structFieldsOk_public hsa _).trans
      (fieldsOk_view hrel.common (publicFields_nodupS cx.wfA _) (attrsPrefix_names hpre) slots h2))
  | @union f g c c' hn hr =>
    intro hw
    refine validate_transport (view_none ..) hn.symm fun x x' hnone hv => ?_
    obtain ⟨ua, hua⟩ := tyWF_union hw
    obtain ⟨rfl, h1⟩ := validate_union_ok hv hnone
    obtain ⟨uc, tag, p, rfl⟩ := unionTypeOk_inv h1
    obtain ⟨tag', p', hvw⟩ := view_union_shape ρ A f c uc tag p
    rw [hvw]
    exact validate_union_val E A f (unionSubclass_self cx.wfA hua)

theorem validateList_sub (E : Ext) {ρ : Rho} {A B : Env} (cx : Ctx ρ A B) :
    ∀ (xs : List PyVal) (tA tB : PTy) (ys : List PyVal), tySub ρ tA tB = true → tyWF A tA = true →
      validateList E B tB xs = .ok ys → validateList E A tA (viewList ρ A tA xs) = .ok (viewList ρ A tA ys) :=
  fun xs _ _ ys h hw =>
    validateList_transport rfl (fun _ _ => rfl) (validate_sub E cx (.of_eq_true h) hw) xs ys

theorem validateDict_sub (E : Ext) {ρ : Rho} {A B : Env} (cx : Ctx ρ A B) :
    ∀ (kvs : List (PyVal × PyVal)) (ka kb va vb : PTy) (ys : List (PyVal × PyVal)),
      tySub ρ ka kb = true → tySub ρ va vb = true → isPrimTy ka = true → tyWF A va = true →
      validateDict E B kb vb kvs = .ok ys → validateDict E A ka va (viewDict ρ A va kvs) = .ok (viewDict ρ A va ys) :=
  fun kvs ka kb va vb ys hk hvt hpk hw =>
    validateDict_transport rfl (fun _ _ _ => rfl)
      (fun k k' h0 => by rw [validate_prim_sub E A B hk (tySub_isPrim hk ▸ hpk)]; exact h0)
      (validate_sub E cx (.of_eq_true hvt) hw) kvs ys

theorem validate_lift (E : Ext) {ρ : Rho} {A B : Env} (cx : Ctx ρ A B) {tA tB : PTy} (h : TySub ρ tA tB) :
    tyWF A tA = true → ∀ x x', validate E A tA x = .ok x' → validate E B tB (lift ρ B tB x) = .ok (lift ρ B tB x') := by
  induction h with
  | @prim a g hp hn =>
    intro _ x x' hv
    have hp' : isPrimTy (a.withFlags g) = true := by rw [isPrimTy_withFlags]; exact hp
    rw [lift_prim ρ B hp', lift_prim ρ B hp', ← validate_prim_withFlags E A B hp hn]; exact hv
  | @list f g ia ib lo hi hn _ ih =>
    intro hw
    refine validate_transport (lift_none ..) hn fun x x' hnone hv => ?_
    obtain ⟨xs, ys, hx, rfl, h1, h2, hl⟩ := validate_list_ok hv hnone
    have ihl := validateList_transport (TL := liftList ρ B ib) rfl (fun _ _ => rfl) (ih hw) xs ys hl
    rw [lift_list_list]
    refine validate_list_of (xs := liftList ρ B ib xs) ?_ (by rwa [liftList_length]) (by rwa [liftList_length]) ihl
    rcases hx with rfl | rfl
    · exact .inl (lift_list_list ..)
    · exact .inr (lift_list_tuple ..)
  | @map f g ka kb va vb hn hk _ ihk ihv =>
    intro hw
    refine validate_transport (lift_none ..) hn fun x x' hnone hv => ?_
    obtain ⟨kvs, ys, rfl, rfl, hl⟩ := validate_map_ok hv hnone
    have hpk : isPrimTy kb = true := tySub_isPrim hk.eq_true ▸ (tyWF_map hw).1
    rw [lift_map_dict, lift_map_dict]
    exact validate_map_of (validateDict_transport (TD := liftDict ρ B vb) rfl (fun _ _ _ => rfl)
      (fun k k' h0 => by rw [← validate_prim_sub E A B hk.eq_true hpk]; exact h0) (ihv (tyWF_map hw).2.2) kvs ys hl)
  | @struct f g c c' hn hr =>
    intro hw
    refine validate_transport (lift_none ..) hn fun x x' hnone hv => ?_
    obtain ⟨sa, sb, hsa, hsb⟩ := tyWF_B_struct (g := g) cx hw hr
    obtain ⟨rfl, h1, h2⟩ := validate_struct_ok hv hnone
    obtain ⟨sc, slots, rfl⟩ := structTypeOk_inv h1
    rw [structFieldsOk_public hsa] at h2
    have hrel := fieldsRel_public cx.compat cx.wfA cx.wfB hr hsa
    rw [lift_struct_struct]
    exact validate_struct_val E B (.inl rfl) (structSubclass_self cx.wfB hsb) ((structFieldsOk_public hsb _).trans
      (fieldsOk_lift hrel hrel.nodupB (fun g' hg' => List.mem_map.mpr ⟨g', hg', rfl⟩) slots h2))
  | @tree f g c c' hn hr =>
    intro hw
    refine validate_transport (lift_none ..) hn fun x x' hnone hv => ?_
    obtain ⟨sa, hsa, -⟩ := tyWF_tree hw
    obtain ⟨sb, hsb⟩ := struct_related cx.compat hr hsa
    rw [validate_tree] at hv
    obtain ⟨rfl, h1, h2⟩ := validate_struct_ok hv hnone
    obtain ⟨sc, slots, rfl⟩ := structTypeOk_inv h1
    rw [structFieldsOk_public hsa] at h2
    have hrel := fieldsRel_public cx.compat cx.wfA cx.wfB hr hsa
    have hsubc := structSubclass_treeClassB (ρ := ρ) (c := sc) cx.wfB hsb
    obtain ⟨_, _, _, _, hpre⟩ := publicFields_prefix (envWFX_of_envWFU cx.wfuB) hsubc
    rw [lift_tree_struct]
    exact validate_struct_val E B (.inr rfl) hsubc ((structFieldsOk_public hsb _).trans
      (fieldsOk_lift hrel (publicFields_nodupS cx.wfB _) (attrsPrefix_names hpre) slots h2))
  | @union f g c c' hn hr =>
    intro hw
    refine validate_transport (lift_none ..) hn fun x x' hnone hv => ?_
    obtain ⟨ua, hua⟩ := tyWF_union hw
    obtain ⟨ub, hub⟩ := union_related cx.compat hr hua
    obtain ⟨rfl, h1⟩ := validate_union_ok hv hnone
    obtain ⟨uc, tag, p, rfl⟩ := unionTypeOk_inv h1
    obtain ⟨p', hvw⟩ := lift_union_shape ρ B g c' uc tag p
    rw [hvw]
    exact validate_union_val E B g (unionSubclass_self cx.wfB hub)

theorem validateList_lift (E : Ext) {ρ : Rho} {A B : Env} (cx : Ctx ρ A B) :
    ∀ (xs : List PyVal) (tA tB : PTy) (ys : List PyVal), tySub ρ tA tB = true → tyWF A tA = true →
      validateList E A tA xs = .ok ys → validateList E B tB (liftList ρ B tB xs) = .ok (liftList ρ B tB ys) :=
  fun xs _ _ ys h hw =>
    validateList_transport rfl (fun _ _ => rfl) (validate_lift E cx (.of_eq_true h) hw) xs ys

theorem validateDict_lift (E : Ext) {ρ : Rho} {A B : Env} (cx : Ctx ρ A B) :
    ∀ (kvs : List (PyVal × PyVal)) (ka kb va vb : PTy) (ys : List (PyVal × PyVal)),
      tySub ρ ka kb = true → tySub ρ va vb = true → isPrimTy ka = true → tyWF A va = true →
      validateDict E A ka va kvs = .ok ys → validateDict E B kb vb (liftDict ρ B vb kvs) = .ok (liftDict ρ B vb ys) :=
  fun kvs ka kb va vb ys hk hvt hpk hw =>
    validateDict_transport rfl (fun _ _ _ => rfl)
      (fun k k' h0 => by rw [← validate_prim_sub E A B hk (tySub_isPrim hk ▸ hpk)]; exact h0)
      (validate_lift E cx (.of_eq_true hvt) hw) kvs ys

end StoneVerif.Rt.Compat
