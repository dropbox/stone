import StoneVerif.Lemmas.GraphSeeds
/-! Completeness of the walk: what it marks, together with the whitelisted routes, is closed under the dependency
relation (`known_closed`) and contains the seeds (`seeds_known`); what `_alias_target_retained` accepts (`Kept`). -/
namespace StoneVerif.Graph

variable {g : Graph}

theorem seen_node {stack0 : List Item} {st : St} (hinv : Inv g stack0 [] st) {a : Id}
    (ha : Item.node a ∈ st.seen) :
    ∃ kids, expand g (.node a) = .ok kids ∧ (∀ c ∈ kids, c.key ∈ st.seen) := by
  obtain ⟨it, kids, h1, _, h3, h4⟩ := hinv.done _ ha
  rw [key_node h1] at h3
  exact ⟨kids, h3, fun c hc => covered_nil.1 (h4 c hc)⟩

theorem seen_field {stack0 : List Item} {st : St} (hinv : Inv g stack0 [] st) {o : Id} {f : Field}
    (hf : Item.field o f "" ∈ st.seen) :
    ∃ no, g.node? o = some no ∧ f ∈ no.fields ∧
      ∀ b, b ∈ f.ty.refs ∨ b ∈ docTargets g no.ns f.docRefs → Item.node b ∈ st.seen := by
  obtain ⟨it, kids, h1, h2, h3, h4⟩ := hinv.done _ hf
  obtain ⟨ctx, rfl⟩ := key_field h1
  obtain ⟨_, no, hno, hfm, hparse⟩ := h2
  exact ⟨no, hno, hfm, fun b hb => covered_nil.1 (h4 _ (((expand_field_spec hparse h3).1 b).2 hb))⟩

theorem seen_walked (hda : docsAgree g = true) {stack0 : List Item} {st : St} (hinv : Inv g stack0 [] st)
    {a b : Id} {nd : Node} (ha : Item.node a ∈ st.seen) (hn : g.node? a = some nd) (hb : nd.walked g b) :
    Item.node b ∈ st.seen := by
  obtain ⟨kids, he, hk⟩ := seen_node hinv ha
  obtain ⟨h1, h2⟩ := expand_node_spec hda hn he
  rcases hb with ⟨ht, f, hf, hb⟩ | hb
  · obtain ⟨no, hno, _, h⟩ := seen_field hinv (hk _ ((h2 a f nd.ns).2 ⟨ht, hf, rfl, rfl⟩))
    cases hn.symm.trans hno
    exact h b hb
  · exact hk _ ((h1 b).2 hb)

/-- The whitelisted routes are output without the walk being called on them, so closedness is stated for the marked
nodes together with them. -/
def Known (g : Graph) (wl : Whitelist) (st : St) (i : Id) : Prop :=
  Item.node i ∈ st.seen ∨ i ∈ wlAllRouteIds g wl

theorem unwrapsTo_closed {T : Id → Prop}
    (halias : ∀ a n b, T a → g.node? a = some n → n.isAlias = true → b ∈ n.target.refs → T b)
    {fuel : Nat} {e : TyExpr} {u : Id} (h : unwrapsTo g fuel e = some u) (he : ∀ b ∈ e.refs, T b) : T u := by
  fun_induction unwrapsTo g fuel e <;> try cases h
  · rename_i ih
    exact ih h (by simpa [TyExpr.refs] using he)
  · rename_i a nd hnd hal ih
    exact ih h fun b hb => halias a nd b (he a (by simp [TyExpr.refs])) hnd hal hb
  · exact he u (by simp [TyExpr.refs])

/-- `st` is the state a finished walk from `start` leaves, and `start` holds exactly the starting points of `wl` -/
structure FilterRun (g : Graph) (wl : Whitelist) (st : St) (start : List Id) : Prop where
  inv : Inv g (start.map .node) [] st
  isStart : ∀ b, b ∈ start ↔ IsStart g wl b

theorem filterRun_of_ok (hwf : g.refsOk = true) (hda : docsAgree g = true) {wl : Whitelist}
    {r : Filtered} (h : whitelistFilter g wl = .ok r) :
    ∃ st, FilterRun g wl st r.start ∧ r.types = st.types ∧
      (∀ x, x ∈ r.routes ↔ x ∈ wlAllRouteIds g wl ∨ x ∈ st.routes) ∧ r.seen = st.seen ∧
      filterAliases g st.types (g.dfsFuel 0) g.allAliases = .ok r.aliases := by
  obtain ⟨st, hst, e1, e2, e3, e4, hstart⟩ := whitelistFilter_spec hwf hda h
  have hinv0 : Inv g (r.start.map .node) (r.start.map .node) {} :=
    ⟨fun it hit => by obtain ⟨b, _, rfl⟩ := List.mem_map.1 hit; trivial, fun k hk => (nomatch hk),
      fun i => by simp, fun i => by simp, fun it hit => Or.inr (List.mem_map_of_mem hit)⟩
  exact ⟨st, ⟨inv_final hwf hda hst hinv0, hstart⟩, e1, e2, e3, e4⟩

theorem start_seen {wl : Whitelist} {st : St} {start : List Id}
    (hrun : FilterRun g wl st start) {b : Id} (hb : IsStart g wl b) : Item.node b ∈ st.seen := by
  have := covered_nil.1 (hrun.inv.init (.node b) (List.mem_map_of_mem ((hrun.isStart b).2 hb)))
  simpa [Item.key] using this

theorem wlAllRouteIds_route (hwf : g.refsOk = true) {wl : Whitelist} {a : Id}
    (ha : a ∈ wlAllRouteIds g wl) : ∃ p ∈ wl.routes, a ∈ wlRouteIds g p.1 p.2 ∧
      ∃ nd, g.node? a = some nd ∧ nd.kind = .route ∧ nd.ns = p.1 := by
  simp only [wlAllRouteIds, List.mem_flatMap] at ha
  obtain ⟨p, hp, hr⟩ := ha
  obtain ⟨nd, hnd, hk, hns⟩ := wlRouteIds_route hwf hr
  exact ⟨p, hp, hr, nd, hnd, kind_of_isRoute hk, hns⟩

theorem known_walked (hwf : g.refsOk = true) (hda : docsAgree g = true) {wl : Whitelist} {st : St}
    {start : List Id} (hrun : FilterRun g wl st start) {a b : Id} {n : Node}
    (ha : Known g wl st a) (hn : g.node? a = some n) (hb : n.walked g b) : Item.node b ∈ st.seen := by
  rcases ha with ha | ha
  · exact seen_walked hda hrun.inv ha hn hb
  · -- a whitelisted route is not walked itself: its signature and what its doc refers to are starting points
    obtain ⟨p, hp, hr, nd, hnd, hk, hns⟩ := wlAllRouteIds_route hwf ha
    cases hn.symm.trans hnd
    refine start_seen hrun (Or.inl ⟨p, hp, Or.inr ⟨a, hr, ?_⟩⟩)
    rcases hb with ⟨ht, _⟩ | hb | hb
    · simp [Node.isType, hk] at ht
    · left; exact (ioOf_route hn hk).symm ▸ hb
    · right; simpa [docsOf, hn, hns] using hb

theorem known_hardRefs (hwf : g.refsOk = true) (hda : docsAgree g = true) {wl : Whitelist} {st : St}
    {start : List Id} (hrun : FilterRun g wl st start) {a b : Id} (ha : Known g wl st a)
    (hb : b ∈ hardRefs g a) : Item.node b ∈ st.seen := by
  simp only [hardRefs] at hb
  split at hb
  · rename_i n hn
    exact known_walked hwf hda hrun ha hn (Node.walked_of_hardRefs hb)
  · simp at hb

theorem wlAllRouteIds_kind (hwf : g.refsOk = true) {wl : Whitelist} {a : Id} {n : Node}
    (ha : a ∈ wlAllRouteIds g wl) (hn : g.node? a = some n) : n.kind = .route := by
  obtain ⟨_, _, _, nd, hnd, hkr, _⟩ := wlAllRouteIds_route hwf ha
  rw [hn] at hnd; cases hnd; exact hkr

theorem known_closed (hwf : g.refsOk = true) (hda : docsAgree g = true) (htd : tagDefaultsOk g = true)
    {wl : Whitelist} {st : St} {start : List Id}
    (hrun : FilterRun g wl st start) : Stable (succ g) (Known g wl st) := by
  intro a ha b h
  obtain ⟨n, hn, h⟩ := mem_succ.1 h
  rcases Node.mem_succ.1 h with hb | ⟨hk, f, hf, hb⟩
  · exact Or.inl (known_walked hwf hda hrun ha hn hb)
  · simp only [tagDefaultsOk, List.all_eq_true] at htd
    have h1 := htd n (node?_mem hn).1 f hf
    simp only [hb, beq_iff_eq] at h1
    -- the field's type is marked, and from a marked alias the walk goes on to its target
    exact Or.inl (unwrapsTo_closed (T := fun i => Item.node i ∈ st.seen)
      (fun i ni c hi hni hal hc => known_walked hwf hda hrun (Or.inl hi) hni (Node.walked_of_target hal hc))
      h1 (fun c hc => known_walked hwf hda hrun ha hn (.inl ⟨by simp [Node.isType, hk], f, hf, .inl hc⟩)))

theorem seeds_known {wl : Whitelist} {st : St} {start : List Id}
    (hrun : FilterRun g wl st start) : ∀ s ∈ seeds g wl, Known g wl st s := by
  intro s hs
  rcases mem_seeds.1 hs with ⟨p, hp, h | h⟩ | hd
  · exact Or.inl (start_seen hrun (Or.inl ⟨p, hp, Or.inl h⟩))
  · exact Or.inr (List.mem_flatMap.2 ⟨p, hp, h⟩)
  · exact Or.inl (start_seen hrun (Or.inr hd))

variable {ret : List Id}

/-- what `_alias_target_retained` accepts: a retained data type, or an alias whose target mentions such ids only -/
inductive Kept (g : Graph) (ret : List Id) : Id → Prop where
  | type {r nd} : g.node? r = some nd → nd.isAlias = false → r ∈ ret → Kept g ret r
  | alias {r nd} : g.node? r = some nd → nd.isAlias = true → (∀ b ∈ nd.target.refs, Kept g ret b) → Kept g ret r

theorem Kept.inv {r : Id} {nd : Node} (h : Kept g ret r) (hn : g.node? r = some nd) :
    (nd.isAlias = false → r ∈ ret) ∧ (nd.isAlias = true → ∀ b ∈ nd.target.refs, Kept g ret b) := by
  cases h with
  | type hn' hal hr => cases hn.symm.trans hn'; exact ⟨fun _ => hr, fun h => (nomatch hal.symm.trans h)⟩
  | alias hn' hal hk => cases hn.symm.trans hn'; exact ⟨fun h => (nomatch hal.symm.trans h), fun _ => hk⟩

theorem targetRetained_true {f : Nat} {refs : List Id} (h : targetRetained g ret f refs = .ok true) :
    ∀ r ∈ refs, Kept g ret r := by
  generalize hb : true = b at h  -- the result varies along the recursion
  fun_induction targetRetained g ret f refs generalizing b <;> cases h
  · exact fun r hr => nomatch hr
  · rename_i hn hal b1 hb1 b' hr' ih1 ih2
    obtain ⟨rfl, rfl⟩ : b1 = true ∧ b' = true := by revert hb; cases b1 <;> cases b' <;> simp
    exact List.forall_mem_cons.2 ⟨.alias hn hal (ih1 _ rfl hb1), ih2 _ rfl hr'⟩
  · rename_i r _ _ hn hal _ b' hr' ih
    obtain ⟨hc, rfl⟩ : ret.contains r = true ∧ b' = true := by revert hb; cases ret.contains r <;> cases b' <;> simp
    exact List.forall_mem_cons.2 ⟨.type hn (by simpa using hal) (by simpa using hc), ih _ rfl hr'⟩

theorem targetRetained_of_closed (P : Id → Prop)
    (hty : ∀ r nd, P r → g.node? r = some nd → nd.isType = true → r ∈ ret)
    (hal : ∀ r nd, P r → g.node? r = some nd → nd.isAlias = true → ∀ b ∈ nd.target.refs, P b)
    {f : Nat} {refs : List Id} {b : Bool} (h : targetRetained g ret f refs = .ok b) (hP : ∀ r ∈ refs, P r) :
    b = true := by
  fun_induction targetRetained g ret f refs generalizing b <;> cases h
  · rfl
  · rename_i r rest nd hn ha b1 hb1 b' hr' ih1 ih2
    obtain ⟨hPr, hrest⟩ := List.forall_mem_cons.1 hP
    rw [ih1 hb1 (hal r nd hPr hn ha), ih2 hr' hrest]; rfl
  · rename_i r rest nd hn _ ht b' hr' ih
    obtain ⟨hPr, hrest⟩ := List.forall_mem_cons.1 hP
    rw [List.contains_iff_mem.2 (hty r nd hPr hn ht), ih hr' hrest]; rfl

theorem filterAliases_mem {fuel : Nat} {l out : List Id} (h : filterAliases g ret fuel l = .ok out) :
    (∀ a ∈ l, ∃ nd b, g.node? a = some nd ∧ targetRetained g ret fuel nd.target.refs = .ok b) ∧
    ∀ a, a ∈ out ↔ (a ∈ l ∧ ∃ nd, g.node? a = some nd ∧ targetRetained g ret fuel nd.target.refs = .ok true) := by
  fun_induction filterAliases g ret fuel l generalizing out <;> cases h
  · exact ⟨fun a ha => (nomatch ha), fun a => by simp⟩
  · rename_i x rest nd hnd b l' hl' hb ih
    obtain ⟨i1, i2⟩ := ih hl'
    refine ⟨List.forall_mem_cons.2 ⟨⟨nd, b, hnd, hb⟩, i1⟩, fun a => ?_⟩
    have hb' : a ∈ (if b = true then x :: l' else l') ↔ (a = x ∧ b = true) ∨ a ∈ l' := by
      cases b <;> simp
    rw [hb', i2 a, List.mem_cons]
    constructor
    · rintro (⟨rfl, rfl⟩ | ⟨h1, h2⟩)
      · exact ⟨Or.inl rfl, nd, hnd, hb⟩
      · exact ⟨Or.inr h1, h2⟩
    · rintro ⟨rfl | h1, nd', hnd', ht⟩
      · rw [hnd] at hnd'; cases hnd'
        exact Or.inl ⟨rfl, Except.ok.inj (hb.symm.trans ht)⟩
      · exact Or.inr ⟨h1, nd', hnd', ht⟩

end StoneVerif.Graph
