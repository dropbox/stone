import StoneVerif.Model.Rt.SpecC06
import StoneVerif.Lemmas.RtValidate
import StoneVerif.Lemmas.RtTables
import StoneVerif.Lemmas.RtModelDecode
/-!
The decoder of the runtime model raises nothing but its validation error (`decode_nc`, for `C06.decode_no_crash`).
One case analysis of `decode` per validator class (`decode_*_cases`), stated for an arbitrary property `P` of results
(no crash here, validity in `RtDecodeValid`, rejection in C06): `P` is given of the few forms the result can have, and
the exceptions the Python cannot raise there (`KeyError` for a present tag, the two `Unreachable` branches) are
discharged once. What the table loop returns goes through an invariant rule, `finishFields_inv` (that it does not
crash, `finishFields_nc`, is its own induction). First, in `V8`, the decoder's entry at a JSON primitive.
-/
namespace StoneVerif.Rt.V8
open StoneVerif.Rt
variable (E : Ext) (env : Env) (perms : List String) (strict : Bool)

theorem makeStoneFriendly_jsonPrim_good (t : PTy)
    (j : JVal) (hp : isJsonPrimTy t = true) :
    Good (validPrim E t (pyOfJson j)) (makeStoneFriendly E env perms strict true t j) (pyOfJson j) := by
  rw [makeStoneFriendly_jsonPrim E env perms strict true hp, if_pos rfl, ← validPrim_withFlags E t {}]
  refine (validate_prim_good E env _ _ ?_ ?_).map _
  · rw [isPrimTy_withFlags]; exact isPrimTy_of_jsonPrim hp
  · rw [flags_withFlags]; rfl

theorem jsonCompatObjDecode_jsonPrim_good (t : PTy)
    (j : JVal) (hp : isJsonPrimTy t = true) (hn : t.flags.nullable = false) :
    Good (validPrim E t (pyOfJson j)) (jsonCompatObjDecode E env perms strict t j) (pyOfJson j) := by
  rw [jsonCompatObjDecode_eq, hn, isPrimTy_of_jsonPrim hp]
  exact makeStoneFriendly_jsonPrim_good E env perms strict t j hp

end StoneVerif.Rt.V8

namespace StoneVerif.Rt.DecL
open V8

theorem R_bind_ok {α β} (x : R α) (f : α → R β) (a : α) (h : x = .ok a) : (x >>= f) = f a := by
  subst h; rfl

theorem R_bind_error {α β} (x : R α) (f : α → R β) (e : Err) (h : x = .error e) : (x >>= f) = .error e := by
  subst h; rfl

theorem ite_cases {α} {P : α → Prop} {c : Bool} {a b : α} (ht : c = true → P a) (hf : c = false → P b) :
    P (if c then a else b) := by
  cases c
  · exact hf rfl
  · exact ht rfl

def NoCrash {α} (r : R α) : Prop := ∀ e, r ≠ .error (.crash e)

theorem NoCrash.ok {α} (a : α) : NoCrash (.ok a : R α) := fun _ h => by cases h
theorem NoCrash.verr {α} (m : String) : NoCrash (verr m : R α) := fun _ h => by cases h

theorem NoCrash.bind {α β : Type} {x : R α} {f : α → R β} (hx : NoCrash x) (hf : ∀ a, x = .ok a → NoCrash (f a)) :
    NoCrash (x >>= f) := by
  cases x with
  | error e => intro e' h; exact hx e' (by cases h; rfl)
  | ok a => exact hf a rfl

theorem NoCrash.map {α β : Type} {x : R α} {f : α → β} (hx : NoCrash x) : NoCrash (x.map f) := by
  cases x with
  | error e => intro e' h; exact hx e' (by cases h; rfl)
  | ok a => exact NoCrash.ok _

theorem NoCrash.mapM {α β : Type} {f : α → R β} {xs : List α} (h : ∀ x ∈ xs, NoCrash (f x)) :
    NoCrash (xs.mapM f) := by
  induction xs with
  | nil => exact .ok _
  | cons x xs ih =>
    rw [List.mapM_cons]
    exact .bind (h x List.mem_cons_self) fun _ _ =>
      .bind (ih fun y hy => h y (List.mem_cons_of_mem _ hy)) fun _ _ => .ok _

def Returns {α} (r : R α) (Q : α → Prop) : Prop := ∀ v, r = .ok v → Q v

theorem Returns.ok {α} {Q : α → Prop} {a : α} (h : Q a) : Returns (.ok a) Q := fun _ e => by cases e; exact h

theorem Returns.verr {α} {Q : α → Prop} (m : String) : Returns (verr m) Q := fun _ e => nomatch e

theorem Returns.self {α} (r : R α) : Returns r (r = .ok ·) := fun _ h => h

theorem Returns.map {α β} {Q : α → Prop} {Q' : β → Prop} {r : R α} {f : α → β} (h : Returns r Q)
    (hf : ∀ a, Q a → Q' (f a)) : Returns (r.map f) Q' := by
  cases r with
  | error e => exact fun _ e => nomatch e
  | ok a => exact .ok (hf a (h a rfl))

theorem Returns.bind {α β} {Q : α → Prop} {Q' : β → Prop} {r : R α} {k : α → R β} (h : Returns r Q)
    (hk : ∀ a, Q a → Returns (k a) Q') : Returns (r >>= k) Q' := by
  cases r with
  | error e => exact fun _ e => nomatch e
  | ok a => exact hk a (h a rfl)

theorem Returns.mapM {α β : Type} {f : α → R β} {Q : β → Prop} {xs : List α} (h : ∀ x ∈ xs, Returns (f x) Q) :
    Returns (xs.mapM f) (∀ y ∈ ·, Q y) := fun ys hys y hy => by
  obtain ⟨x, hx, e⟩ := List.mem_map.1 (mapM_eq_ok_iff.1 hys ▸ List.mem_map_of_mem (f := Except.ok) hy)
  exact h x hx y e

section
variable (E : Ext) (env : Env) (perms : List String) (strict : Bool)

theorem fieldFlagsWF_struct (h : fieldFlagsWF env = true) (c : String) (s : StructDef)
    (hs : env.struct? c = some s) : ∀ f ∈ s.allAttrs, f.flagsWF = true := by
  simp only [fieldFlagsWF, List.all_eq_true] at h
  exact h s (struct?_some hs).1

theorem structTable_tyWF (hwf : envWF env = true) (perms : List String) (c : String) (s : StructDef)
    (hs : env.struct? c = some s) (p : String × PTy)
    (hp : p ∈ (s.fieldsFor perms).map (fun f => (f.name, f.ty))) : tyWF env p.2 = true := by
  obtain ⟨f, hf, rfl⟩ := List.mem_map.mp hp
  exact StructDef.wf_tyWF (envWF_struct hwf hs) (fieldsFor_subset s perms f hf)

theorem jsonLookup_none_of_not_mem (k : String) (kvs : List (String × JVal))
    (h : ∀ x, (k, x) ∉ kvs) : jsonLookup k kvs = none :=
  jsonLookup_eq_none_of_not_mem h

theorem attrSet_eq_ok {E : Ext} {env : Env} {f : FieldDef} {slots slots' : List (String × PyVal)} {x : PyVal}
    (h : attrSet E env f slots x = .ok slots') : fieldSat E env f x = true ∧ slots' = slotsAfter E f slots x := by
  rcases attrSet_spec E env f slots x with ⟨a, b⟩ | ⟨_, b⟩ | ⟨_, _, _, b⟩
  · rw [b] at h; cases h; exact ⟨a, rfl⟩
  · rw [h] at b; cases b
  · rw [b] at h; cases h

theorem attrSet_lookup_ne (f : FieldDef) (n : String) (slots slots' : List (String × PyVal))
    (x : PyVal) (hne : f.name ≠ n) (hs : attrSet E env f slots x = .ok slots') :
    lookupSlot n slots' = lookupSlot n slots := by
  rw [(attrSet_eq_ok hs).2]
  exact lookupSlot_slotsAfter_ne E f slots x n (Ne.symm hne)

/-- A step assigns `v` to `f` when the document has a member that decoded to `v`, or has none and `v` is the implicit
default of `f`'s validator. -/
theorem finishFields_inv (children : List (String × R PyVal))
    (Inv : List (String × PyVal) → Prop) :
    ∀ (fields : List FieldDef) (slots : List (String × PyVal)),
    (∀ f ∈ fields, ∀ v s s', (childLookup f.name children = some (.ok v) ∨
        (childLookup f.name children = none ∧ hasDefault env f.ty = true ∧ v = getDefault f.ty)) →
      Inv s → attrSet E env f s v = .ok s' → Inv s') →
    Inv slots → Returns (finishFields E env fields children slots) Inv := by
  intro fields
  induction fields with
  | nil => exact fun slots _ h => .ok h
  | cons f rest ih =>
    intro slots hstep h
    have hrest := fun g hg => hstep g (List.mem_cons_of_mem _ hg)
    have hset := fun v hv => Returns.bind (.self (attrSet E env f slots v)) fun s hs =>
      ih s hrest (hstep f List.mem_cons_self v slots s hv h hs)
    simp only [finishFields]
    split
    · rename_i r hr
      exact .bind (.self r) fun v hv => hset v (.inl (hv ▸ hr))
    · rename_i hr
      split
      · exact hset _ (.inr ⟨hr, ‹_›, rfl⟩)
      · exact ih slots hrest h

theorem finishFields_lookup_skipped (n : String) (children : List (String × R PyVal))
    (fields : List FieldDef) (slots slots' : List (String × PyVal))
    (hg : ∀ g ∈ fields, g.name = n → childLookup g.name children = none ∧ hasDefault env g.ty = false)
    (hfin : finishFields E env fields children slots = .ok slots') : lookupSlot n slots' = lookupSlot n slots := by
  refine finishFields_inv E env children (lookupSlot n · = lookupSlot n slots) fields slots
    (fun f hf v s s' hv h hs => ?_) rfl slots' hfin
  by_cases hn : f.name = n
  · obtain ⟨hc, hd⟩ := hg f hf hn
    rcases hv with hv | ⟨_, hv, _⟩
    · rw [hc] at hv; cases hv
    · rw [hd] at hv; cases hv
  · rw [attrSet_lookup_ne E env f n s s' v hn hs]; exact h

theorem finishFields_null_eq_absent (c1 c2 : List (String × R PyVal)) (fields : List FieldDef)
    (h : ∀ g ∈ fields, childLookup g.name c1 = childLookup g.name c2 ∨
      (g.ty.flags.nullable = true ∧ childLookup g.name c1 = some (.ok .none) ∧ childLookup g.name c2 = none)) :
    finishFields E env fields c1 = finishFields E env fields c2 := by
  induction fields with
  | nil => rfl
  | cons f rest ih =>
    funext slots
    rw [finishFields_step, finishFields_step, ih fun g hg => h g (List.mem_cons_of_mem _ hg)]
    rcases h f List.mem_cons_self with heq | ⟨hn, h1, h2⟩
    · rw [heq]
    · rw [h1, h2, hasDefault_nullable env hn, getDefault_nullable hn]; rfl

theorem attrSet_none_nullable (f : FieldDef) (slots : List (String × PyVal))
    (hn : f.ty.flags.nullable = true) :
    ∃ s', attrSet E env f slots .none = .ok s' ∧ attrHas f s' = true := by
  rw [attrSet_eq]
  by_cases h1 : f.attrNullable = true
  · refine ⟨delSlot f.name slots, by simp [h1, isNoneV], ?_⟩
    rw [attrHas_eq, h1, Bool.true_or, Bool.or_true]
  · by_cases h2 : f.attrUserDefined = true
    · refine ⟨setSlot f.name .none slots, ?_, ?_⟩
      · simp [h1, h2, validateTypeOnly_nullable_none env hn, Except.map]
      · rw [attrHas_eq, lookupSlot_setSlot]; rfl
    · refine ⟨setSlot f.name .none slots, ?_, ?_⟩
      · simp [h1, h2, validate_nullable_none E env hn, Except.map]
      · rw [attrHas_eq, lookupSlot_setSlot]; rfl

theorem finishFields_all_optional :
    ∀ (fields : List FieldDef) (slots : List (String × PyVal)),
    nodupS (fields.map (·.name)) = true → (∀ f ∈ fields, f.optional env = true) →
    ∃ slots', finishFields E env fields [] slots = .ok slots' ∧ ∀ f ∈ fields, attrHas f slots' = true := by
  intro fields
  induction fields with
  | nil => exact fun slots _ _ => ⟨slots, rfl, fun _ h => nomatch h⟩
  | cons f rest ih =>
    intro slots hnd hopt
    have hnd := nodupS_cons hnd
    obtain ⟨s1, heq, hh⟩ : ∃ s1, finishFields E env (f :: rest) [] slots = finishFields E env rest [] s1 ∧
        attrHas f s1 = true := by
      rw [finishFields_cons]
      simp only [childLookup]
      have hof := hopt f List.mem_cons_self
      simp only [FieldDef.optional, Bool.or_eq_true, Bool.and_eq_true, Bool.not_eq_true'] at hof
      by_cases hn : f.ty.flags.nullable = true
      · obtain ⟨s1, hs1, hh⟩ := attrSet_none_nullable E env f slots hn
        exact ⟨s1, by simp [hasDefault_nullable env hn, getDefault_nullable hn, hs1], hh⟩
      · rcases hof with hn' | ⟨hd, hnd⟩
        · exact absurd hn' hn
        · refine ⟨slots, by simp [hnd], ?_⟩
          rw [attrHas_eq, hd, Bool.or_true, Bool.or_true]
    obtain ⟨slots', hfin, hall⟩ := ih s1 hnd.2 fun g hg => hopt g (List.mem_cons_of_mem _ hg)
    refine ⟨slots', heq.trans hfin, fun g hg => ?_⟩
    rcases List.mem_cons.mp hg with rfl | hg'
    · -- no later field has the name of `g`
      have := finishFields_lookup_skipped E env g.name [] rest s1 slots'
        (fun g' hg' hn => absurd (List.mem_map.2 ⟨g', hg', hn⟩) hnd.1) hfin
      rw [attrHas_congr g slots' s1 this]
      exact hh
    · exact hall g hg'

theorem validate_nc (t : PTy) (v : PyVal) : NoCrash (validate E env t v) :=
  (validate_spec E env t v).ne_crash

theorem isUserTyC08_eq_isUserTy (t : PTy) : isUserTyC08 t = isUserTy t := by
  cases t <;> rfl

theorem attrSet_nc (f : FieldDef) (slots : List (String × PyVal)) (x : PyVal)
    (h : f.flagsWF = true) : NoCrash (attrSet E env f slots x) := by
  rcases attrSet_spec E env f slots x with ⟨_, b⟩ | ⟨_, b⟩ | ⟨_, hu, hty, _⟩
  · rw [b]; exact .ok _
  · obtain ⟨m, hm⟩ := b.exists; rw [hm]; exact .verr m
  · -- `flagsWF` excludes the one crash of `Attribute.__set__`: `user_defined` on a field whose validator is no user type
    simp [FieldDef.flagsWF, hu, ← isUserTyC08_eq_isUserTy, hty] at h

theorem finishFields_nc (children : List (String × R PyVal))
    (hc : ∀ k r, childLookup k children = some r → NoCrash r) :
    ∀ (fields : List FieldDef) (slots : List (String × PyVal)), (∀ f ∈ fields, f.flagsWF = true) →
    NoCrash (finishFields E env fields children slots) := by
  intro fields
  induction fields with
  | nil => intro slots _; exact NoCrash.ok _
  | cons f rest ih =>
    intro slots hfl
    have hrest := fun g hg => hfl g (List.mem_cons_of_mem _ hg)
    have hset := fun v => attrSet_nc E env f slots v (hfl f List.mem_cons_self)
    simp only [finishFields]
    split
    · exact .bind (hc _ _ ‹_›) fun v _ => .bind (hset v) fun s _ => ih s hrest
    · split
      · exact .bind (hset _) fun s _ => ih s hrest
      · exact ih slots hrest

theorem finishStruct_nc (cls : String)
    (s : StructDef) (kvs : List (String × JVal)) (children : List (String × R PyVal))
    (hff : fieldFlagsWF env = true) (hs : env.struct? cls = some s)
    (hc : ∀ k r, childLookup k children = some r → NoCrash r) :
    NoCrash (finishStruct E env perms strict cls kvs children) := by
  rw [finishStruct_eq E env perms strict hs kvs children]
  refine ite_cases (fun _ => .verr _) fun _ => .bind ?_ fun slots _ => ite_cases (fun _ => .ok _) fun _ => .verr _
  exact finishFields_nc E env children hc (s.fieldsFor perms) []
    (fun f hf => fieldFlagsWF_struct env hff cls s hs f (fieldsFor_subset s perms f hf))

theorem mkUnion_nc (cls tag : String) (x : PyVal) (u : UnionDef)
    (hu : env.union? cls = some u) : NoCrash (mkUnion E env cls tag x) :=
  (mkUnion_spec E env cls tag x hu).ne_crash

theorem makeStoneFriendly_nc (b : Bool) (t : PTy) (j : JVal) :
    NoCrash (makeStoneFriendly E env perms strict b t j) := by
  unfold makeStoneFriendly
  cases t <;> simp only [] <;> repeat' split
  all_goals first
    | exact NoCrash.ok _
    | exact NoCrash.verr _
    | (rename_i e he; intro e' h; exact validate_nc E env _ _ e' (by rw [he]; cases h; rfl))

end

section cases
variable (E : Ext) (env : Env) (perms : List String) (strict : Bool)

def decodeStructObj (cls : String) (s : StructDef) (kvs : List (String × JVal)) : R PyVal :=
  finishStruct E env perms strict cls kvs
    (decodeMembers E env perms strict ((s.fieldsFor perms).map fun f => (f.name, f.ty)) kvs)

variable {E env perms strict}

theorem nullable_cases {fl : Flags} {j : JVal} {r : R PyVal} {P : R PyVal → Prop}
    (hnull : fl.nullable = true → j = .null → P (.ok .none)) (h : P r) :
    P (if fl.nullable && isNullJ j then .ok .none else r) := by
  cases hc : fl.nullable && isNullJ j
  · exact h
  · obtain ⟨h1, h2⟩ := Bool.and_eq_true_iff.1 hc
    exact hnull h1 (eq_null_of_isNullJ h2)

theorem decode_list_cases {fl : Flags} {item : PTy} {a b : Option Nat} {j : JVal}
    (P : R PyVal → Prop) (hnull : fl.nullable = true → j = .null → P (.ok .none)) (hverr : ∀ m, P (verr m))
    (harr : ∀ xs, j = .arr xs → P ((decodeList E env perms strict item xs).map .list)) :
    P (decode E env perms strict (.list fl item a b) j) := by
  rw [decode_list]
  refine nullable_cases hnull ?_
  cases j <;> first | exact hverr _ | exact harr _ rfl

theorem decode_map_cases {fl : Flags} {kt vt : PTy} {j : JVal}
    (P : R PyVal → Prop) (hnull : fl.nullable = true → j = .null → P (.ok .none)) (hverr : ∀ m, P (verr m))
    (hobj : ∀ kvs, j = .obj kvs → P ((decodeMap E env perms strict vt kvs).map .dict)) :
    P (decode E env perms strict (.map fl kt vt) j) := by
  rw [decode_map]
  refine nullable_cases hnull ?_
  cases j <;> first | exact hverr _ | exact hobj _ rfl

theorem decode_struct_cases {fl : Flags} {cls : String} {s : StructDef} {j : JVal} (hs : env.struct? cls = some s)
    (P : R PyVal → Prop) (hnull : fl.nullable = true → j = .null → P (.ok .none)) (hverr : ∀ m, P (verr m))
    (hdef : j = .null → hasDefault env (.struct {} cls) = true → P (.ok (.struct cls [])))
    (hobj : ∀ kvs, j = .obj kvs → P (decodeStructObj E env perms strict cls s kvs)) :
    P (decode E env perms strict (.struct fl cls) j) := by
  rw [decode_struct]
  refine nullable_cases hnull ?_
  cases j <;> try exact hverr _
  case null =>
    dsimp only; split
    · exact hdef rfl ‹_›
    · exact hverr _
  case obj kvs => dsimp only; rw [memberTable_struct env perms strict fl kvs hs]; exact hobj kvs rfl

theorem decode_tree_cases (hwf : envWF env = true) {fl : Flags} {cls : String} {s : StructDef} {j : JVal}
    (hs : env.struct? cls = some s)
    (P : R PyVal → Prop) (hnull : fl.nullable = true → j = .null → P (.ok .none)) (hverr : ∀ m, P (verr m))
    (hleaf : ∀ kvs tag tags sc d, j = .obj kvs →
      (s.subtypes.getD []).find? (fun (tags, _, _) => tags == [tag]) = some (tags, sc, false) →
      env.struct? sc = some d → P (decodeStructObj E env perms strict sc d kvs))
    (hcatch : ∀ kvs, j = .obj kvs → strict = false → s.catchAll = true →
      P (decodeStructObj E env perms strict cls s kvs)) :
    P (decode E env perms strict (.tree fl cls) j) := by
  rw [decode_tree]
  refine nullable_cases hnull ?_
  · cases j <;> try exact hverr _
    case obj kvs =>
      dsimp only
      cases htag : jsonLookup ".tag" kvs with
      | none => exact hverr _
      | some x =>
        cases x <;> try exact hverr _
        case str tag =>
          simp only [hs]
          cases hf : (s.subtypes.getD []).find? (fun (tags, _, _) => tags == [tag]) with
          | none =>
            dsimp only
            cases strict with
            | true => exact hverr _
            | false =>
              cases hc : s.catchAll with
              | false => exact hverr _
              | true =>
                rw [memberTable_tree_catchAll env perms fl htag hs hf hc]
                exact hcatch kvs rfl rfl hc
          | some e =>
            obtain ⟨tags, sc, isTree⟩ := e
            cases isTree with
            | true => exact hverr _
            | false =>
              obtain ⟨d, hd, -⟩ := subtype_entry_wf (envWF_struct hwf hs) (List.mem_of_find?_eq_some hf)
              dsimp only
              rw [memberTable_tree_leaf env perms strict fl htag hs hf hd]
              exact hleaf kvs tag tags sc d rfl hf hd

theorem decode_union_cases (hwf : envWF env = true) {fl : Flags} {cls : String} {u : UnionDef} {j : JVal}
    (hu : env.union? cls = some u)
    (P : R PyVal → Prop) (hnull : fl.nullable = true → j = .null → P (.ok .none)) (hverr : ∀ m, P (verr m))
    (hcatch : u.catchAll.isSome = true → P (mkUnion E env cls (u.catchAll.getD "") .none))
    -- every path that ends in `Cls(tag, None)`: the bare string, a Void member in an object, a nullable member that is
    -- absent or is a struct of which only `.tag` is there
    (hnone : ∀ tag ft, u.valDataType tag perms = some ft → (isVoidTy ft || ft.flags.nullable) = true →
      P (mkUnion E env cls tag .none))
    (hstruct : ∀ kvs tag sfl sc d, j = .obj kvs → u.valDataType tag perms = some (.struct sfl sc) →
      env.struct? sc = some d → P (decodeStructObj E env perms strict sc d kvs >>= mkUnion E env cls tag))
    (hmember : ∀ kvs tag ft r, j = .obj kvs → u.valDataType tag perms = some ft →
      childLookup tag (decodeMembers E env perms strict [(tag, ft.withFlags {})] kvs) = some r →
      P (r >>= mkUnion E env cls tag)) :
    P (decode E env perms strict (.union fl cls) j) := by
  have habsent : P (if !strict && u.catchAll.isSome then mkUnion E env cls (u.catchAll.getD "") .none
      else verr "unknown tag") := by
    split
    · rename_i h; exact hcatch (Bool.and_eq_true_iff.1 h).2
    · exact hverr _
  rw [decode_union E env perms strict fl cls hu]
  refine nullable_cases hnull ?_
  cases j <;> try exact hverr _
  case str tag =>
    dsimp only
    refine ite_cases (fun hp => ?_) fun _ => habsent
    obtain ⟨ft, hft⟩ := valDataType_of_present u tag perms hp
    rw [hft]
    dsimp only
    refine ite_cases (fun _ => hverr _) fun hvn => ite_cases (fun _ => hverr _) fun _ => hnone tag ft hft ?_
    rwa [Bool.not_eq_false'] at hvn
  case obj kvs =>
    dsimp only
    cases htag : jsonLookup ".tag" kvs with
    | none => exact hverr _
    | some x =>
      cases x <;> try exact hverr _
      case str tag =>
        dsimp only
        refine ite_cases (fun _ => habsent) fun hp => ite_cases (fun _ => hverr _) fun _ => ?_
        rw [Bool.not_eq_false'] at hp
        obtain ⟨ft, hft⟩ := valDataType_of_present u tag perms hp
        rw [hft, memberTable_union env perms strict fl htag hu hp hft]
        dsimp only
        have hnone' := hnone tag ft hft
        refine ite_cases (fun hv => ite_cases (fun _ => hverr _) fun _ => hnone' (by rw [hv]; rfl)) fun hv => ?_
        refine ite_cases (fun hps => ?_) fun hps => ?_
        · refine ite_cases (fun h => hnone' (by rw [(Bool.and_eq_true_iff.1 h).1, Bool.or_true])) fun _ => ?_
          cases ft with
          | struct sfl sc =>
            have htf := valDataType_tyWF env hwf cls u hu tag perms _ hft
            cases hd : env.struct? sc with
            | none => simp [tyWF, hd] at htf
            | some d =>
              rw [if_pos hps, memberTableStruct_struct env perms sfl hd]
              dsimp only
              have := hstruct kvs tag sfl sc d rfl hft hd
              unfold decodeStructObj at this
              generalize finishStruct E env perms strict sc kvs _ = r at this ⊢
              cases r <;> exact this
          | _ => cases hps
        · rw [if_neg (by rw [hps]; exact Bool.false_ne_true)]
          cases hr : childLookup tag (decodeMembers E env perms strict [(tag, ft.withFlags {})] kvs) with
          | some r =>
            have := hmember kvs tag ft r rfl hft hr
            cases r with
            | error e => exact this
            | ok v => exact ite_cases (fun _ => hverr _) fun _ => this
          | none =>
            dsimp only
            cases hj : (jsonLookup tag kvs).isSome
            case true =>
              have := childLookup_decodeMembers_isSome E env perms strict
                [(tag, ft.withFlags {})] tag (tag, ft.withFlags {}) (by simp) kvs hj
              rw [hr] at this; cases this
            cases hn : ft.flags.nullable
            · exact hverr _
            · exact ite_cases (fun _ => hverr _) fun _ => hnone' (by rw [hn, Bool.or_true])

end cases

section
variable (E : Ext) (env : Env) (perms : List String) (strict : Bool)

theorem decodeStructObj_nc (hwf : envWF env = true) (hff : fieldFlagsWF env = true) (cls : String) (s : StructDef)
    (kvs : List (String × JVal)) (hs : env.struct? cls = some s)
    (hmem : ∀ tbl, (∀ p ∈ tbl, tyWF env p.2 = true) →
      ∀ k r, childLookup k (decodeMembers E env perms strict tbl kvs) = some r → NoCrash r) :
    NoCrash (decodeStructObj E env perms strict cls s kvs) :=
  finishStruct_nc E env perms strict cls s kvs _ hff hs (hmem _ (structTable_tyWF env hwf perms cls s hs))

theorem decode_nc (hwf : envWF env = true) (hff : fieldFlagsWF env = true) (j : JVal) :
    ∀ t, tyWF env t = true → NoCrash (decode E env perms strict t j) := by
  induction j using JVal.children_induction with | _ j harr hobj
  intro t ht
  have hmem : ∀ kvs tbl, j = .obj kvs → (∀ p ∈ tbl, tyWF env p.2 = true) →
      ∀ k r, childLookup k (decodeMembers E env perms strict tbl kvs) = some r → NoCrash r := by
    intro kvs tbl hj htbl k r hr
    obtain ⟨p, x, hp, hx, rfl⟩ := childLookup_decodeMembers_some E env perms strict hr
    exact hobj kvs hj _ hx p.2 (htbl p (List.mem_of_find?_eq_some hp))
  have hstruct := fun cls s kvs hs (hj : j = .obj kvs) =>
    decodeStructObj_nc E env perms strict hwf hff cls s kvs hs fun tbl => hmem kvs tbl hj
  cases t with
  | list fl item a b =>
    exact decode_list_cases NoCrash (fun _ _ => .ok _) .verr fun xs hj =>
      .map (decodeList_eq_mapM .. ▸ .mapM fun x hx => harr xs hj x hx item ht)
  | map fl kt vt =>
    exact decode_map_cases NoCrash (fun _ _ => .ok _) .verr fun kvs hj =>
      .map (decodeMap_eq_mapM .. ▸ .mapM fun p hp => .map (hobj kvs hj p hp vt (Bool.and_eq_true_iff.1 ht).2))
  | struct fl cls =>
    obtain ⟨s, hs, _⟩ := tyWF_struct ht
    exact decode_struct_cases hs NoCrash (fun _ _ => .ok _) .verr (fun _ _ => .ok _)
      fun kvs => hstruct cls s kvs hs
  | tree fl cls =>
    obtain ⟨s, hs, _⟩ := tyWF_tree ht
    exact decode_tree_cases hwf hs NoCrash (fun _ _ => .ok _) .verr
      (fun kvs _ _ sc d hj _ hd => hstruct sc d kvs hd hj) (fun kvs hj _ _ => hstruct cls s kvs hs hj)
  | union fl cls =>
    obtain ⟨u, hu⟩ := tyWF_union ht
    have hmk := fun tag x => mkUnion_nc E env cls tag x u hu
    exact decode_union_cases hwf hu NoCrash (fun _ _ => .ok _) .verr
      (fun _ => hmk _ _) (fun tag _ _ _ => hmk tag _)
      (fun kvs tag _ sc d hj _ hd => .bind (hstruct sc d kvs hd hj) fun v _ => hmk tag v)
      (fun kvs tag ft r hj hft hr => .bind
        (hmem kvs _ hj (fun p hp => by
          rw [List.mem_singleton.1 hp]
          exact tyWF_withFlags_empty (valDataType_tyWF env hwf cls u hu tag perms ft hft)) tag r hr)
        fun v _ => hmk tag v)
  | _ =>
    rw [decode_prim E env perms strict rfl j]
    exact nullable_cases (fun _ _ => .ok _) (makeStoneFriendly_nc E env perms strict _ _ j)

variable (hwf : envWF env = true) (hff : fieldFlagsWF env = true)
include hwf hff

theorem decodeList_nc : ∀ (xs : List JVal) (t : PTy), tyWF env t = true → NoCrash (decodeList E env perms strict t xs) :=
  fun _ t ht => decodeList_eq_mapM .. ▸ .mapM fun x _ => decode_nc E env perms strict hwf hff x t ht

theorem decodeMap_nc : ∀ (kvs : List (String × JVal)) (t : PTy), tyWF env t = true →
    NoCrash (decodeMap E env perms strict t kvs) :=
  fun _ t ht => decodeMap_eq_mapM .. ▸ .mapM fun p _ => .map (decode_nc E env perms strict hwf hff p.2 t ht)

theorem decodeMembers_nc : ∀ (kvs : List (String × JVal)) (tbl : List (String × PTy)),
    (∀ p ∈ tbl, tyWF env p.2 = true) →
    ∀ k r, childLookup k (decodeMembers E env perms strict tbl kvs) = some r → NoCrash r := by
  intro kvs tbl htbl k r h
  obtain ⟨p, x, hp, _, rfl⟩ := childLookup_decodeMembers_some E env perms strict h
  exact decode_nc E env perms strict hwf hff x p.2 (htbl p (List.mem_of_find?_eq_some hp))

end

end StoneVerif.Rt.DecL
