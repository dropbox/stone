import StoneVerif.Lemmas.DeclSwift
/-! Lemmas for Props/C17.lean about coverage (every IR item has its declaration) and counting.

The list of items (`itemKeys`) and a type backend are built over the same frame (namespaces, their types, their routes), so
coverage is `⊆` along that frame (`subset_flatMap`); below it both sides are written out
and every key asked for is found, as it is written, among the keys made. `*_declares` (what `refs_closed` needs) are
instances. -/
namespace StoneVerif.DeclSwift

theorem count_one_of_nodup {α β : Type} [DecidableEq β] (f : α → β) (l : List α) (k : β)
    (hn : (l.map f).Nodup) (hk : k ∈ l.map f) : (l.filter fun x => decide (f x = k)).length = 1 := by
  have h : (l.map f).count k = 1 := by rw [hn.count, if_pos hk]
  rwa [List.count, List.countP_map, List.countP_eq_length_filter] at h

abbrev Key := String × String × List String × String

/-- stated for a constructor application so that the key is read off the arguments (unifying `Decl.key d` with a
tuple of `swClass ..` terms makes `rfl` unfold the naming functions) -/
theorem key_mem_of_mem {l : List Decl} {u k : String} {sc : List String} {n : String} {r : List TRef}
    (h : (⟨u, k, sc, n, r⟩ : Decl) ∈ l) : (u, k, sc, n) ∈ l.map Decl.key := List.mem_map.mpr ⟨_, h, rfl⟩

theorem nkey_mem_of_key_mem {l : List Decl} {u k : String} {sc : List String} {n : String}
    (h : (u, k, sc, n) ∈ l.map Decl.key) : (u, sc, n) ∈ l.map Decl.nkey := by
  obtain ⟨d, hd, hk⟩ := List.mem_map.mp h
  simp only [Decl.key, Prod.mk.injEq] at hk
  exact List.mem_map.mpr ⟨d, hd, by simp only [Decl.nkey, hk]⟩

theorem subset_flatMap {α β : Type} {l : List α} {f g : α → List β} (h : ∀ x ∈ l, f x ⊆ g x) :
    l.flatMap f ⊆ l.flatMap g :=
  fun _ hb => let ⟨x, hx, hb⟩ := List.mem_flatMap.mp hb; List.mem_flatMap.mpr ⟨x, hx, h x hx hb⟩

theorem covers_swiftTypes (api : Api) : itemKeys .swiftTypes api ⊆ (swiftTypesDecls api).map Decl.key := by
  simp only [itemKeys, swiftTypesDecls, swRouteDecl, List.map_flatMap, List.map_cons, List.map_append, List.map_map,
    Function.comp_def, Decl.key]
  refine subset_flatMap fun ns _ => ?_
  refine List.append_subset.2 ⟨List.append_subset.2 ⟨?_, ?_⟩, ?_⟩
  · exact List.cons_subset.2 ⟨List.mem_cons_self, List.nil_subset _⟩
  · refine fun k hk => List.mem_cons_of_mem _ (List.mem_append_left _ (subset_flatMap (fun t _ => ?_) hk))
    cases t <;>
      simp only [swStructDecls, swUnionDecls, List.map_append, List.map_cons, List.map_map, List.map_nil,
        Function.comp_def, Decl.key, UserT.name, UserT.isUnion, Bool.false_eq_true, if_false, if_true,
        List.Subset.refl]
  · exact fun k hk => List.mem_cons_of_mem _ (List.mem_append_right _ hk)

theorem covers_swiftTypesObjc (api : Api) :
    itemKeys .swiftTypesObjc api ⊆ (swiftTypesObjcDecls api).map Decl.key := by
  simp only [itemKeys, swiftTypesObjcDecls, List.map_flatMap]
  refine subset_flatMap fun ns _ => subset_flatMap fun t _ => ?_
  cases t <;>
    simp only [swObjcStructDecls, swObjcUnionDecls, List.map_append, List.map_cons, List.map_map, List.map_flatMap,
      Function.comp_def, Decl.key, UserT.name, TRef.text, List.singleton_append, List.Subset.refl]
  -- a union: the wrapper class of every tag heads the declarations made for the tag
  exact List.cons_subset_cons _ (List.subset_append_of_subset_right _ (map_sublist_flatMap_cons _ _ _).subset)

theorem covers_objcTypes (api : Api) : itemKeys .objcTypes api ⊆ (objcTypesDecls api).map Decl.key := by
  simp only [itemKeys, objcTypesDecls, List.map_flatMap, List.map_append]
  refine subset_flatMap fun ns _ => List.append_subset.2 ⟨?_, ?_⟩
  · refine List.subset_append_of_subset_left _ (subset_flatMap fun t _ => ?_)
    cases t <;>
      simp only [ocStructDecls, ocUnionDecls, serializerDecls, List.map_append, List.map_cons, List.map_map, List.map_nil,
        Function.comp_def, Decl.key, UserT.name, List.append_subset, List.cons_subset, List.nil_subset, List.mem_cons,
        List.mem_append, eq_self, true_or, or_true, and_true, true_and] <;>
      exact fun k hk => by simp only [List.mem_cons, List.mem_append, hk, true_or, or_true]
  · refine List.subset_append_of_subset_right _ ?_
    simp only [ocRouteObjDecls]
    split
    · rename_i he
      rw [List.isEmpty_iff.1 he]
      exact List.nil_subset _
    · simp only [List.map_append, List.map_flatMap, List.map_cons, List.map_nil, Decl.key]
      refine List.subset_append_of_subset_right _ (subset_flatMap fun r _ => ?_)
      simp only [List.cons_subset, List.mem_cons, eq_self, true_or, or_true, List.nil_subset, and_self]

theorem swiftTypes_declares {api : Api} {q : QName} {t : UserT} (h : api.find? q = some t) :
    ("", [swClass q.ns], swClass q.name) ∈ (swiftTypesDecls api).map Decl.nkey ∧
    ("", [swClass q.ns], swClass q.name ++ "Serializer") ∈ (swiftTypesDecls api).map Decl.nkey := by
  obtain ⟨ns, hns, ht, rfl⟩ := find?_sound h
  have item : ∀ k ∈ [(("", if t.isUnion then "enum" else "class", [swClass ns.name], swClass t.name) : Key),
      ("", "class", [swClass ns.name], swClass t.name ++ "Serializer")], k ∈ (swiftTypesDecls api).map Decl.key :=
    fun k hk => covers_swiftTypes api (List.mem_flatMap.mpr ⟨ns, hns, List.mem_append_left _ (List.mem_append_right _
      (List.mem_flatMap.mpr ⟨t, ht, List.mem_append_left _ hk⟩))⟩)
  exact ⟨nkey_mem_of_key_mem (item _ List.mem_cons_self), nkey_mem_of_key_mem (item _ (.tail _ (.head _)))⟩

theorem swiftTypesObjc_declares {api : Api} {q : QName} {t : UserT} (h : api.find? q = some t) :
    ("", [], "DBX" ++ swClass q.ns ++ swClass q.name) ∈ (swiftTypesObjcDecls api).map Decl.nkey := by
  obtain ⟨ns, hns, ht, rfl⟩ := find?_sound h
  exact nkey_mem_of_key_mem (k := "class") (covers_swiftTypesObjc api (List.mem_flatMap.mpr ⟨ns, hns,
    List.mem_flatMap.mpr ⟨t, ht, List.mem_append_left _ List.mem_cons_self⟩⟩))

theorem objcTypes_declares {api : Api} {q : QName} {t : UserT} (h : api.find? q = some t) :
    ("h", [], ocClassPrefix q) ∈ (objcTypesDecls api).map Decl.nkey ∧
    ("h", [], ocClassPrefix q ++ "Serializer") ∈ (objcTypesDecls api).map Decl.nkey := by
  obtain ⟨ns, hns, ht, rfl⟩ := find?_sound h
  have item : ∀ k ∈ [(("h", "interface", [], ocClassPrefix ⟨ns.name, t.name⟩) : Key),
      ("m", "implementation", [], ocClassPrefix ⟨ns.name, t.name⟩),
      ("h", "interface", [], ocClassPrefix ⟨ns.name, t.name⟩ ++ "Serializer"),
      ("m", "implementation", [], ocClassPrefix ⟨ns.name, t.name⟩ ++ "Serializer")],
      k ∈ (objcTypesDecls api).map Decl.key :=
    fun k hk => covers_objcTypes api (List.mem_flatMap.mpr ⟨ns, hns, List.mem_append_left _
      (List.mem_flatMap.mpr ⟨t, ht, List.mem_append_left _ hk⟩)⟩)
  exact ⟨nkey_mem_of_key_mem (item _ List.mem_cons_self), nkey_mem_of_key_mem (item _ (.tail _ (.tail _ (.head _))))⟩

theorem covers (b : Backend) (api : Api) (o : Options) : ∀ k ∈ itemKeys b api, k ∈ (declsOf b api o).map Decl.key := by
  cases b <;> simp only [declsOf]
  · exact covers_swiftTypes api
  · exact covers_swiftTypesObjc api
  · intro k hk; simp [itemKeys] at hk
  · intro k hk; simp [itemKeys] at hk
  · exact covers_objcTypes api
  · intro k hk; simp [itemKeys] at hk

end StoneVerif.DeclSwift
