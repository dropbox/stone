import StoneVerif.Lemmas.RtModel
/-!
What `decode` and its parts do, case by case, named as in `RtModel` (the kind of JSON document at the end: `_arr`,
`_obj`, `_null`, `_str`). The `Nullable` test in front of a decoder, an inline `match` in the model, is `isNullJ j` in
every equation: a `match` of the same text in a lemma of another module would be another matcher constant, which `rw`
does not find.
-/
namespace StoneVerif.Rt

/-- The decoder recurses on the document with the type looked up in a table, so what is proved of `decode` at every
type goes by this induction, the loops over an array or an object read as `mapM` (`decodeList_eq_mapM`, …). -/
theorem JVal.children_induction {P : JVal → Prop}
    (step : ∀ j, (∀ xs, j = .arr xs → ∀ x ∈ xs, P x) → (∀ kvs, j = .obj kvs → ∀ p ∈ kvs, P p.2) → P j)
    (j : JVal) : P j :=
  step j (fun _ _ x _ => children_induction step x) (fun _ _ p _ => children_induction step p.2)
termination_by sizeOf j
decreasing_by
  · subst ‹j = _›; have := List.sizeOf_lt_of_mem ‹x ∈ _›; simp only [JVal.arr.sizeOf_spec]; omega
  · subst ‹j = _›; have := List.sizeOf_lt_of_mem ‹p ∈ _›
    obtain ⟨k, x⟩ := p
    simp only [JVal.obj.sizeOf_spec, Prod.mk.sizeOf_spec] at this ⊢; omega

/-- reducible: at a concrete document `rw` and `simp only` evaluate the test, as they do the model's inline `match` -/
@[reducible] def isNullJ : JVal → Bool
  | .null => true
  | _ => false

theorem eq_null_of_isNullJ {j : JVal} (h : isNullJ j = true) : j = .null := by cases j <;> first | rfl | cases h

section decode
variable (E : Ext) (env : Env) (perms : List String) (strict : Bool)

theorem decode_nullable_null {t : PTy} (h : t.flags.nullable = true) :
    decode E env perms strict t .null = .ok .none := by
  unfold decode; simp only [h, Bool.and_self, if_true]

theorem decode_list (fl : Flags) (item : PTy) (a b : Option Nat) (j : JVal) :
    decode E env perms strict (.list fl item a b) j =
      if fl.nullable && isNullJ j then .ok .none else
      match j with
      | .arr xs => (decodeList E env perms strict item xs).map .list
      | _ => verr "expected list" := by
  unfold decode; rfl

theorem decode_map (fl : Flags) (kt vt : PTy) (j : JVal) :
    decode E env perms strict (.map fl kt vt) j =
      if fl.nullable && isNullJ j then .ok .none else
      match j with
      | .obj kvs => (decodeMap E env perms strict vt kvs).map .dict
      | _ => verr "expected dict" := by
  unfold decode; rfl

theorem decode_struct (fl : Flags) (cls : String) (j : JVal) :
    decode E env perms strict (.struct fl cls) j =
      if fl.nullable && isNullJ j then .ok .none else
      match j with
      | .null => if hasDefault env (.struct {} cls) then .ok (.struct cls []) else verr "expected object"
      | .obj kvs => finishStruct E env perms strict cls kvs
          (decodeMembers E env perms strict (memberTable env perms strict (.struct fl cls) kvs) kvs)
      | _ => verr "expected object" := by
  unfold decode; rfl

theorem decode_tree (fl : Flags) (cls : String) (j : JVal) :
    decode E env perms strict (.tree fl cls) j =
      if fl.nullable && isNullJ j then .ok .none else
      match j with
      | .obj kvs => match jsonLookup ".tag" kvs with
        | none => verr "missing '.tag' key"
        | some (.str tag) => match env.struct? cls with
          | none => crash "NameError"
          | some s =>
            let children := decodeMembers E env perms strict (memberTable env perms strict (.tree fl cls) kvs) kvs
            match (s.subtypes.getD []).find? (fun (tags, _, _) => tags == [tag]) with
            | some (_, sc, isTree) =>
              if isTree then verr "tag refers to non-leaf subtype" else finishStruct E env perms strict sc kvs children
            | none =>
              if strict then verr "unknown subtype"
              else if s.catchAll then finishStruct E env perms strict cls kvs children
              else verr "unknown subtype and not a catch-all"
        | some _ => verr "expected string tag"
      | _ => verr "expected object" := by
  unfold decode; cases j <;> rfl

theorem decode_union (fl : Flags) (cls : String) {u : UnionDef} (hu : env.union? cls = some u) (j : JVal) :
    decode E env perms strict (.union fl cls) j =
      if fl.nullable && isNullJ j then .ok .none else
      match j with
      | .str tag =>
        if u.isTagPresent tag perms then
          match u.valDataType tag perms with
          | none => crash "KeyError"
          | some ft =>
            if !(isVoidTy ft || ft.flags.nullable) then verr "expected object, got symbol"
            else if some tag == u.catchAll then verr "unexpected use of the catch-all tag"
            else mkUnion E env cls tag .none
        else if !strict && u.catchAll.isSome then mkUnion E env cls (u.catchAll.getD "") .none
        else verr "unknown tag"
      | .obj kvs => match jsonLookup ".tag" kvs with
        | none => verr "missing '.tag' key"
        | some (.str tag) =>
          if !u.isTagPresent tag perms then
            if !strict && u.catchAll.isSome then mkUnion E env cls (u.catchAll.getD "") .none
            else verr "unknown tag"
          else if some tag == u.catchAll then verr "unexpected use of the catch-all tag"
          else match u.valDataType tag perms with
          | none => crash "KeyError"
          | some ft =>
            let children := decodeMembers E env perms strict (memberTable env perms strict (.union fl cls) kvs) kvs
            if isVoidTy ft then
              if strict && ((match jsonLookup tag kvs with | some .null | none => false | some _ => true) ||
                  kvs.any fun (k, _) => k != tag && k != ".tag") then verr "unexpected key / expected null"
              else mkUnion E env cls tag .none
            else if isPlainStruct ft then
              if ft.flags.nullable && kvs.length == 1 then mkUnion E env cls tag .none
              else match ft with
                | .struct _ sc => match finishStruct E env perms strict sc kvs children with
                  | .ok v => mkUnion E env cls tag v
                  | .error e => .error e
                | _ => crash "Unreachable"
            else
              match (match childLookup tag children with
                  | some r => r
                  | none => if (jsonLookup tag kvs).isSome then crash "Unreachable"
                            else if ft.flags.nullable then .ok .none else verr "missing tag key") with
              | .error e => .error e
              | .ok v =>
                if kvs.any fun (k, _) => k != tag && k != ".tag" then verr "unexpected key"
                else mkUnion E env cls tag v
        | some _ => verr "tag must be string"
      | _ => verr "expected string or object" := by
  unfold decode
  simp only [hu]
  cases j <;> rfl

theorem decode_union_unregistered (fl : Flags) {cls : String} (hu : env.union? cls = none) (j : JVal) :
    decode E env perms strict (.union fl cls) j =
      if fl.nullable && isNullJ j then .ok .none else crash "NameError" := by
  unfold decode
  simp only [hu]
  rfl

theorem decode_prim {t : PTy} (h : isPrimTy t = true) (j : JVal) :
    decode E env perms strict t j =
      if t.flags.nullable && isNullJ j then .ok .none else makeStoneFriendly E env perms strict false t j := by
  unfold decode
  cases t with
  | bool | int | float | str | bytes | ts | void => rfl
  | _ => cases h

theorem decode_list_arr (fl : Flags) (item : PTy) (a b : Option Nat) (xs : List JVal) :
    decode E env perms strict (.list fl item a b) (.arr xs) = (decodeList E env perms strict item xs).map .list := by
  rw [decode_list, Bool.and_false]; rfl

theorem decode_map_obj (fl : Flags) (kt vt : PTy) (kvs : List (String × JVal)) :
    decode E env perms strict (.map fl kt vt) (.obj kvs) = (decodeMap E env perms strict vt kvs).map .dict := by
  rw [decode_map, Bool.and_false]; rfl

theorem decode_struct_null (fl : Flags) (cls : String) :
    decode E env perms strict (.struct fl cls) .null =
      if fl.nullable then .ok .none
      else if hasDefault env (.struct {} cls) then .ok (.struct cls []) else verr "expected object" := by
  rw [decode_struct, Bool.and_true]

theorem decode_struct_obj (fl : Flags) (cls : String) (kvs : List (String × JVal)) :
    decode E env perms strict (.struct fl cls) (.obj kvs) =
      finishStruct E env perms strict cls kvs
        (decodeMembers E env perms strict (memberTable env perms strict (.struct fl cls) kvs) kvs) := by
  rw [decode_struct, Bool.and_false]; rfl

theorem decode_union_str (fl : Flags) (cls : String) {u : UnionDef} (hu : env.union? cls = some u) {tag : String}
    {ft : PTy} (hp : u.isTagPresent tag perms = true) (hft : u.valDataType tag perms = some ft) :
    decode E env perms strict (.union fl cls) (.str tag) =
      if !(isVoidTy ft || ft.flags.nullable) then verr "expected object, got symbol"
      else if some tag == u.catchAll then verr "unexpected use of the catch-all tag"
      else mkUnion E env cls tag .none := by
  rw [decode_union E env perms strict fl cls hu]
  simp only [Bool.and_false, Bool.false_eq_true, if_false, hp, if_true, hft]

theorem decode_union_obj (fl : Flags) (cls : String) {u : UnionDef} (hu : env.union? cls = some u)
    {kvs : List (String × JVal)} {tag : String} {ft : PTy} (htag : jsonLookup ".tag" kvs = some (.str tag))
    (hp : u.isTagPresent tag perms = true) (hca : (some tag == u.catchAll) = false)
    (hft : u.valDataType tag perms = some ft) :
    decode E env perms strict (.union fl cls) (.obj kvs) =
      let children := decodeMembers E env perms strict (memberTable env perms strict (.union fl cls) kvs) kvs
      if isVoidTy ft then
        if strict && ((match jsonLookup tag kvs with | some .null | none => false | some _ => true) ||
            kvs.any fun (k, _) => k != tag && k != ".tag") then verr "unexpected key / expected null"
        else mkUnion E env cls tag .none
      else if isPlainStruct ft then
        if ft.flags.nullable && kvs.length == 1 then mkUnion E env cls tag .none
        else match (generalizing := false) ft with
          | .struct _ sc => match finishStruct E env perms strict sc kvs children with
            | .ok v => mkUnion E env cls tag v
            | .error e => .error e
          | _ => crash "Unreachable"
      else
        match (match childLookup tag children with
            | some r => r
            | none => if (jsonLookup tag kvs).isSome then crash "Unreachable"
                      else if ft.flags.nullable then .ok .none else verr "missing tag key") with
        | .error e => .error e
        | .ok v =>
          if kvs.any fun (k, _) => k != tag && k != ".tag" then verr "unexpected key"
          else mkUnion E env cls tag v := by
  rw [decode_union E env perms strict fl cls hu]
  simp only [Bool.and_false, Bool.false_eq_true, if_false, htag, hp, Bool.not_true, hca, hft]

theorem decode_union_absent (fl : Flags) (cls : String) {u : UnionDef} (hu : env.union? cls = some u)
    {j : JVal} {tag : String} (hj : j = .str tag ∨ ∃ kvs, j = .obj kvs ∧ jsonLookup ".tag" kvs = some (.str tag))
    (hp : u.isTagPresent tag perms = false) :
    decode E env perms strict (.union fl cls) j =
      if !strict && u.catchAll.isSome then mkUnion E env cls (u.catchAll.getD "") .none else verr "unknown tag" := by
  rw [decode_union E env perms strict fl cls hu]
  rcases hj with rfl | ⟨kvs, rfl, htag⟩
  · simp only [Bool.and_false, Bool.false_eq_true, if_false, hp]
  · simp only [Bool.and_false, Bool.false_eq_true, if_false, htag, hp, Bool.not_false, if_true]

theorem decodeMembers_cons (tbl : List (String × PTy)) (k : String) (x : JVal) (rest : List (String × JVal)) :
    decodeMembers E env perms strict tbl ((k, x) :: rest) =
      match tbl.find? (·.1 == k) with
      | some p => (k, decode E env perms strict p.2 x) :: decodeMembers E env perms strict tbl rest
      | none => decodeMembers E env perms strict tbl rest := by
  rw [decodeMembers]
  cases tbl.find? (·.1 == k) <;> rfl

theorem decodeMembers_append (tbl : List (String × PTy)) (a b : List (String × JVal)) :
    decodeMembers E env perms strict tbl (a ++ b) =
      decodeMembers E env perms strict tbl a ++ decodeMembers E env perms strict tbl b := by
  induction a with
  | nil => rw [decodeMembers]; rfl
  | cons kv rest ih =>
    obtain ⟨k, x⟩ := kv
    rw [List.cons_append, decodeMembers_cons, decodeMembers_cons, ih]
    cases tbl.find? (·.1 == k) <;> rfl

theorem childLookup_decodeMembers (tbl : List (String × PTy)) (k : String) (kvs : List (String × JVal)) :
    childLookup k (decodeMembers E env perms strict tbl kvs) =
      (tbl.find? (·.1 == k)).bind fun p => (jsonLookup k kvs).map fun j => decode E env perms strict p.2 j := by
  induction kvs with
  | nil => rw [decodeMembers]; cases tbl.find? (·.1 == k) <;> rfl
  | cons kv rest ih =>
    obtain ⟨k', x⟩ := kv
    rw [decodeMembers_cons, jsonLookup]
    by_cases hk : k' = k
    · subst hk
      cases hf : tbl.find? (·.1 == k') with
      | none => rw [hf] at ih; exact ih
      | some p => simp only [childLookup, beq_self_eq_true, if_true, Option.bind_some, Option.map_some]
    · have hb : (k' == k) = false := by simpa using hk
      rw [hb]
      cases hf : tbl.find? (·.1 == k') with
      | none => simpa only [Bool.false_eq_true, if_false] using ih
      | some p => simpa only [childLookup, hb, Bool.false_eq_true, if_false] using ih

theorem childLookup_decodeMembers_some {tbl : List (String × PTy)} {k : String} {kvs : List (String × JVal)}
    {r : R PyVal} (h : childLookup k (decodeMembers E env perms strict tbl kvs) = some r) :
    ∃ p x, tbl.find? (·.1 == k) = some p ∧ (k, x) ∈ kvs ∧ r = decode E env perms strict p.2 x := by
  rw [childLookup_decodeMembers, Option.bind_eq_some_iff] at h
  obtain ⟨p, hp, h⟩ := h
  obtain ⟨x, hx, rfl⟩ := Option.map_eq_some_iff.1 h
  exact ⟨p, x, hp, mem_of_jsonLookup hx, rfl⟩

theorem childLookup_decodeMembers_none (tbl : List (String × PTy)) (k : String) (kvs : List (String × JVal))
    (h : jsonLookup k kvs = none) :
    childLookup k (decodeMembers E env perms strict tbl kvs) = none := by
  rw [childLookup_decodeMembers, h]
  cases tbl.find? (·.1 == k) <;> rfl

theorem childLookup_decodeMembers_isSome (tbl : List (String × PTy)) (k : String) (e : String × PTy)
    (hfind : tbl.find? (·.1 == k) = some e) :
    ∀ (kvs : List (String × JVal)), (jsonLookup k kvs).isSome = true →
    (childLookup k (decodeMembers E env perms strict tbl kvs)).isSome = true := by
  intro kvs h
  rw [childLookup_decodeMembers, hfind, Option.bind_some, Option.isSome_map]
  exact h

theorem decodeList_eq_mapM (t : PTy) (xs : List JVal) :
    decodeList E env perms strict t xs = xs.mapM (decode E env perms strict t) := by
  induction xs with
  | nil => rfl
  | cons x xs ih => rw [decodeList, List.mapM_cons, ih]

theorem decodeMap_eq_mapM (vt : PTy) (kvs : List (String × JVal)) :
    decodeMap E env perms strict vt kvs =
      kvs.mapM fun p => (decode E env perms strict vt p.2).map fun v => (PyVal.str p.1, v) := by
  induction kvs with
  | nil => rfl
  | cons p rest ih =>
    obtain ⟨k, x⟩ := p
    rw [decodeMap, List.mapM_cons, ih]
    cases decode E env perms strict vt x <;> rfl

theorem memberTable_struct (fl : Flags) {cls : String} {s : StructDef} (kvs : List (String × JVal))
    (hs : env.struct? cls = some s) :
    memberTable env perms strict (.struct fl cls) kvs = (s.fieldsFor perms).map fun f => (f.name, f.ty) := by
  simp only [memberTable, hs]

theorem memberTableStruct_struct (fl : Flags) {sc : String} {d : StructDef} (hd : env.struct? sc = some d) :
    memberTable.memberTableStruct env perms (.struct fl sc) = (d.fieldsFor perms).map fun f => (f.name, f.ty) := by
  simp only [memberTable.memberTableStruct, hd]

theorem memberTable_tree_leaf (fl : Flags) {cls tag sc : String} {s d : StructDef} {tags : List String}
    {kvs : List (String × JVal)} (htag : jsonLookup ".tag" kvs = some (.str tag)) (hs : env.struct? cls = some s)
    (hf : (s.subtypes.getD []).find? (fun (tags, _, _) => tags == [tag]) = some (tags, sc, false))
    (hd : env.struct? sc = some d) :
    memberTable env perms strict (.tree fl cls) kvs = (d.fieldsFor perms).map fun f => (f.name, f.ty) := by
  simp only [memberTable, htag, hs, hf, hd, Bool.false_eq_true, if_false]

theorem memberTable_tree_catchAll (fl : Flags) {cls tag : String} {s : StructDef} {kvs : List (String × JVal)}
    (htag : jsonLookup ".tag" kvs = some (.str tag)) (hs : env.struct? cls = some s)
    (hf : (s.subtypes.getD []).find? (fun (tags, _, _) => tags == [tag]) = none) (hc : s.catchAll = true) :
    memberTable env perms false (.tree fl cls) kvs = (s.fieldsFor perms).map fun f => (f.name, f.ty) := by
  simp only [memberTable, htag, hs, hf, hc, Bool.not_false, Bool.and_self, if_true]

theorem memberTable_union (fl : Flags) {cls tag : String} {u : UnionDef} {kvs : List (String × JVal)} {ft : PTy}
    (htag : jsonLookup ".tag" kvs = some (.str tag)) (hu : env.union? cls = some u)
    (hp : u.isTagPresent tag perms = true) (hft : u.valDataType tag perms = some ft) :
    memberTable env perms strict (.union fl cls) kvs =
      if isPlainStruct ft then memberTable.memberTableStruct env perms ft else [(tag, ft.withFlags {})] := by
  simp only [memberTable, htag, hu, hp, hft, Bool.not_true, Bool.false_eq_true, if_false]

theorem finishFields_cons (f : FieldDef) (rest : List FieldDef) (children : List (String × R PyVal))
    (slots : List (String × PyVal)) :
    finishFields E env (f :: rest) children slots =
      match childLookup f.name children with
      | some (.error e) => .error e
      | some (.ok v) => match attrSet E env f slots v with
        | .error e => .error e
        | .ok slots' => finishFields E env rest children slots'
      | none =>
        if hasDefault env f.ty then match attrSet E env f slots (getDefault f.ty) with
          | .error e => .error e
          | .ok slots' => finishFields E env rest children slots'
        else finishFields E env rest children slots := by
  rw [finishFields]
  cases childLookup f.name children with
  | none =>
    simp only []
    split
    · simp only [bind, Except.bind]; cases attrSet E env f slots (getDefault f.ty) <;> rfl
    · rfl
  | some r =>
    cases r with
    | error e => rfl
    | ok v => simp only [bind, Except.bind]; cases attrSet E env f slots v <;> rfl

/-- `finishFields_cons` with the value that is assigned named once: the form in which two runs are compared -/
theorem finishFields_step (f : FieldDef) (rest : List FieldDef)
    (children : List (String × R PyVal)) (slots : List (String × PyVal)) :
    finishFields E env (f :: rest) children slots =
      match (childLookup f.name children).or (if hasDefault env f.ty then some (.ok (getDefault f.ty)) else none) with
      | some r => r >>= fun v => attrSet E env f slots v >>= finishFields E env rest children
      | none => finishFields E env rest children slots := by
  rw [finishFields]
  cases childLookup f.name children with
  | some r => rfl
  | none => dsimp only [Option.none_or]; split <;> rfl

theorem finishFields_append (children : List (String × R PyVal)) (a b : List FieldDef)
    (slots : List (String × PyVal)) :
    finishFields E env (a ++ b) children slots =
      finishFields E env a children slots >>= finishFields E env b children := by
  induction a generalizing slots with
  | nil => rfl
  | cons f rest ih =>
    rw [List.cons_append, finishFields_step, finishFields_step, funext ih]
    split
    · simp only [bind_assoc]
    · rfl

theorem finishStruct_eq {cls : String} {s : StructDef} (hs : env.struct? cls = some s) (kvs : List (String × JVal))
    (children : List (String × R PyVal)) :
    finishStruct E env perms strict cls kvs children =
      if strict && kvs.any (fun (k, _) => !((s.fieldsFor perms).map (·.name)).contains k && !k.startsWith ".tag")
      then verr "unknown field"
      else finishFields E env (s.fieldsFor perms) children [] >>= fun slots =>
        if (s.fieldsFor perms).all fun f => attrHas f slots then .ok (.struct cls slots)
        else verr "missing required field" := by
  unfold finishStruct
  simp only [hs]
  cases finishFields E env (s.fieldsFor perms) children [] <;> rfl

theorem makeStoneFriendly_void (b : Bool) (fl : Flags) (j : JVal) :
    makeStoneFriendly E env perms strict b (.void fl) j =
      if strict && !isNullJ j then verr "expected null" else .ok .none := by
  cases j <;> rfl

theorem makeStoneFriendly_jsonPrim (b : Bool) {t : PTy} (hp : isJsonPrimTy t = true) (j : JVal) :
    makeStoneFriendly E env perms strict b t j =
      if b then (validate E env (t.withFlags {}) (pyOfJson j)).map fun _ => pyOfJson j else .ok (pyOfJson j) := by
  unfold makeStoneFriendly
  cases t with
  | bool _ | int _ _ _ _ | float _ _ _ _ | str _ _ _ _ =>
    cases b
    · rfl
    · simp only []; cases validate E env _ (pyOfJson j) <;> rfl
  | _ => cases hp

theorem jsonCompatObjDecode_eq (t : PTy) (j : JVal) :
    jsonCompatObjDecode E env perms strict t j =
      if !t.flags.nullable && isPrimTy t then makeStoneFriendly E env perms strict true t j
      else decode E env perms strict t j >>= fun v =>
        if t.flags.nullable || (match t with | .list .. | .map .. => true | _ => false) then validate E env t v
        else .ok v := by
  unfold jsonCompatObjDecode
  cases decode E env perms strict t j <;> rfl

end decode

namespace Compat

section cons
variable {E : Ext} {env : Env} {perms : List String} {s : Bool} {t : PTy} {x : JVal} {y : PyVal}

theorem decodeList_cons_ok {xs : List JVal} {ys : List PyVal} (h : decodeList E env perms s t (x :: xs) = .ok ys) :
    ∃ y ys', decode E env perms s t x = .ok y ∧ decodeList E env perms s t xs = .ok ys' ∧ ys = y :: ys' := by
  simp only [decodeList, bind, Except.bind] at h
  cases h1 : decode E env perms s t x with
  | error e => rw [h1] at h; cases h
  | ok y =>
    cases h2 : decodeList E env perms s t xs with
    | error e => rw [h1, h2] at h; cases h
    | ok ys' => rw [h1, h2] at h; cases h; exact ⟨y, ys', rfl, rfl, rfl⟩

theorem decodeList_cons_of {xs : List JVal} {ys : List PyVal} (h1 : decode E env perms s t x = .ok y)
    (h2 : decodeList E env perms s t xs = .ok ys) : decodeList E env perms s t (x :: xs) = .ok (y :: ys) := by
  simp only [decodeList, h1, h2]; rfl

theorem decodeMap_cons_ok {k : String} {rest : List (String × JVal)} {ys : List (PyVal × PyVal)}
    (h : decodeMap E env perms s t ((k, x) :: rest) = .ok ys) :
    ∃ y ys', decode E env perms s t x = .ok y ∧ decodeMap E env perms s t rest = .ok ys' ∧
      ys = (.str k, y) :: ys' := by
  simp only [decodeMap, bind, Except.bind] at h
  cases h1 : decode E env perms s t x with
  | error e => rw [h1] at h; cases h
  | ok y =>
    cases h2 : decodeMap E env perms s t rest with
    | error e => rw [h1, h2] at h; cases h
    | ok ys' => rw [h1, h2] at h; cases h; exact ⟨y, ys', rfl, rfl, rfl⟩

theorem decodeMap_cons_of {k : String} {rest : List (String × JVal)} {ys : List (PyVal × PyVal)}
    (h1 : decode E env perms s t x = .ok y) (h2 : decodeMap E env perms s t rest = .ok ys) :
    decodeMap E env perms s t ((k, x) :: rest) = .ok ((.str k, y) :: ys) := by
  simp only [decodeMap, h1, h2]; rfl

end cons

theorem childLookup_none_of_absent (E : Ext) (env : Env) (strict : Bool) (tbl : List (String × PTy)) (k : String)
    (kvs : List (String × JVal)) (h : ∀ x, (k, x) ∉ kvs) :
    childLookup k (decodeMembers E env [] strict tbl kvs) = none :=
  childLookup_decodeMembers_none E env [] strict tbl k kvs (jsonLookup_eq_none_of_not_mem h)

theorem childLookup_of_mem (E : Ext) (env : Env) (strict : Bool) (tbl : List (String × PTy)) {k k' : String} {x : JVal}
    {ft : PTy} (hf : tbl.find? (·.1 == k) = some (k', ft)) {kvs : List (String × JVal)}
    (hnd : nodupS (kvs.map (·.1)) = true) (hm : (k, x) ∈ kvs) :
    childLookup k (decodeMembers E env [] strict tbl kvs) = some (decode E env [] strict ft x) := by
  rw [childLookup_decodeMembers, hf, jsonLookup_of_mem hnd hm]
  rfl

end Compat

namespace RoundTrip

theorem decode_prim_of_not_null (E : Ext) (env : Env) (perms : List String) (strict : Bool) {t : PTy} {j : JVal}
    (hp : isPrimTy t = true) (hg : (t.flags.nullable && isNullJ j) = false) :
    decode E env perms strict t j = makeStoneFriendly E env perms strict false t j := by
  rw [decode_prim E env perms strict hp j, hg, if_neg Bool.false_ne_true]

theorem decode_withFlags (E : Ext) (env : Env) (perms : List String) (strict : Bool) (t : PTy) (j : JVal)
    (hj : isNullJ j = false) :
    decode E env perms strict (t.withFlags {}) j = decode E env perms strict t j := by
  have hn : ∀ c : Bool, (c && isNullJ j) = false := fun c => by rw [hj, Bool.and_false]
  cases t with
  | list fl item a b => rw [PTy.withFlags, decode_list, decode_list, hn, hn]
  | map fl k v => rw [PTy.withFlags, decode_map, decode_map, hn, hn]
  | struct fl c => rw [PTy.withFlags, decode_struct, decode_struct, hn, hn]; rfl
  | tree fl c => rw [PTy.withFlags, decode_tree, decode_tree, hn, hn]; rfl
  | union fl c =>
    cases hu : env.union? c with
    | none =>
      rw [PTy.withFlags, decode_union_unregistered E env perms strict _ hu,
        decode_union_unregistered E env perms strict _ hu, hn, hn]
    | some u =>
      rw [PTy.withFlags, decode_union E env perms strict _ c hu, decode_union E env perms strict _ c hu, hn, hn]
      rfl
  | _ =>
    rw [decode_prim_of_not_null E env perms strict rfl (hn _), decode_prim_of_not_null E env perms strict rfl (hn _)]
    rfl

theorem tag_startsWith_tag : (".tag" : String).startsWith ".tag" = true := by simp

theorem decodeMembers_tag_prefix (E : Ext) (env : Env) (perms : List String) (strict : Bool)
    (tbl : List (String × PTy)) (h : ∀ p ∈ tbl, p.1 ≠ ".tag") (j : JVal) (kvs : List (String × JVal)) :
    decodeMembers E env perms strict tbl ((".tag", j) :: kvs) = decodeMembers E env perms strict tbl kvs := by
  have : tbl.find? (·.1 == ".tag") = none := by
    apply List.find?_eq_none.2
    intro p hp; simpa using h p hp
  simp only [decodeMembers, this]

theorem finishStruct_tag_prefix (E : Ext) (env : Env) (perms : List String) (strict : Bool) (cls : String)
    (j : JVal) (kvs : List (String × JVal)) (children : List (String × R PyVal)) :
    finishStruct E env perms strict cls ((".tag", j) :: kvs) children =
      finishStruct E env perms strict cls kvs children := by
  unfold finishStruct
  cases env.struct? cls with
  | none => rfl
  | some s => simp only [List.any_cons, tag_startsWith_tag, Bool.not_true, Bool.and_false, Bool.false_or]

end RoundTrip

end StoneVerif.Rt
