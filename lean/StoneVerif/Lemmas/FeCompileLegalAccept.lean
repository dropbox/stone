import StoneVerif.Lemmas.FeCompileLegalEnv
import StoneVerif.Lemmas.FeCompileFuel
import StoneVerif.Lemmas.FeCompileDenote
/-!
A set of spec files that obeys every rule is never refused by the compileCore model (`legal_compile_ok`).  The rule for
a struct / union is taken apart (`typeLegal_iff`): what pass 3 tests without looking into aliases (`TypeStat`), the `?`
of the members, the defaults (pass 4), the enumerated subtypes (pass 5).  In pass 3 no alias is refused and no
population fails (`populate_ok`), whatever the order; the invariant on legal input is `J`.  Once pass 3 has filled the
tables they ARE the specification-level maps (`Final`), and each of passes 4 - 6 is accepted exactly when its rule
holds (`pass4_ok_iff`, `pass5_ok_iff`, `pass6_ok_iff`), which FeCompileLegalSound reads the other way.
-/
namespace StoneVerif.FeCompile.L

def DeclsLegal (rx : String → Bool) (fs : List File) : Prop := ∀ p, p ∈ allPairs fs → declLegal rx fs p.1 p.2 = true

theorem DeclsLegal.type {rx fs} (hL : DeclsLegal rx fs) {ns d} (hd : Decl.type d ∈ declsOf fs ns) :
    typeLegal rx fs ns d = true :=
  hL (ns, .type d) (mem_declsOf.mp hd)

theorem Inv.below {rx E fs st} (hE : EnvOK E fs) (hI : Inv rx E fs st) : Below st.aliases (aliasS rx fs) := by
  intro k t hl
  obtain ⟨r, hr, hd⟩ := hI.aliases k t (mem_of_lookup hl)
  rw [hE.aliasS_eq hr, hd]

theorem Inv.types_below {rx E fs st} (hE : EnvOK E fs) (hI : Inv rx E fs st) {k c} (hl : st.done.lookup k = some c) :
    typeS rx fs k = some c := by
  obtain ⟨d, hd, hden⟩ := hI.done k c (mem_of_lookup hl)
  rw [hE.typeS_eq hd, hden]

/-- the walk up the ancestors does not leave a table that holds its start and every parent it names: a larger table
answers the same -/
theorem ancestorNames_eq {types types' : Key → Option CType} (hle : ∀ k c, types k = some c → types' k = some c)
    (hcl : ∀ k c, types k = some c → ∀ p, c.parent = some p → (types p).isSome) :
    ∀ (f : Nat) {par}, (∀ p, par = some p → (types p).isSome) → ancestorNames types f par = ancestorNames types' f par
  | _, none, _ => by simp [ancestorNames]
  | 0, some p, _ => rfl
  | f + 1, some p, hp => by
    obtain ⟨c, hc⟩ := Option.isSome_iff_exists.mp (hp p rfl)
    simp only [ancestorNames, hc, hle p c hc, ancestorNames_eq hle hcl f (hcl p c hc)]

/-- the inheritance graph of the specification: the parent of what `k` denotes, if any -/
def succP (rx : String → Bool) (fs : List File) (k : Key) : List Key := ((typeS rx fs k).bind (·.parent)).toList

theorem mem_succP {rx fs k p} : p ∈ succP rx fs k ↔ ∃ c, typeS rx fs k = some c ∧ c.parent = some p := by
  unfold succP
  cases typeS rx fs k with
  | none => simp
  | some c => cases hp : c.parent <;> simp [hp, eq_comm]

/-- the first edge of a cycle of parents, and the cycle seen from the parent -/
theorem succP_rot {rx fs k} (hp : Gr.Path (succP rx fs) k k) :
    ∃ c p', typeS rx fs k = some c ∧ c.parent = some p' ∧ Gr.Path (succP rx fs) p' p' := by
  cases hp with
  | single he =>
    obtain ⟨c, hc, hpar⟩ := mem_succP.mp he
    exact ⟨c, k, hc, hpar, .single he⟩
  | cons he hrest =>
    obtain ⟨c, hc, hpar⟩ := mem_succP.mp he
    exact ⟨c, _, hc, hpar, hrest.trans (.single he)⟩

theorem cyc_no_anc {rx fs} : ∀ (f : Nat) {k}, Gr.Path (succP rx fs) k k → ∀ anc, ancestorNames (typeS rx fs) f (some k) ≠ .ok anc
  | 0, _, _, anc => by simp [ancestorNames]
  | f + 1, k, hp, anc => by
    -- the only edge out of `k` goes to its parent, which lies on the cycle too
    obtain ⟨c, p', hc, hpar, hcyc⟩ := succP_rot hp
    simp only [ancestorNames, hc, hpar]
    cases ha : ancestorNames (typeS rx fs) f (some p') with
    | error e => simp
    | ok anc' => exact absurd ha (cyc_no_anc f hcyc anc')

/-- the clauses of `typeLegal` that do not look into aliases (what pass 3 can test when it meets the type) -/
structure TypeStat (rx : String → Bool) (fs : List File) (ns : String) (d : TypeDecl) (c : CType) : Prop where
  ext : extendsLegal rx fs ns d = true
  members : ∀ f, f ∈ d.fields → MemberStat rx fs ns (d.kind == .struct) f
  nodup : dupName (c.fields.map (·.name)) = false
  anc : ∃ anc, ancestorNames (typeS rx fs) (fuelT fs) c.parent = .ok anc ∧ (c.fields.any fun f => anc.contains f.name) = false

def memberLegal (rx : String → Bool) (fs : List File) (ns : String) : TypeKind → AField → Bool
  | .struct => structMemberLegal rx fs ns
  | .union _ => unionMemberLegal rx fs ns

theorem memberLegal_iff {rx fs ns kind f} : memberLegal rx fs ns kind f = true ↔
    MemberStat rx fs ns (kind == .struct) f ∧ ∃ c, denoteField rx fs ns (kind == .struct) f = some c ∧
      tyNullLegal (aliasS rx fs) (fuelA fs) c.ty = true := by
  cases kind with
  | struct =>
    simp only [memberLegal, structMemberLegal, refLegal, denoteField, MemberStat, beq_self_eq_true, ↓reduceIte,
      Bool.true_and]
    cases f.ty with
    | none => simp
    | some r =>
      simp only [Option.some.injEq, Option.map_eq_some_iff]
      constructor
      · intro h
        cases hd : denoteRef rx fs ns r with
        | none => simp [hd] at h
        | some t =>
          simp only [hd, Bool.and_eq_true, Bool.not_eq_eq_eq_not, Bool.not_true] at h
          exact ⟨⟨r, t, rfl, h.1.1, hd, h.2.1, h.2.2⟩, _, ⟨t, rfl, rfl⟩, h.1.2⟩
      · rintro ⟨⟨_, t, rfl, hs, hd, hv, hnd⟩, c, ⟨t', hd', rfl⟩, hn⟩
        rw [hd] at hd'
        cases hd'
        simp [hs, hd, hn, hv, hnd]
  | union closed =>
    have hkb : (TypeKind.union closed == TypeKind.struct) = false := by cases closed <;> rfl
    simp only [memberLegal, unionMemberLegal, refLegal, denoteField, MemberStat, hkb, Bool.false_eq_true, ↓reduceIte,
      Bool.false_and, Bool.and_eq_true, bne_iff_ne, ne_eq, beq_eq_false_iff_ne]
    cases f.ty with
    | none => simp [tyNullLegal, tyVoid, nullRefs]
    | some r =>
      simp only [reduceCtorEq, false_or, Option.some.injEq, Option.map_eq_some_iff]
      constructor
      · rintro ⟨hname, h⟩
        cases hd : denoteRef rx fs ns r with
        | none => simp [hd] at h
        | some t =>
          simp only [hd, Bool.and_eq_true, Bool.not_eq_eq_eq_not, Bool.not_true] at h
          exact ⟨⟨hname, r, t, rfl, h.1.1, hd, h.2⟩, _, ⟨t, rfl, rfl⟩, h.1.2⟩
      · rintro ⟨⟨hname, _, t, rfl, hs, hd, hv⟩, c, ⟨t', hd', rfl⟩, hn⟩
        rw [hd] at hd'
        cases hd'
        exact ⟨hname, by simp [hs, hd, hn, hv]⟩

theorem typeLegal_eq (rx : String → Bool) (fs : List File) (ns : String) (d : TypeDecl) : typeLegal rx fs ns d =
    (extendsLegal rx fs ns d && d.fields.all (memberLegal rx fs ns d.kind) &&
      match denoteType rx fs ns d with
      | none => false
      | some c =>
        !dupName (c.fields.map (·.name)) &&
        (match ancestorNames (typeS rx fs) (fuelT fs) c.parent with
         | .ok anc => !(c.fields.any fun f => anc.contains f.name)
         | .error _ => false) &&
        (d.kind != .struct || c.fields.all fun f =>
          isOk (defaultLegal (fuelA fs) (aliasS rx fs) (fun k => isUnionKind (kindS fs k)) f)) &&
        enumLegal rx fs ns d c) := by
  unfold typeLegal
  cases d.kind <;> rfl

theorem typeLegal_iff {rx fs ns d} : typeLegal rx fs ns d = true ↔
    ∃ c, denoteType rx fs ns d = some c ∧ TypeStat rx fs ns d c ∧
      (∀ f, f ∈ c.fields → tyNullLegal (aliasS rx fs) (fuelA fs) f.ty = true) ∧
      (d.kind = .struct → ∀ f, f ∈ c.fields →
        isOk (defaultLegal (fuelA fs) (aliasS rx fs) (fun k => isUnionKind (kindS fs k)) f) = true) ∧
      enumLegal rx fs ns d c = true := by
  have hdefaults : ∀ c : CType, ((d.kind != .struct || c.fields.all fun f =>
        isOk (defaultLegal (fuelA fs) (aliasS rx fs) (fun k => isUnionKind (kindS fs k)) f)) = true) ↔
      (d.kind = .struct → ∀ f, f ∈ c.fields →
        isOk (defaultLegal (fuelA fs) (aliasS rx fs) (fun k => isUnionKind (kindS fs k)) f) = true) := by
    intro c
    cases d.kind <;> simp
  rw [typeLegal_eq]
  constructor
  · intro h
    cases hd : denoteType rx fs ns d with
    | none => simp [hd] at h
    | some c =>
      simp only [hd, Bool.and_eq_true, Bool.not_eq_eq_eq_not, Bool.not_true, List.all_eq_true, hdefaults] at h
      obtain ⟨⟨hext, hmem⟩, ⟨⟨hdup, hanc⟩, hdef⟩, henum⟩ := h
      obtain ⟨fields, hfs, heq, _⟩ := denoteType_fields hd
      refine ⟨c, rfl, ⟨hext, fun f hf => (memberLegal_iff.mp (hmem f hf)).1, hdup, ?_⟩, ?_, hdef, henum⟩
      · cases ha : ancestorNames (typeS rx fs) (fuelT fs) c.parent with
        | error e => simp [ha] at hanc
        | ok anc => simp only [ha] at hanc; exact ⟨anc, rfl, by simpa using hanc⟩
      · intro cf hcf
        rw [heq] at hcf
        rcases List.mem_append.mp hcf with hcf | hcf
        · obtain ⟨f, hf, hdf⟩ := optMapM_mem hfs cf hcf
          obtain ⟨_, cf', hdf', hn⟩ := memberLegal_iff.mp (hmem f hf)
          rw [hdf] at hdf'
          cases hdf'
          exact hn
        · split at hcf
          · cases List.mem_singleton.mp hcf
            simp [otherField, tyNullLegal, tyVoid, nullRefs]
          · cases hcf
  · rintro ⟨c, hden, ⟨hext, hmem, hdup, anc, hanc, hany⟩, hnull, hdef, henum⟩
    have hall : d.fields.all (memberLegal rx fs ns d.kind) = true :=
      List.all_eq_true.mpr fun f hf => by
        obtain ⟨cf, hcf, hdf⟩ := denoteType_field hden hf
        exact memberLegal_iff.mpr ⟨hmem f hf, cf, hdf, hnull cf hcf⟩
    simp only [hext, hall, hden, hdup, hanc, hany, (hdefaults c).mpr hdef, henum, Bool.not_false, Bool.and_self]

/-- on legal input: the entries are images of their declarations (`Inv`), a populated type's parent is populated, and
every recorded `?` is legal against what the alias declarations denote -/
structure J (rx : String → Bool) (E : Env) (fs : List File) (st : St) : Prop where
  inv : Inv rx E fs st
  closed : ∀ k c, st.done.lookup k = some c → ∀ p, c.parent = some p → (st.done.lookup p).isSome
  nrefs : ∀ u, u ∈ st.nrefs → nullOK (aliasS rx fs) (fuelA fs) u = true

theorem J.init {rx E fs} : J rx E fs {} := ⟨Inv.init, by simp, by simp⟩

theorem J.nrefs_user {rx E fs st} (hJ : J rx E fs st) (p : Key) :
    J rx E fs { st with nrefs := st.nrefs ++ nullRefs (.user p) } :=
  ⟨hJ.inv.nrefs _, hJ.closed, by simpa [nullRefs] using hJ.nrefs⟩

theorem extendsLegal_none {rx fs ns d} (h : d.extends = none) : extendsLegal rx fs ns d = true := by
  unfold extendsLegal; rw [h]

theorem extendsLegal_parts {rx fs ns d r} (h : extendsLegal rx fs ns d = true) (hr : d.extends = some r) :
    r.head.nullable = false ∧ refStatic rx fs ns r = true ∧ ∃ p, denoteRef rx fs ns r = some (.user p) ∧
      (match d.kind, kindS fs p with
       | .struct, some .struct => true
       | .union closed, some (.union pclosed) => !(closed && !pclosed)
       | _, _ => false) = true := by
  unfold extendsLegal at h
  simp only [hr, Bool.and_eq_true, Bool.not_eq_eq_eq_not, Bool.not_true] at h
  obtain ⟨⟨h1, h2⟩, h3⟩ := h
  refine ⟨h1, h2, ?_⟩
  split at h3
  · rename_i p hp; exact ⟨p, hp, h3⟩
  · cases h3

theorem StepType.exists_iff {rx E fs} {ns : String} {d pty} (hE : EnvOK2 E fs) (hp : ParentSrc rx fs ns d pty)
    (fields : List CField) : (∃ c, StepType E pty fields d.kind c) ↔ extendsLegal rx fs ns d = true := by
  cases pty with
  | none =>
    refine iff_of_true ?_ (extendsLegal_none hp)
    cases d.kind with
    | struct => exact ⟨_, .structRoot⟩
    | union closed => exact ⟨_, .unionRoot⟩
  | some t' =>
    obtain ⟨r, h1, h2, h3, h4⟩ := hp
    constructor
    · rintro ⟨c, hs⟩
      unfold extendsLegal
      generalize d.kind = kind at hs ⊢
      have hnn : r.head.nullable = false := by
        cases hb : r.head.nullable with
        | false => rfl
        | true => obtain ⟨t, ht⟩ := h4 hb; cases hs <;> cases ht
      cases hs with
      | structChild hkd => simp [h1, hnn, h2, h3, ← hE.ok.kindOf_eq, hkd]
      | @unionChild _ closed _ pc hkd hopen =>
        simp only [h1, hnn, h2, h3, ← hE.ok.kindOf_eq, hkd, Bool.not_false, Bool.true_and]
        cases closed <;> cases pc <;> simp at hopen ⊢
    · intro hext
      obtain ⟨_, _, p, hp', hkd⟩ := extendsLegal_parts hext h1
      rw [h3] at hp'
      cases hp'
      rw [← hE.ok.kindOf_eq] at hkd
      cases hk : d.kind with
      | struct =>
        rw [hk] at hkd
        cases hh : kindOf E p with
        | none => simp [hh] at hkd
        | some kd => cases kd <;> simp [hh] at hkd; exact ⟨_, .structChild hh⟩
      | union closed =>
        rw [hk] at hkd
        cases hh : kindOf E p with
        | none => simp [hh] at hkd
        | some kd =>
          cases kd with
          | struct => simp [hh] at hkd
          | union pc =>
            simp only [hh, Bool.not_eq_eq_eq_not, Bool.not_true] at hkd
            exact ⟨_, .unionChild hh hkd⟩

theorem members_ok_iff {rx E fs A ns kind} (hE : EnvOK2 E fs) {l : List AField} {fields} :
    mapE (compileMember rx E A ns kind) l = .ok fields ↔
      (∀ f, f ∈ l → MemberStat rx fs ns (kind == .struct) f) ∧
        optMapM (denoteField rx fs ns (kind == .struct)) l = some fields ∧
        ∀ cf, cf ∈ fields → tyNullLegal (lookOf A) (aliasFuel E) cf.ty = true :=
  mapE_ok_iff fun _ _ _ => compileMember_ok_iff hE

/-- One population step in the terms of the rules; its `?` are tested against the aliases set SO FAR (pass 3 records
them and re-checks them against the final targets at its end). -/
theorem populateStep_ok_iff_legal {rx E fs st1 key d pty st'} (hE : EnvOK2 E fs) (hI : Inv rx E fs st1)
    (hcl : ParentsIn st1.done) (hp : ParentSlot rx E st1 key d pty) :
    populateStep rx E st1 key d pty = .ok st' ↔
      ∃ fields c, optMapM (denoteField rx fs key.1 (d.kind == .struct)) d.fields = some fields ∧
        denoteType rx fs key.1 d = some c ∧ TypeStat rx fs key.1 d c ∧
        (∀ cf, cf ∈ fields → tyNullLegal (lookOf st1.aliases) (aliasFuel E) cf.ty = true) ∧
        st' = { st1 with nrefs := st1.nrefs ++ fields.flatMap (fun f => nullRefs f.ty), done := (key, c) :: st1.done } := by
  have hp' := hp.src hE
  -- the walk up the ancestors on the table so far is the rule's walk: the table holds the parent and is closed
  have hanc : ∀ {fields c}, StepType E pty fields d.kind c →
      ancestorNames (typesOf st1.done) (populateFuel E) c.parent = ancestorNames (typeS rx fs) (fuelT fs) c.parent :=
    fun hs => by
      rw [hE.ok.populateFuel_eq, ancestorNames_eq (types := typesOf st1.done) (fun k c hl => hI.types_below hE.ok hl)
        hcl _ fun p hcp => hs.parent_done hp hcp]
  simp only [populateStep_ok_iff, members_ok_iff hE, setAttributes_ok_iff]
  constructor
  · rintro ⟨fields, c, ⟨hm, ho, hn⟩, hs, hdup, ⟨anc, ha, hany⟩, rfl⟩
    exact ⟨fields, c, ho, hs.denote hE hp' ho,
      ⟨(StepType.exists_iff hE hp' fields).mp ⟨c, hs⟩, hm, hdup, anc, hanc hs ▸ ha, hany⟩, hn, rfl⟩
  · rintro ⟨fields, c, ho, hden, hstat, hn, rfl⟩
    obtain ⟨c', hs⟩ := (StepType.exists_iff hE hp' fields).mpr hstat.ext
    obtain rfl : c' = c := Option.some.inj ((hs.denote hE hp' ho).symm.trans hden)
    obtain ⟨anc, ha, hany⟩ := hstat.anc
    exact ⟨fields, c', ⟨hstat.members, ho, hn⟩, hs, hstat.nodup, ⟨anc, hanc hs ▸ ha, hany⟩, rfl⟩

theorem populateStep_ok {rx E fs st1 key d pty} (hE : EnvOK2 E fs) (hJ : J rx E fs st1)
    (hl : typeLegal rx fs key.1 d = true) (hp : ParentSlot rx E st1 key d pty) :
    ∃ st', populateStep rx E st1 key d pty = .ok st' := by
  obtain ⟨c, hden, hstat, hnull, _, _⟩ := typeLegal_iff.mp hl
  obtain ⟨fields, hfs, heq, _⟩ := denoteType_fields hden
  refine ⟨_, (populateStep_ok_iff_legal hE hJ.inv hJ.closed hp).mpr
    ⟨fields, c, hfs, hden, hstat, fun cf hcf => ?_, rfl⟩⟩
  rw [hE.ok.aliasFuel_eq]
  -- the rule speaks of the final targets, the step tests against those set so far: an alias without target passes
  exact tyNullLegal_below (hJ.inv.below hE.ok) (hnull cf (heq ▸ List.mem_append_left _ hcf))

def Grow (st st' : St) : Prop :=
  (∀ k, (st.done.lookup k).isSome → (st'.done.lookup k).isSome) ∧
  (∀ k, (st.aliases.lookup k).isSome → (st'.aliases.lookup k).isSome)

theorem Grow.refl (st : St) : Grow st st := ⟨fun _ h => h, fun _ h => h⟩
theorem Grow.trans {a b c : St} (h1 : Grow a b) (h2 : Grow b c) : Grow a c :=
  ⟨fun k h => h2.1 k (h1.1 k h), fun k h => h2.2 k (h1.2 k h)⟩

theorem populate_grow {rx E} (fuel : Nat) {prog st key d st'} (hk : E.items.lookup key = some (.type d))
    (h : populate rx E fuel prog st key d = .ok st') : Grow st st' := by
  refine populate_induct (P := Grow st) (fun hP _ _ => hP) ?_ fuel (Grow.refl st) hk h
  intro st1 key d pty st' hP _ _ h
  obtain ⟨c, hd, ha⟩ := populateStep_done h
  exact ⟨fun k hk => by rw [hd]; exact lookup_isSome_cons (hP.1 k hk), fun k hk => by rw [ha]; exact hP.2 k hk⟩

theorem ParentSlot.user_of_legal {rx E fs st key d t'} (hE : EnvOK2 E fs) (hl : typeLegal rx fs key.1 d = true)
    (hp : ParentSlot rx E st key d (some t')) : ∃ p, t' = .user p := by
  obtain ⟨r, t, A, hx, ht, ht', _⟩ := hp
  obtain ⟨_, _, hstat, _⟩ := typeLegal_iff.mp hl
  obtain ⟨hnn, _, p, hdr, _⟩ := extendsLegal_parts hstat.ext hx
  obtain ⟨_, t0, hd, ht0, _⟩ := (resolveW_ok_iff hE r).mp ht
  simp only [Bool.false_eq_true, ↓reduceIte] at ht0
  subst ht0
  rw [hdr] at hd
  simp only [nullableMeaning, hnn, Bool.false_eq_true, ↓reduceIte, Option.some.injEq] at hd
  subst hd
  rw [hnn] at ht'
  exact ⟨p, by simpa using wrapNull_eq_ok ht'⟩

theorem populateStep_J {rx E fs st1 key d pty st'} (hE : EnvOK2 E fs) (hL : DeclsLegal rx fs) (hJ : J rx E fs st1)
    (hk : E.items.lookup key = some (.type d)) (hp : ParentSlot rx E st1 key d pty)
    (h : populateStep rx E st1 key d pty = .ok st') : J rx E fs st' := by
  have hinv := populateStep_inv hE hJ.inv hk (hp.src hE) h
  refine ⟨hinv, populateStep_closed hJ.closed hp h, ?_⟩
  obtain ⟨fields, c, ho, hden, _, _, rfl⟩ := (populateStep_ok_iff_legal hE hJ.inv hJ.closed hp).mp h
  obtain ⟨c', hden', _, hnull, _, _⟩ := typeLegal_iff.mp (hL.type (hE.ok.type_decl hk).1)
  cases hden.symm.trans hden'
  intro u hu
  rcases List.mem_append.mp hu with hu | hu
  · exact hJ.nrefs u hu
  · obtain ⟨f, hf, hu⟩ := List.mem_flatMap.mp hu
    exact tyNullLegal_iff.mp (hnull f (denoteType_fields_eq hden ho ▸ List.mem_append_left _ hf)) u hu

theorem populate_J {rx E fs} (hE : EnvOK2 E fs) (hL : DeclsLegal rx fs) (fuel : Nat) {prog st key d st'}
    (hJ : J rx E fs st) (hk : E.items.lookup key = some (.type d)) (h : populate rx E fuel prog st key d = .ok st') :
    J rx E fs st' :=
  populate_induct
    (fun hJ hk hp => by
      obtain ⟨p, rfl⟩ := hp.user_of_legal hE (hL.type (hE.ok.type_decl hk).1)
      exact hJ.nrefs_user p)
    (fun hJ hk hp h => populateStep_J hE hL hJ hk hp h) fuel hJ hk h

/-- **no population fails on legal input**: the walk up the parents meets no type in progress (that would be an
inheritance cycle, and the walk up the ancestors of the rule would not end) and has fuel for every type outside
`prog` -/
theorem populate_ok {rx E fs} (hE : EnvOK2 E fs) (hL : DeclsLegal rx fs) : ∀ (fuel : Nat) {prog st key d},
    J rx E fs st → E.items.lookup key = some (.type d) → slack fs prog < fuel →
    (∀ x, x ∈ prog → Gr.Reach (succP rx fs) x key) → ∃ st', populate rx E fuel prog st key d = .ok st'
  | 0, _, _, _, _, _, _, h, _ => by omega
  | fuel + 1, prog, st, key, d, hJ, hk, hfuel, hreach => by
    have hl := hL.type (hE.ok.type_decl hk).1
    obtain ⟨c, hden, hts, _, _, _⟩ := typeLegal_iff.mp hl
    obtain ⟨anc, hanc, _⟩ := hts.anc
    have htypeS : typeS rx fs key = some c := by rw [hE.ok.typeS_eq hk]; exact hden
    simp only [populate]
    cases hx : d.extends with
    | none => exact populateStep_ok hE hJ hl (pty := none) hx
    | some r =>
      obtain ⟨hnn, hstat, p, hdr, _⟩ := extendsLegal_parts hts.ext hx
      have ht' : resolveW rx E st.aliases false key.1 r = .ok (.user p) :=
        (resolveW_ok_iff hE r).mpr ⟨hstat, .user p, by rw [hdr]; simp [nullableMeaning, hnn], rfl,
          by simp [tyNullLegal, nullRefs]⟩
      simp only [ht']
      -- the edge key → p of the inheritance graph
      have hpar : c.parent = some p := by
        have := denoteType_parent hden
        unfold denoteParent at this
        simp only [hx, hdr, Option.some.injEq] at this
        exact this.symm
      have hedge : p ∈ succP rx fs key := mem_succP.mpr ⟨c, htypeS, hpar⟩
      have hnocyc : ¬ Gr.Path (succP rx fs) p p := by
        intro hcyc
        rw [hpar] at hanc
        exact cyc_no_anc _ hcyc anc hanc
      obtain ⟨_, hs⟩ :=
        (StepType.exists_iff hE (pty := some (.user p)) ⟨r, hx, hstat, hdr, by simp [hnn]⟩ []).mpr hts.ext
      obtain ⟨d', hd'⟩ : ∃ d', E.items.lookup p = some (.type d') := by
        generalize d.kind = kd at hs
        cases hs with
        | structChild hko => exact (kindOf_some hko).imp fun _ h => h.1
        | unionChild hko _ => exact (kindOf_some hko).imp fun _ h => h.1
      have hw : ∀ A : AliasMap, wrapNull (aliasFuel E) (lookOf A) r.head.nullable (.user p) = .ok (.user p) := by
        intro A; simp [wrapNull, hnn]
      -- what remains once the parent is in the table
      have tail : ∀ st1, J rx E fs st1 → (st1.done.lookup p).isSome → ∃ st',
          populateStep rx E { st1 with nrefs := st1.nrefs ++ nullRefs (.user p) } key d (some (.user p)) = .ok st' :=
        fun st1 hJ1 hsome1 =>
          populateStep_ok hE (hJ1.nrefs_user p) hl
            (pty := some (.user p)) ⟨r, .user p, st.aliases, hx, ht', hw _, fun k hk => by cases hk; exact hsome1⟩
      by_cases hdn : (st.done.lookup p).isSome = true
      · simp only [hdn, ↓reduceIte, hw]
        exact tail st hJ hdn
      · simp only [hdn, Bool.false_eq_true, ↓reduceIte]
        by_cases hpc : prog.contains p = true
        · exfalso
          exact hnocyc (Gr.path_of_reach_edge (hreach p (List.contains_iff_mem.mp hpc)) hedge)
        · simp only [hpc, Bool.false_eq_true, ↓reduceIte, hd']
          have hsl := slack_cons_lt (fs := fs) (prog := prog) (IsType.mem_typeKeys ⟨d', hE.ok.type_decl hd'⟩) hpc
          obtain ⟨st1, hs1⟩ := populate_ok hE hL fuel (prog := p :: prog) hJ hd' (by omega)
            (by
              intro x hx'
              simp only [List.mem_cons] at hx'
              rcases hx' with rfl | hx'
              · exact .refl
              · exact (hreach x hx').trans (.cons hedge .refl))
          simp only [hs1, hw]
          exact tail st1 (populate_J hE hL fuel hJ hd' hs1) (populate_done fuel hs1)

theorem setAlias_ok {rx E fs st ns name r} (hE : EnvOK2 E fs) (hJ : J rx E fs st)
    (hk : E.items.lookup (ns, name) = some (.alias r)) (hl : aliasLegal rx fs ns name r = true) :
    ∃ st', setAlias rx E st ns name r = .ok st' ∧ J rx E fs st' := by
  unfold aliasLegal at hl
  simp only [Bool.and_eq_true] at hl
  have hA := hJ.inv.below hE.ok
  obtain ⟨t, hr, hd, hn⟩ := resolve_ok_of_legal hE hA hl.1
  have hsearch := hl.2
  simp only [hd, beq_iff_eq] at hsearch
  have hno : anyTri (search (aliasSucc (lookOf st.aliases)) (ns, name) (aliasFuel E)) t.aliases = .no := by
    rw [hE.ok.aliasFuel_eq]
    exact Gr.anyTri_search_mono (aliasSucc_below hA) (fun x hx => hx) hsearch
  have hs : setAlias rx E st ns name r =
      .ok { st with aliases := ((ns, name), t) :: st.aliases, nrefs := st.nrefs ++ nullRefs t } := by
    unfold setAlias
    simp only [hr, hno]
  refine ⟨_, hs, setAlias_inv hE hJ.inv hk hs, hJ.closed, ?_⟩
  · intro u hu
    simp only [List.mem_append] at hu
    rcases hu with hu | hu
    · exact hJ.nrefs u hu
    · exact tyNullLegal_iff.mp hn u hu

def Complete (fs : List File) (nss : List String) (st : St) : Prop :=
  ∀ ns, ns ∈ nss → (∀ d, d ∈ typeDecls (declsOf fs ns) → (st.done.lookup (ns, d.name)).isSome) ∧
    (∀ n r, (n, r) ∈ aliasDecls (declsOf fs ns) → (st.aliases.lookup (ns, n)).isSome)

theorem populateOne_grow {rx E fs ns st d st'} (hE : EnvOK E fs) (hd : d ∈ typeDecls (declsOf fs ns))
    (h : populateOne rx E ns st d = .ok st') : Grow st st' ∧ (st'.done.lookup (ns, d.name)).isSome := by
  unfold populateOne at h
  split at h
  · rename_i hdn; cases h; exact ⟨Grow.refl _, hdn⟩
  · exact ⟨populate_grow _ (hE.lookup_type hd) h, populate_done _ h⟩

theorem pass3Nss_complete {rx E fs} (hE : EnvOK E fs) {nss : List String} {st st'}
    (h : pass3Nss rx E st nss = .ok st') : Complete fs nss st' := by
  rw [pass3Nss_eq] at h
  refine (foldE_progress (I := fun _ => True) (R := Grow) Grow.refl Grow.trans
    (Q := fun ns s => (∀ d, d ∈ typeDecls (declsOf fs ns) → (s.done.lookup (ns, d.name)).isSome) ∧
      (∀ n r, (n, r) ∈ aliasDecls (declsOf fs ns) → (s.aliases.lookup (ns, n)).isSome))
    (fun hR hQ => ⟨fun d hd => hR.1 _ (hQ.1 d hd), fun n r hm => hR.2 _ (hQ.2 n r hm)⟩)
    (fun ns s s' _ _ hs => ⟨trivial, ?_⟩) trivial h).2.2
  obtain ⟨s1, h1, h2⟩ := pass3Ns_ok_iff.mp hs
  rw [hE.files] at h1 h2
  obtain ⟨_, hg1, hq1⟩ := foldE_progress (I := fun _ => True) (R := Grow) Grow.refl Grow.trans
    (Q := fun p s => (s.aliases.lookup (ns, p.1)).isSome) (fun {p _ _} hR hQ => hR.2 (ns, p.1) hQ)
    (fun p s s' _ _ hs => by
      obtain ⟨t, _, _, rfl⟩ := setAlias_eq_ok hs
      exact ⟨trivial, ⟨fun _ h => h, fun k h => lookup_isSome_cons h⟩, by simp only [List.lookup_cons_self]; rfl⟩) trivial h1
  obtain ⟨_, hg2, hq2⟩ := foldE_progress (I := fun _ => True) (R := Grow) Grow.refl Grow.trans
    (Q := fun d s => (s.done.lookup (ns, d.name)).isSome) (fun {d _ _} hR hQ => hR.1 (ns, d.name) hQ)
    (fun d s s' hd _ hs => ⟨trivial, populateOne_grow hE hd hs⟩) trivial h2
  exact ⟨hg1.trans hg2, hq2, fun n r hm => hg2.2 _ (hq1 (n, r) hm)⟩

theorem pass3Nss_ok {rx E fs} (hE : EnvOK2 E fs) (hL : DeclsLegal rx fs) {nss : List String} {st}
    (hJ : J rx E fs st) : ∃ st', pass3Nss rx E st nss = .ok st' ∧ J rx E fs st' := by
  rw [pass3Nss_eq]
  refine foldE_ok (P := J rx E fs) (fun ns s _ hJ => ?_) hJ
  simp only [pass3Ns_ok_iff, hE.ok.files]
  obtain ⟨s1, h1, hJ1⟩ := foldE_ok (step := fun st p => setAlias rx E st ns p.1 p.2) (l := aliasDecls (declsOf fs ns))
    (P := J rx E fs) (fun p s hp hJ => by
      obtain ⟨s', h, hJ'⟩ := setAlias_ok hE hJ (hE.ok.lookup_alias hp) (hL _ (mem_declsOf.mp (mem_aliasDecls.mp hp)))
      exact ⟨s', h, hJ'⟩) hJ
  obtain ⟨s2, h2, hJ2⟩ := foldE_ok (step := populateOne rx E ns) (l := typeDecls (declsOf fs ns))
    (P := J rx E fs) (fun d s hd hJ => by
      have hk := hE.ok.lookup_type hd
      unfold populateOne
      split
      · exact ⟨s, rfl, hJ⟩
      · obtain ⟨s', hs⟩ := populate_ok hE hL (populateFuel E) (prog := [(ns, d.name)]) hJ hk
          (slack_lt_populateFuel hE.ok _)
          (by intro x hx; rw [List.mem_singleton.mp hx]; exact .refl)
        exact ⟨s', hs, populate_J hE hL _ hJ hk hs⟩) hJ1
  exact ⟨s2, ⟨s1, h1, h2⟩, hJ2⟩

theorem pass3_ok {rx E fs} (hE : EnvOK2 E fs) (hL : DeclsLegal rx fs) :
    ∃ st, pass3 rx E = .ok st ∧ J rx E fs st ∧ Complete fs E.nss st := by
  obtain ⟨st, hs, hJ⟩ := pass3Nss_ok hE hL (nss := E.nss) (st := {}) J.init
  refine ⟨st, ?_, hJ, pass3Nss_complete hE.ok hs⟩
  unfold pass3
  simp only [hs]
  simp only [recheckNullable_ok_iff.mpr fun u hu =>
    nullOK_below (hJ.inv.below hE.ok) (hE.ok.aliasFuel_eq ▸ hJ.nrefs u hu)]

/-- The tables a successful pass 3 leaves ARE `aliasS`, `typeS`, its parent map (`look_eq`, `types_eq`, `parent_eq`). -/
structure Final (rx : String → Bool) (E : Env) (fs : List File) (st : St) : Prop where
  inv : Inv rx E fs st
  complete : Complete fs E.nss st

theorem Final.look_eq {rx E fs st} (hE : EnvOK2 E fs) (hF : Final rx E fs st) : lookOf st.aliases = aliasS rx fs :=
  ext_of_below (hF.inv.below hE.ok) fun k hs => by
    obtain ⟨r, hd⟩ := aliasS_isSome hs
    exact (hF.complete k.1 (hE.ok.ns_mem hd)).2 k.2 r (mem_aliasDecls.mpr hd)

theorem defaultField_eq {rx E fs A} (hE : EnvOK2 E fs) (hlook : lookOf A = aliasS rx fs) :
    defaultField E A = defaultLegal (fuelA fs) (aliasS rx fs) (fun k => isUnionKind (kindS fs k)) := by
  have hk : (fun k => isUnionKind (kindOf E k)) = fun k => isUnionKind (kindS fs k) :=
    funext fun k => by rw [hE.ok.kindOf_eq]
  funext f
  unfold defaultField
  rw [hlook, hE.ok.aliasFuel_eq, hk]

theorem Final.types_eq {rx E fs st} (hE : EnvOK2 E fs) (hF : Final rx E fs st) : typesOf st.done = typeS rx fs :=
  ext_of_below (fun _ _ => hF.inv.types_below hE.ok) fun k hs => by
    obtain ⟨d, hd, hn⟩ := typeS_isSome hs
    have := (hF.complete k.1 (hE.ok.ns_mem hd)).1 d (mem_typeDecls.mpr hd)
    rwa [hn] at this

theorem Final.parent_eq {rx E fs st} (hE : EnvOK2 E fs) (hF : Final rx E fs st) :
    parentIn st.done = fun k => (typeS rx fs k).bind (·.parent) := by
  have := hF.types_eq hE
  funext k
  have hk := congrFun this k
  unfold typesOf at hk
  unfold parentIn
  rw [hk]

theorem Final.lookup_decl {rx E fs st} (hE : EnvOK2 E fs) (hF : Final rx E fs st) {ns d}
    (hd : d ∈ typeDecls (declsOf fs ns)) :
    ∃ c, st.done.lookup (ns, d.name) = some c ∧ denoteType rx fs ns d = some c := by
  have := (hF.complete ns (hE.ok.ns_mem (mem_typeDecls.mp hd))).1 d hd
  cases hl : st.done.lookup (ns, d.name) with
  | none => rw [hl] at this; cases this
  | some c =>
    refine ⟨c, rfl, ?_⟩
    have h1 := hF.inv.types_below hE.ok hl
    rw [hE.ok.typeS_eq (hE.ok.lookup_type hd)] at h1
    exact h1

theorem Final.legal {rx E fs st ns d c} (hE : EnvOK2 E fs) (hF : Final rx E fs st) (hL : DeclsLegal rx fs)
    (hd : d ∈ typeDecls (declsOf fs ns)) (hl : st.done.lookup (ns, d.name) = some c) :
    (d.kind = .struct → ∀ f, f ∈ c.fields →
      isOk (defaultLegal (fuelA fs) (aliasS rx fs) (fun k => isUnionKind (kindS fs k)) f) = true) ∧
    enumLegal rx fs ns d c = true := by
  obtain ⟨c', hden, _, _, hdef, henum⟩ := typeLegal_iff.mp (hL.type (mem_typeDecls.mp hd))
  obtain ⟨c'', hl', hden'⟩ := hF.lookup_decl hE hd
  rw [hl] at hl'; cases hl'
  rw [hden] at hden'; cases hden'
  exact ⟨hdef, henum⟩

theorem pass4_ok_iff {rx E fs st} (hE : EnvOK2 E fs) (hF : Final rx E fs st) :
    pass4Types E st (nsTypeDecls E) = .ok () ↔ ∀ ns, ns ∈ E.nss → ∀ d, d ∈ typeDecls (declsOf fs ns) →
      d.kind = .struct → ∀ c, st.done.lookup (ns, d.name) = some c → ∀ f, f ∈ c.fields →
        isOk (defaultLegal (fuelA fs) (aliasS rx fs) (fun k => isUnionKind (kindS fs k)) f) = true := by
  rw [pass4Types_eq, firstErr_ok_iff]
  unfold nsTypeDecls
  simp only [List.mem_flatMap, List.mem_map, hE.ok.files]
  refine ⟨fun h ns hns d hd hk c hl f hf => ?_, ?_⟩
  · have := h _ ⟨ns, hns, d, hd, rfl⟩
    simp only [defaultsOf, hk, hl, defaultFields_eq, firstErr_ok_iff] at this
    rw [← defaultField_eq hE (hF.look_eq hE), isOk_unit]
    exact this f hf
  · rintro h _ ⟨ns, hns, d, hd, rfl⟩
    obtain ⟨c, hl, _⟩ := hF.lookup_decl hE hd
    unfold defaultsOf
    cases hk : d.kind with
    | union _ => rfl
    | struct =>
      simp only [hl, defaultFields_eq, firstErr_ok_iff]
      intro f hf
      rw [← isOk_unit, defaultField_eq hE (hF.look_eq hE)]
      exact h ns hns d hd hk c hl f hf

theorem Final.mem_subtypes {rx E fs st} (hE : EnvOK2 E fs) (hF : Final rx E fs st) (self k : Key) :
    k ∈ subtypesOf st self ↔ k ∈ subtypesS rx fs self := by
  constructor <;> intro h
  · unfold subtypesOf at h
    simp only [List.mem_map, List.mem_filter, beq_iff_eq] at h
    obtain ⟨⟨k', c⟩, ⟨hm, hpar⟩, rfl⟩ := h
    obtain ⟨d, hd, hden⟩ := hF.inv.done k' c hm
    obtain ⟨hdecl, hname⟩ := hE.ok.type_decl hd
    unfold subtypesS
    simp only [List.mem_filterMap]
    refine ⟨(k'.1, .type d), mem_declsOf.mp hdecl, ?_⟩
    simp only at hpar
    have := denoteType_parent hden
    simp only [this, hpar, beq_self_eq_true, ↓reduceIte, hname]
  · unfold subtypesS at h
    simp only [List.mem_filterMap] at h
    obtain ⟨⟨ns', dd⟩, hm, hk⟩ := h
    cases dd with
    | type d' =>
      simp only at hk
      split at hk
      · rename_i hpar
        cases hk
        have hdecl : Decl.type d' ∈ declsOf fs ns' := mem_declsOf.mpr hm
        obtain ⟨c', hl, hden⟩ := hF.lookup_decl hE (mem_typeDecls.mpr hdecl)
        have hp := denoteType_parent hden
        simp only [beq_iff_eq] at hpar
        rw [hpar] at hp
        simp only [Option.some.injEq] at hp
        unfold subtypesOf
        simp only [List.mem_map, List.mem_filter, beq_iff_eq]
        exact ⟨((ns', d'.name), c'), ⟨mem_of_lookup hl, hp.symm⟩, rfl⟩
      · cases hk
    | «alias» _ _ | route _ | imp _ | annot _ _ | annotType _ | patch _ | aliasAnnots _ _ => simp at hk

theorem isEmpty_congr {α} {l l' : List α} (h : ∀ k, k ∈ l ↔ k ∈ l') : l.isEmpty = l'.isEmpty := by
  rw [Bool.eq_iff_iff, List.isEmpty_iff, List.isEmpty_iff, List.eq_nil_iff_forall_not_mem, List.eq_nil_iff_forall_not_mem]
  exact forall_congr' fun k => not_congr (h k)

theorem hasEnum_lookup {en : EnumMap} {k} (h : hasEnum en k = true) : ∃ fs' ca, en.lookup k = some (fs', ca) := by
  unfold hasEnum at h
  split at h
  · rename_i fs' ca hl; exact ⟨fs', ca, hl⟩
  · cases h

theorem subtypeField_ok_iff_legal {rx E fs st ns} (hE : EnvOK2 E fs) (hlook : lookOf st.aliases = aliasS rx fs)
    {p : String × TRef} {y} :
    subtypeField rx E st ns p = .ok y ↔ subtypeRefLegal rx fs ns p = true ∧ subDen rx fs ns p = some y := by
  rw [subtypeField_ok_iff, hE.known_eq]
  unfold subtypeRefLegal subDen
  constructor
  · rintro ⟨hk, k, hr, hkind, rfl⟩
    obtain ⟨hleg, hd⟩ := (resolve_ok_iff_legal hE hlook).mp hr
    rw [hE.ok.kindOf_eq] at hkind
    simp [hk, hleg, hd, hkind]
  · intro ⟨h1, h2⟩
    cases hd : denoteRef rx fs ns p.2 with
    | none => simp [hd] at h2
    | some t =>
      cases t with
      | user k =>
        simp only [hd, Bool.and_eq_true, beq_iff_eq, Option.some.injEq] at h1 h2
        exact ⟨h1.1.1, k, (resolve_ok_iff_legal hE hlook).mpr ⟨h1.1.2, hd⟩, by rw [hE.ok.kindOf_eq]; exact h1.2, h2.symm⟩
      | prim _ | list _ _ _ | map _ _ | nullable _ | «alias» _ => simp [hd] at h2

theorem subtypeFields_ok_iff_legal {rx E fs st ns} (hE : EnvOK2 E fs) (hlook : lookOf st.aliases = aliasS rx fs)
    {subs : List (String × TRef)} {fields} : subtypeFields rx E st ns subs = .ok fields ↔
      (∀ p, p ∈ subs → subtypeRefLegal rx fs ns p = true) ∧ optMapM (subDen rx fs ns) subs = some fields := by
  rw [subtypeFields_eq, mapE_ok_iff (p := fun p => subtypeRefLegal rx fs ns p = true) (h := subDen rx fs ns)
    (q := fun _ => True) (fun p _ y => by rw [subtypeField_ok_iff_legal hE hlook]; simp)]
  simp

theorem Final.setEnumerated_eq {rx E fs st} (hE : EnvOK2 E fs) (hF : Final rx E fs st) (self c fields) :
    setEnumerated st self c fields =
      enumCheck (fun k => (typeS rx fs k).bind (·.parent)) (subtypesS rx fs self) self c fields := by
  unfold setEnumerated
  rw [hF.parent_eq hE]
  exact enumCheck_congr (hF.mem_subtypes hE self) ..

theorem Final.subtypes_isEmpty {rx E fs st} (hE : EnvOK2 E fs) (hF : Final rx E fs st) (k : Key) :
    (subtypesOf st k).isEmpty = (subtypesS rx fs k).isEmpty :=
  isEmpty_congr (hF.mem_subtypes hE k)

/-- the rule for enumerated subtypes says that both loop bodies accept the declaration, the second with "enumerates
subtypes itself" read off the declarations -/
theorem enumLegal_iff {rx E fs st ns d c} (hE : EnvOK2 E fs) (hF : Final rx E fs st) :
    enumLegal rx fs ns d c = true ↔ ∀ subs ca, enumOf d = some (subs, ca) →
      ∃ fields, subtypeFields rx E st ns subs = .ok fields ∧ setEnumerated st (ns, d.name) c fields = .ok () ∧
        ∀ p, p ∈ fields → hasEnumS fs p.2 = true ∨ (subtypesOf st p.2).isEmpty = true := by
  unfold enumLegal
  cases enumOf d with
  | none => simp
  | some q =>
    obtain ⟨subs, ca⟩ := q
    simp only [Option.some.injEq, Prod.mk.injEq, and_imp,
      subtypeFields_ok_iff_legal hE (hF.look_eq hE), hF.setEnumerated_eq hE, hF.subtypes_isEmpty hE, ← isOk_unit,
      Bool.and_eq_true, List.all_eq_true, ← Bool.or_eq_true]
    constructor
    · rintro ⟨h1, h2⟩ _ _ rfl rfl
      cases ho : optMapM (subDen rx fs ns) subs with
      | none => simp [ho] at h2
      | some fields =>
        simp only [ho, Bool.and_eq_true, List.all_eq_true] at h2
        exact ⟨fields, ⟨h1, rfl⟩, h2⟩
    · intro h
      obtain ⟨fields, ⟨h1, ho⟩, h2⟩ := h subs ca rfl rfl
      simp only [ho, Bool.and_eq_true, List.all_eq_true]
      exact ⟨h1, h2⟩

theorem EnInv.lookup_decl {rx E fs en} (hE : EnvOK2 E fs) (hEn : EnInv rx E fs en) {ns d v}
    (hd : d ∈ typeDecls (declsOf fs ns)) (hl : en.lookup (ns, d.name) = some v) :
    ∃ subs, enumOf d = some (subs, v.2) ∧ optMapM (subDen rx fs ns) subs = some v.1 := by
  obtain ⟨d', subs, hd', hen, hopt⟩ := hEn _ _ (mem_of_lookup hl)
  rw [hE.ok.lookup_type hd] at hd'
  cases hd'
  exact ⟨subs, hen, hopt⟩

theorem EnInv.enumerates {rx E fs en} (hE : EnvOK2 E fs) (hEn : EnInv rx E fs en) {k} (h : hasEnum en k = true) :
    hasEnumS fs k = true := by
  obtain ⟨fs', ca, hlk⟩ := hasEnum_lookup h
  obtain ⟨d, subs, hd, hen, hopt⟩ := hEn _ _ (mem_of_lookup hlk)
  have hlen := optMapM_length hopt
  unfold hasEnum at h
  unfold hasEnumS
  rw [hE.ok.findDef_type hd]
  cases subs with
  | nil => simp only [List.length_nil, List.length_eq_zero_iff] at hlen; simp [hlk, hlen] at h
  | cons _ _ => simp [hen]

theorem enumOf_struct {d : TypeDecl} {x} (h : enumOf d = some x) : d.kind = .struct := by
  unfold enumOf at h
  split at h
  · assumption
  · cases h

theorem nsEnums_sound {rx E fs st ns en en1} (hE : EnvOK2 E fs) (hF : Final rx E fs st) (hEn : EnInv rx E fs en)
    (h : nsEnums rx E st en ns = .ok en1) : EnInv rx E fs en1 ∧ ∀ d, d ∈ typeDecls (declsOf fs ns) →
      ∀ c, st.done.lookup (ns, d.name) = some c → enumLegal rx fs ns d c = true := by
  obtain ⟨hEn1, _, hdone⟩ := nsEnums_inv hE hEn h
  rw [nsEnums_ok_iff, hE.ok.files, enumFirst_eq, enumSecond_eq, firstErr_ok_iff] at h
  have hfirst := foldE_steps h.1
  refine ⟨hEn1, fun d hd c hl => (enumLegal_iff hE hF).mpr fun subs ca he => ?_⟩
  obtain ⟨en0, en0', hs⟩ := hfirst d hd
  rcases enumStep_ok_iff.mp hs with ⟨he', _⟩ | ⟨subs', ca', c', fields, he', hl', hsf, hse, _⟩
  · rw [he] at he'; cases he'
  rw [he] at he'; cases he'
  rw [hl] at hl'; cases hl'
  refine ⟨fields, hsf, hse, ?_⟩
  obtain ⟨v, hv⟩ := Option.isSome_iff_exists.mp (hdone d hd (by simp [hasSub, he]))
  obtain ⟨subs', he', hopt⟩ := hEn1.lookup_decl hE hd hv
  rw [he] at he'; cases he'
  rw [subtypeFields_denote hE hsf] at hopt; cases hopt
  have hne : v.1.isEmpty = false := by
    obtain ⟨_, _, _, hne, _⟩ := enumCheck_ok_iff.mp hse
    exact hne
  intro p hp
  rcases (enumSecondStep_ok_iff hv hne (enumOf_struct he)).mp (h.2 d hd) p hp with h | h
  · exact .inl (hEn1.enumerates hE h)
  · exact .inr h

/-- a namespace whose declarations obey the rule is accepted, given that no struct with a parent enumerates subtypes
(which the rule of that struct says) -/
theorem nsEnums_ok {rx E fs st ns en} (hE : EnvOK2 E fs) (hF : Final rx E fs st) (hEn : EnInv rx E fs en)
    (hno : ∀ k self, hasEnumS fs k = true → parentIn st.done k = some self → False)
    (hL : ∀ d, d ∈ typeDecls (declsOf fs ns) → ∃ c, st.done.lookup (ns, d.name) = some c ∧ enumLegal rx fs ns d c = true) :
    ∃ en1, nsEnums rx E st en ns = .ok en1 ∧ EnInv rx E fs en1 := by
  simp only [nsEnums_ok_iff, hE.ok.files, enumFirst_eq, enumSecond_eq, firstErr_ok_iff]
  obtain ⟨en1, h1, hP⟩ := foldE_ok (step := enumStep rx E st ns) (l := typeDecls (declsOf fs ns)) (s := en)
    (P := EnInv rx E fs) (fun d s hd hP => by
      obtain ⟨c, hl, hleg⟩ := hL d hd
      have : ∃ s', enumStep rx E st ns s d = .ok s' := by
        cases he : enumOf d with
        | none => exact ⟨s, enumStep_ok_iff.mpr (.inl ⟨he, rfl⟩)⟩
        | some q =>
          obtain ⟨fields, hsf, hse, _⟩ := (enumLegal_iff hE hF).mp hleg q.1 q.2 he
          exact ⟨_, enumStep_ok_iff.mpr (.inr ⟨q.1, q.2, c, fields, he, hl, hsf, hse, rfl⟩)⟩
      obtain ⟨s', hs⟩ := this
      exact ⟨s', hs, (enumStep_inv hE hd hP hs).1⟩) hEn
  refine ⟨en1, ⟨h1, fun d hd => ?_⟩, hP⟩
  by_cases hc : (hasEnum en1 (ns, d.name) && d.kind == .struct) = true
  · simp only [Bool.and_eq_true, beq_iff_eq] at hc
    obtain ⟨fs', ca, hlk⟩ := hasEnum_lookup hc.1
    obtain ⟨subs, he, hopt⟩ := hP.lookup_decl hE hd hlk
    obtain ⟨c, hl, hleg⟩ := hL d hd
    obtain ⟨fields, hsf, hse, hB⟩ := (enumLegal_iff hE hF).mp hleg subs ca he
    have hne : fs'.isEmpty = false := by
      have := hc.1; simpa [hasEnum, hlk] using this
    rw [subtypeFields_denote hE hsf] at hopt; cases hopt
    refine (enumSecondStep_ok_iff hlk hne hc.2).mpr fun p hp => ?_
    rcases hB p hp with h | h
    · -- never on legal input: a listed subtype has `d` as parent, an enumerating struct has none; so `en1` need not know it
      exact (hno p.2 (ns, d.name) h ((enumCheck_parent hse).2 p hp)).elim
    · exact .inr h
  · simp only [enumSecondStep, hc, Bool.false_eq_true, ↓reduceIte]

theorem pass5_ok_iff {rx E fs st} (hE : EnvOK2 E fs) (hF : Final rx E fs st) :
    (∃ en, pass5Nss rx E st [] E.nss = .ok en) ↔ ∀ ns, ns ∈ E.nss → ∀ d, d ∈ typeDecls (declsOf fs ns) →
      ∀ c, st.done.lookup (ns, d.name) = some c → enumLegal rx fs ns d c = true := by
  simp only [pass5Nss_eq]
  have hnil : EnInv rx E fs [] := by intro k v hm; cases hm
  constructor
  · rintro ⟨en, h⟩
    exact (foldE_progress (R := fun _ _ => True) (fun _ => trivial) (fun _ _ => trivial) (fun _ h => h)
      (Q := fun ns _ => ∀ d, d ∈ typeDecls (declsOf fs ns) → ∀ c, st.done.lookup (ns, d.name) = some c →
        enumLegal rx fs ns d c = true)
      (fun ns s s' _ hI hs => ⟨(nsEnums_sound hE hF hI hs).1, trivial, (nsEnums_sound hE hF hI hs).2⟩) hnil h).2.2
  · intro hL
    have hL' : ∀ ns, ns ∈ E.nss → ∀ d, d ∈ typeDecls (declsOf fs ns) →
        ∃ c, st.done.lookup (ns, d.name) = some c ∧ enumLegal rx fs ns d c = true := fun ns hns d hd => by
      obtain ⟨c, hl, _⟩ := hF.lookup_decl hE hd
      exact ⟨c, hl, hL ns hns d hd c hl⟩
    have hno : ∀ k self, hasEnumS fs k = true → parentIn st.done k = some self → False := by
      intro k self hen hpar
      unfold hasEnumS at hen
      cases hf : findDef fs k.1 k.2 with
      | none => simp [hf] at hen
      | some dd =>
        rcases findDef_named hf with ⟨td, rfl, hname⟩ | ⟨r, rfl⟩
        · cases he : enumOf td with
          | none => simp [hf, he] at hen
          | some q =>
            have hd := mem_typeDecls.mpr (findDef_mem hf).1
            obtain ⟨c, hl, hleg⟩ := hL' k.1 (hE.ok.ns_mem (findDef_mem hf).1) td hd
            obtain ⟨fields, _, hse, _⟩ := (enumLegal_iff hE hF).mp hleg q.1 q.2 he
            have := (enumCheck_parent hse).1
            rw [hname] at hl
            simp [parentIn, hl, this] at hpar
        · simp [hf] at hen
    obtain ⟨en, h, _⟩ := foldE_ok (step := nsEnums rx E st) (l := E.nss) (s := [])
      (P := EnInv rx E fs) (fun ns s hns hP => nsEnums_ok hE hF hP hno (hL' ns hns)) hnil
    exact ⟨en, h⟩

theorem compileRoute_ok_iff_legal {rx E fs A ns r} (hE : EnvOK2 E fs) (hlook : lookOf A = aliasS rx fs) :
    (∃ c, compileRoute rx E A ns r = .ok c) ↔ routeLegal rx fs ns r = true := by
  have hres : ∀ x, refLegal rx fs ns x = true ↔ ∃ t, resolve rx E A ns x = .ok t := fun x => by
    simp only [resolve_ok_iff_legal hE hlook, exists_and_left, iff_self_and]
    intro h
    unfold refLegal at h
    cases hd : denoteRef rx fs ns x <;> simp [hd] at h ⊢
  unfold routeLegal
  simp only [compileRoute_ok_iff, ← isOk_unit, hE.deprecated_eq, Bool.and_eq_true, hres]
  cases r.error with
  | none => simp
  | some re =>
    simp only [Option.some.injEq, hres]
    constructor
    · rintro ⟨c, ta, tr, _, te, h1, h2, rfl, h3, h4, _⟩; exact ⟨⟨⟨⟨ta, h1⟩, tr, h2⟩, te, h3⟩, h4⟩
    · rintro ⟨⟨⟨⟨ta, h1⟩, tr, h2⟩, te, h3⟩, h4⟩; exact ⟨_, ta, tr, re, te, h1, h2, rfl, h3, h4, rfl⟩

theorem pass6_ok_iff {rx E fs A} (hE : EnvOK2 E fs) (hlook : lookOf A = aliasS rx fs) {nss : List String} :
    (∃ L, pass6Nss rx E A nss = .ok L) ↔
      ∀ ns, ns ∈ nss → ∀ r, r ∈ routeDecls (declsOf fs ns) → routeLegal rx fs ns r = true := by
  simp only [pass6Nss_eq, mapE_isOk_iff, routesOut_ok_iff, compileRoutes_eq, hE.ok.files,
    ← compileRoute_ok_iff_legal hE hlook]
  exact forall₂_congr fun ns _ => ⟨fun ⟨_, rs, h, _⟩ => mapE_isOk_iff.mp ⟨rs, h⟩,
    fun h => (mapE_isOk_iff.mpr h).elim fun rs h => ⟨_, rs, h, rfl⟩⟩

theorem assemble_ok {E : Env} {fs st en} (hfiles : E.files = fs) (hc : Complete fs E.nss st)
    {L : List (String × List CRoute)} (h : ∀ p, p ∈ L → p.1 ∈ E.nss) : ∃ outs, assemble E st en L = .ok outs := by
  simp only [assemble_eq]
  refine mapE_ok (fun p hp => ?_)
  obtain ⟨hct, hca⟩ := hc p.1 (h p hp)
  obtain ⟨types, ht⟩ := mapE_ok (g := typeOut st p.1) (l := typeDecls (declsOf fs p.1)) (fun d hd => by
    obtain ⟨c, hc⟩ := Option.isSome_iff_exists.mp (hct d hd)
    exact ⟨_, typeOut_ok_iff.mpr ⟨c, hc, rfl⟩⟩)
  obtain ⟨aliases, ha⟩ := mapE_ok (g := aliasOut st p.1) (l := aliasDecls (declsOf fs p.1)) (fun q hq => by
    obtain ⟨t, ht⟩ := Option.isSome_iff_exists.mp (hca q.1 q.2 hq)
    exact ⟨_, aliasOut_ok_iff.mpr ⟨t, ht, rfl⟩⟩)
  exact ⟨_, nsOut_ok_iff.mpr ⟨types, aliases, by rw [typesOut_eq, hfiles]; exact ht,
    by rw [aliasesOut_eq, hfiles]; exact ha, rfl⟩⟩

theorem compileEnv_ok {rx E fs} (hE : EnvOK2 E fs) (hL : DeclsLegal rx fs) : ∃ api, compileEnv rx E = .ok api := by
  obtain ⟨st, h3, hJ, hc⟩ := pass3_ok hE hL
  have hF : Final rx E fs st := ⟨hJ.inv, hc⟩
  have h4 := (pass4_ok_iff hE hF).mpr fun ns _ d hd hk c hl => (hF.legal hE hL hd hl).1 hk
  obtain ⟨en, h5⟩ := (pass5_ok_iff hE hF).mpr fun ns _ d hd c hl => (hF.legal hE hL hd hl).2
  obtain ⟨L, h6⟩ := (pass6_ok_iff hE (hF.look_eq hE) (nss := E.nss)).mpr fun ns _ r hr =>
    hL (ns, .route r) (mem_declsOf.mp (mem_routeDecls.mp hr))
  have hnames := (pass6Nss_spec h6).1
  obtain ⟨outs, h7⟩ := assemble_ok (en := en) hE.ok.files hc (L := L) (by
    intro p hp
    rw [← hnames]
    exact List.mem_map.mpr ⟨p, hp, rfl⟩)
  exact ⟨{ nss := outs }, by simp only [compileEnv, h3, h4, h5, h6, h7]⟩

theorem LegalCore_parts {rx fs} (h : LegalCore rx fs = true) : namesLegal fs = true ∧ importsLegal fs = true ∧ DeclsLegal rx fs := by
  unfold LegalCore at h
  simp only [Bool.and_eq_true, List.all_eq_true] at h
  exact ⟨h.1.1, h.1.2, h.2⟩

/-- **never refused** (namespace names being identifiers) -/
theorem legal_compile_ok {rx fs} (hl : nsLexical fs = true) (h : LegalCore rx fs = true) : ∃ api, compileCore rx fs = .ok api := by
  obtain ⟨hn, hi, hd⟩ := LegalCore_parts h
  obtain ⟨E, hE⟩ := isOk_iff.mp (by rw [buildEnv_ok_iff fs hl, hn, hi]; rfl)
  obtain ⟨api, h⟩ := compileEnv_ok (buildEnv_envOK2 hE) hd
  exact ⟨api, by simp only [compileCore, hE, h]⟩

end StoneVerif.FeCompile.L
