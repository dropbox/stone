import StoneVerif.Model.FeParams
/-!
# Type instantiation (Model/FeParams): accepted = legal; nothing but the spec error escapes

Each parameter check of a constructor is `if the argument is absent or of its kind then its value else ParameterError`
(`*_eq`), so the constructor call is `if legalArgs then a type else ParameterError` once the bookkeeping of
`_instantiate_data_type` has let the argument list through: `instantiate_spec`, of which accepted = legal (C01) and no
crash (C03: the constructor is never called with the wrong number of arguments) are readings.  The holes earlier
versions of the code had (a literal as `List` / `Map` element type, a non-integral `List` length, a falsy non-string
`String` pattern, a bound beyond the other end of the width) are closed; the former witnesses are regression
statements of the new behaviour (`*_refused`, here and in Props/C01).  The `*_table` / `*_matches_signature` theorems pin the extracted tables.
-/
namespace StoneVerif.FeParams

-- global: the `decide` examples here and in Props/C03 (CliReport's too) compare `Except` values by it
deriving instance DecidableEq for Except

theorem builtinTypes_table : Tables.feBuiltinTypes = TyKind.all.map TyKind.pyName := rfl

/-- every entry of `Tables.feInitSigs` (the `__init__` signatures in stone/ir/data_types.py) -/
theorem initSig_table : TyKind.all.map (fun k => (k.pyName, initSig k)) = Tables.feInitSigs := by decide +kernel

theorem intLimits_table :
    [TyKind.int32, .uint32, .int64, .uint64].map (fun k => (k.pyName, intLimits k)) = Tables.irIntBounds := by
  decide +kernel

/-- `Float32` is limited to ±3.40282e38 (the doubles nearest to that literal), `Float64` is not limited -/
theorem floatLimits_table :
    floatLimits .float32 = (some (.fin (-340282000000000014192072600942972764160) 1),
      some (.fin 340282000000000014192072600942972764160 1)) ∧
    floatLimits .float64 = (none, none) ∧
    Tables.irFloatBounds.map (·.1) = [TyKind.float32.pyName, TyKind.float64.pyName] := by decide +kernel

@[local simp] theorem ok_bind {ε α β} (a : α) (f : α → Except ε β) : (Except.ok a >>= f) = f a := rfl

theorem ok_iff_of_eq_ite {α} {x : Except FeErr α} {c : Bool} {t r}
    (h : x = if c then .ok t else .error (.specerr r)) : (∃ t, x = .ok t) ↔ c = true := by
  subst h; cases c <;> simp

theorem ne_crash_of_eq_ite {α} {x : Except FeErr α} {c : Bool} {t r}
    (h : x = if c then .ok t else .error (.specerr r)) (e) : x ≠ .error (.crash e) := by
  subst h; cases c <;> simp

theorem idxOf?_ge_iff {names : List String} (hn : names.Nodup) (n : Nat) (key : String) :
    (∃ i, names.idxOf? key = some i ∧ n ≤ i) ↔ key ∈ names.drop n := by
  simp only [List.idxOf?_eq_some_iff, List.mem_drop_iff_getElem]
  constructor
  · rintro ⟨i, ⟨hi, he, -⟩, hni⟩
    obtain ⟨j, rfl⟩ := Nat.exists_eq_add_of_le hni
    exact ⟨j, by omega, he⟩
  · rintro ⟨j, hj, he⟩
    exact ⟨n + j, ⟨by omega, he, fun j' hj' e => by have := (List.getElem_inj hn).1 (e.trans he.symm); omega⟩, by omega⟩

theorem checkKw_none_iff {names : List String} (hn : names.Nodup) (n kw) :
    checkKw names n kw = none ↔ ∀ p ∈ kw, p.1 ∈ names.drop n := by
  induction kw with
  | nil => simp [checkKw]
  | cons p rest ih =>
    rw [List.forall_mem_cons, ← ih, ← idxOf?_ge_iff hn, checkKw]
    cases names.idxOf? p.1 with
    | none => simp
    | some i => by_cases hi : i < n <;> simp [hi] <;> omega

theorem initSig_eq (k : TyKind) : initSig k = match k with
  | .bytes | .boolean | .void => ([], 0)
  | .float32 | .float64 | .int32 | .int64 | .uint32 | .uint64 => (["min_value", "max_value"], 2)
  | .list => (["data_type", "min_items", "max_items"], 2)
  | .map => (["key_data_type", "value_data_type"], 0)
  | .string => (["min_length", "max_length", "pattern"], 3)
  | .timestamp => (["fmt"], 0) := by
  cases k <;> rfl

theorem initSig_nodup (k : TyKind) : (initSig k).1.Nodup := by
  rw [initSig_eq]; cases k <;> decide

theorem required_matches_signature (k : TyKind) :
    (required k).length = (initSig k).1.length - (initSig k).2 := by
  rw [initSig_eq]; cases k <;> rfl

/-- the optional arguments of the specification table are exactly the parameters with a default, in order -/
theorem optional_matches_signature (k : TyKind) :
    (optional k).map (·.1) = (initSig k).1.drop ((initSig k).1.length - (initSig k).2) := by
  rw [initSig_eq]; cases k <;> rfl

theorem checkKw_initSig (k : TyKind) (kw : List (String × Arg)) :
    checkKw (initSig k).1 (required k).length kw = none ↔
      (kw.all fun p => ((optional k).lookup p.1).isSome) = true := by
  rw [checkKw_none_iff (initSig_nodup k), required_matches_signature, ← optional_matches_signature]
  simp only [List.all_eq_true, List.lookup_isSome_iff, List.mem_map, beq_iff_eq]
  exact forall₂_congr fun p _ => exists_congr fun a => and_congr_right fun _ => eq_comm

/-- the bookkeeping of `_instantiate_data_type` lets the argument list through to the constructor -/
def wf (k : TyKind) (pos : List Arg) (kw : List (String × Arg)) : Bool :=
  nodupKeys kw && pos.length == (required k).length && kw.all fun p => ((optional k).lookup p.1).isSome

theorem instantiate_eq (rx k pos kw) :
    ∃ r, instantiate rx k pos kw = if wf k pos kw then construct rx k pos kw else .error (.specerr r) := by
  have hk := checkKw_initSig k kw
  simp only [instantiate, wf, required_matches_signature] at hk ⊢
  cases nodupKeys kw
  · exact ⟨.dupKeyword, rfl⟩
  · generalize (initSig k).1.length - (initSig k).2 = n at hk ⊢
    simp only [Bool.not_true, Bool.false_eq_true, if_false, Bool.true_and, gt_iff_lt]
    rcases Nat.lt_trichotomy pos.length n with h | h | h
    · exact ⟨.missingPositional, by rw [if_pos h, beq_false_of_ne (Nat.ne_of_lt h)]; rfl⟩
    · subst h
      simp only [Nat.lt_irrefl, if_false, BEq.rfl, Bool.true_and]
      cases hc : checkKw (initSig k).1 pos.length kw with
      | none => exact ⟨default, by rw [hk.1 hc]; rfl⟩
      | some r =>
        refine ⟨r, ?_⟩
        cases ha : kw.all fun p => ((optional k).lookup p.1).isSome
        · rfl
        · rw [hk.2 ha] at hc; cases hc
    · exact ⟨.tooManyPositional, by rw [if_neg (Nat.lt_asymm h), if_pos h, beq_false_of_ne (Nat.ne_of_gt h)]; rfl⟩

theorem construct_of_instantiate {rx k pos kw tv} (h : instantiate rx k pos kw = .ok tv) :
    construct rx k pos kw = .ok tv := by
  obtain ⟨r, e⟩ := instantiate_eq rx k pos kw
  rw [e] at h
  split at h
  · exact h
  · cases h

theorem construct_tyArg_list {rx k b kw tv} (h : construct rx k [Arg.ty b] kw = .ok tv) : ∃ e mn mx, tv = .list e mn mx := by
  cases k <;> simp [construct, bad, Arg.isTy] at h
  simp only [bind, Except.bind] at h
  split at h
  · cases h
  · split at h
    · cases h
    · split at h
      · cases h
      · cases h; exact ⟨_, _, _, rfl⟩

theorem construct_tyArgs_map {rx k b1 b2 kw tv} (h : construct rx k [Arg.ty b1, Arg.ty b2] kw = .ok tv) :
    ∃ a b, tv = .map a b := by
  cases k <;> simp [construct, bad, Arg.isTy] at h
  split at h
  · cases h; exact ⟨_, _, rfl⟩
  · cases h

theorem allAdmit_length {rx ks as} (h : allAdmit rx ks as = true) : as.length = ks.length := by
  induction ks generalizing as with
  | nil => cases as <;> simp_all [allAdmit]
  | cons k ks ih =>
    cases as with
    | nil => simp [allAdmit] at h
    | cons a as => simp [allAdmit] at h; simp [ih h.2]


theorem allAdmit_nil_iff {rx as} : allAdmit rx [] as = true ↔ as = [] := by
  cases as <;> simp [allAdmit]

theorem allAdmit_cons_iff {rx k ks as} :
    allAdmit rx (k :: ks) as = true ↔ ∃ a rest, as = a :: rest ∧ k.admits rx a = true ∧ allAdmit rx ks rest = true := by
  cases as with
  | nil => simp [allAdmit]
  | cons a as =>
    simp only [allAdmit, Bool.and_eq_true, List.cons.injEq]
    exact ⟨fun h => ⟨a, as, ⟨rfl, rfl⟩, h⟩, fun ⟨_, _, ⟨rfl, rfl⟩, h⟩ => h⟩

def optAdmits (rx : String → Bool) (kd : ArgKind) : Option Arg → Bool
  | some a => kd.admits rx a
  | none => true

/-- Python `float(a)` of a numeric argument (`none`: not a number, or `OverflowError`) -/
def convF (a : Arg) : Option FVal :=
  match a.num? with
  | some (.f x) => some x
  | some (.i i) => floatOfInt i
  | none => none

theorem withinF_iff {lim x} : withinF lim x = true ↔
    (∀ l, lim.1 = some l → x.lt l = false) ∧ (∀ h, lim.2 = some h → h.lt x = false) := by
  obtain ⟨lo, hi⟩ := lim
  cases lo <;> cases hi <;> simp [withinF]

theorem outsideF_eq {lim x} : outsideF lim x = !withinF lim x := by
  obtain ⟨lo, hi⟩ := lim
  cases lo <;> cases hi <;> simp [outsideF, withinF, Bool.not_and]

theorem ite_not_bad {α} (c : Bool) (x : Except FeErr α) : (if !c then bad else x) = if c then x else bad := by
  cases c <;> rfl

theorem ite_bad_bind {α β} (c : Bool) (v : α) (f : α → Except FeErr β) :
    ((if c then .ok v else bad) >>= f) = if c then f v else bad := by
  cases c <;> rfl

theorem ite_ite_bad {α} (c d : Bool) (x : Except FeErr α) :
    (if c then (if d then x else bad) else bad) = if c && d then x else bad := by
  cases c <;> cases d <;> rfl

theorem admits_intBound_iff {rx k a} : (ArgKind.intBound k).admits rx a = true ↔
    ∃ v, a.integral? = some v ∧ (intLimits k).1 ≤ v ∧ v ≤ (intLimits k).2 := by
  cases h : a.integral? <;> simp [ArgKind.admits, h]

@[local simp] theorem intBound_none {l} : intBound l none = .ok none := rfl

theorem intBound_eq (rx k o) :
    intBound (intLimits k) o = if optAdmits rx (.intBound k) o then .ok (o.bind Arg.integral?) else bad := by
  cases o with
  | none => rfl
  | some a =>
    cases h : a.integral? with
    | none => simp only [intBound, optAdmits, ArgKind.admits, Option.bind, h]; rfl
    | some v =>
      simp only [intBound, optAdmits, ArgKind.admits, Option.bind, h, ← ite_not_bad, Bool.not_and, ← decide_not,
        Int.not_le]

theorem admits_length_iff {rx l a} : (ArgKind.length l).admits rx a = true ↔
    ∃ v, a.integral? = some v ∧ l ≤ v := by
  cases h : a.integral? <;> simp [ArgKind.admits, h]

@[local simp] theorem lenBound_none {l} : lenBound l none = .ok none := rfl

theorem lenBound_eq (rx l o) :
    lenBound l o = if optAdmits rx (.length l) o then .ok (o.bind Arg.integral?) else bad := by
  cases o with
  | none => rfl
  | some a =>
    cases h : a.integral? with
    | none => simp only [lenBound, optAdmits, ArgKind.admits, Option.bind, h]; rfl
    | some v =>
      simp only [lenBound, optAdmits, ArgKind.admits, Option.bind, h, decide_eq_true_eq, ← Int.not_le, ite_not]

@[local simp] theorem floatBound_none {l} : floatBound l none = .ok none := rfl

theorem floatBound_eq (rx k o) :
    floatBound (floatLimits k) o = if optAdmits rx (.realBound k) o then .ok (o.bind convF) else bad := by
  cases o with
  | none => rfl
  | some a =>
    rcases h : a.num? with _ | (i | x)
    · simp only [floatBound, optAdmits, ArgKind.admits, Option.bind, convF, h]; rfl
    · simp only [floatBound, optAdmits, ArgKind.admits, Option.bind, convF, h, outsideF_eq, ite_not_bad]
      cases floatOfInt i <;> rfl
    · simp only [floatBound, optAdmits, ArgKind.admits, Option.bind, convF, h, outsideF_eq, ite_not_bad]

theorem admits_regex_iff {rx a} : ArgKind.regex.admits rx a = true ↔ ∃ s, a = .str s ∧ rx s = true := by
  cases a <;> simp [ArgKind.admits]

@[local simp] theorem patternArg_none {rx} : patternArg rx none = .ok none := rfl

theorem patternArg_eq (rx o) : patternArg rx o = if optAdmits rx .regex o then .ok o else bad := by
  cases o with
  | none => rfl
  | some a => cases a <;> rfl


theorem le_of_optAdmits_length {rx l o v} (h : optAdmits rx (.length l) o = true)
    (hv : o.bind Arg.integral? = some v) : l ≤ v := by
  cases o with
  | none => cases hv
  | some a =>
    have hv : a.integral? = some v := hv
    simp only [optAdmits, ArgKind.admits, hv, decide_eq_true_eq] at h
    exact h

/-- `if min and max and max < min` of `String.__init__` / `List.__init__` tests `min ≤ max` when `max` is positive
(a `min` of 0 is falsy, and is below every legal `max`) -/
theorem lengthTest_eq {rx kw lo hi} (h : optAdmits rx (.length 1) (kw.lookup hi) = true) :
    (optIntTruthy ((kw.lookup lo).bind Arg.integral?) && optIntTruthy ((kw.lookup hi).bind Arg.integral?) &&
      decide (((kw.lookup hi).bind Arg.integral?).getD 0 < ((kw.lookup lo).bind Arg.integral?).getD 0)) =
      !lengthsOrdered kw lo hi := by
  have h1 : ∀ b, (kw.lookup hi).bind Arg.integral? = some b → 1 ≤ b := fun b => le_of_optAdmits_length h
  unfold lengthsOrdered
  generalize (kw.lookup lo).bind Arg.integral? = mn
  generalize (kw.lookup hi).bind Arg.integral? = mx at h1
  cases mn with
  | none => rfl
  | some a =>
    cases mx with
    | none => simp [optIntTruthy]
    | some b =>
      have := h1 b rfl
      rw [Bool.eq_iff_iff]
      simp [optIntTruthy]
      omega

theorem lengths_eq {α} (rx kw lo hi) (f : Option Int → Option Int → Except FeErr α) :
    (do let mn ← lenBound 0 (kw.lookup lo)
        let mx ← lenBound 1 (kw.lookup hi)
        if optIntTruthy mn && optIntTruthy mx && (mx.getD 0 < mn.getD 0) then bad else f mn mx) =
      if optAdmits rx (.length 0) (kw.lookup lo) && optAdmits rx (.length 1) (kw.lookup hi) && lengthsOrdered kw lo hi
      then f ((kw.lookup lo).bind Arg.integral?) ((kw.lookup hi).bind Arg.integral?) else bad := by
  simp only [lenBound_eq rx, ite_bad_bind]
  cases hB : optAdmits rx (.length 1) (kw.lookup hi) with
  | false => cases optAdmits rx (.length 0) (kw.lookup lo) <;> rfl
  | true =>
    rw [lengthTest_eq hB]
    cases optAdmits rx (.length 0) (kw.lookup lo) <;> cases lengthsOrdered kw lo hi <;> rfl


/-- `0 + 1 + 1` is what `(required .map).length` reduces to in `construct_eq` -/
theorem length_eq_two {α} {l : List α} (h : l.length = 0 + 1 + 1) : ∃ a b, l = [a, b] := by
  match l, h with
  | [a, b], _ => exact ⟨a, b, rfl⟩

theorem legalArgs_eq (rx k pos kw) : legalArgs rx k pos kw =
    (nodupKeys kw && allAdmit rx (required k) pos && (kw.all fun p => ((optional k).lookup p.1).isSome) &&
      ((optional k).all fun o => optAdmits rx o.2 (kw.lookup o.1)) &&
      match k with
      | .string => lengthsOrdered kw "min_length" "max_length"
      | .list => lengthsOrdered kw "min_items" "max_items"
      | _ => true) := rfl

theorem construct_eq {rx k pos kw} (hw : wf k pos kw = true) :
    ∃ t, construct rx k pos kw = if legalArgs rx k pos kw then .ok t else bad := by
  simp only [wf, Bool.and_eq_true, beq_iff_eq] at hw
  obtain ⟨⟨h1, h2⟩, h3⟩ := hw
  simp only [legalArgs_eq, h1, h3, Bool.true_and, Bool.and_true]
  cases k
  case bytes | boolean | void =>
    obtain rfl := List.length_eq_zero_iff.1 h2
    exact ⟨_, rfl⟩
  case int32 | int64 | uint32 | uint64 | float32 | float64 =>
    obtain rfl := List.length_eq_zero_iff.1 h2
    constructor
    simp only [construct, intBound_eq rx, floatBound_eq rx, ite_bad_bind, ite_ite_bad,
      required, optional, allAdmit, List.all_cons, List.all_nil, Bool.true_and, Bool.and_true]
    rfl
  case string =>
    obtain rfl := List.length_eq_zero_iff.1 h2
    constructor
    simp only [construct, lengths_eq rx, patternArg_eq, ite_bad_bind, ite_ite_bad,
      required, optional, allAdmit, List.all_cons, List.all_nil, Bool.true_and, Bool.and_true]
    rw [Bool.and_right_comm, ← Bool.and_assoc]
  case timestamp =>
    obtain ⟨a, rfl⟩ := List.length_eq_one_iff.1 h2
    cases a
    case str => exact ⟨_, rfl⟩
    all_goals exact ⟨default, rfl⟩
  case list =>
    obtain ⟨a, rfl⟩ := List.length_eq_one_iff.1 h2
    constructor
    simp only [construct, lengths_eq rx, ite_not_bad, ite_ite_bad, ArgKind.admits,
      required, optional, allAdmit, List.all_cons, List.all_nil, Bool.and_true]
    rw [← Bool.and_assoc]
  case map =>
    obtain ⟨a, b, rfl⟩ := length_eq_two h2
    rcases a with _ | _ | _ | _ | _ | (_ | _)
    case ty.true =>
      cases hb : b.isTy <;>
        exact ⟨.map (.ty true) b, by simp only [construct, required, allAdmit, ArgKind.admits, hb]; rfl⟩
    all_goals exact ⟨default, rfl⟩


theorem wf_of_legalArgs {rx k pos kw} (h : legalArgs rx k pos kw = true) : wf k pos kw = true := by
  simp only [legalArgs, Bool.and_eq_true] at h
  obtain ⟨⟨⟨⟨h1, h2⟩, h3⟩, -⟩, -⟩ := h
  simp only [wf, h1, allAdmit_length h2, h3, BEq.rfl, Bool.and_self]

/-- **C01, C03.** Type instantiation ends in a type when the argument list is legal and in a spec
error when it is not, for every built-in type and every argument list.  (The model's only other outcome is the
`TypeError` of calling a constructor with the wrong number of arguments; the bookkeeping of
`_instantiate_data_type` excludes it.) -/
theorem instantiate_spec (rx : String → Bool) (k pos kw) :
    ∃ t r, instantiate rx k pos kw = if legalArgs rx k pos kw then .ok t else .error (.specerr r) := by
  obtain ⟨r, hi⟩ := instantiate_eq rx k pos kw
  cases hw : wf k pos kw with
  | false =>
    have hl : legalArgs rx k pos kw = false := by
      cases hl : legalArgs rx k pos kw
      · rfl
      · rw [wf_of_legalArgs hl] at hw; cases hw
    exact ⟨default, r, by rw [hi, hw, hl]; rfl⟩
  | true =>
    obtain ⟨t, hc⟩ := construct_eq (rx := rx) hw
    exact ⟨t, .badArgument, by rw [hi, hw, hc]; rfl⟩

example : legalArgs (fun _ => true) .list [.ty false] [("min_items", .int 1), ("max_items", .int 1)] = true := by
  decide +kernel

example : legalArgs (fun _ => true) .string [] [("min_length", .int 1), ("max_length", .int 5)] = true := by
  decide +kernel

/-- **C01.** accepted = legal, for every built-in type and every argument list. -/
theorem instantiate_ok_iff_legal (rx : String → Bool) (k pos kw) :
    (∃ t, instantiate rx k pos kw = .ok t) ↔ legalArgs rx k pos kw = true :=
  let ⟨_, _, h⟩ := instantiate_spec rx k pos kw
  ok_iff_of_eq_ite h

theorem legal_accepted (rx : String → Bool) (k pos kw)
    (h : legalArgs rx k pos kw = true) : ∃ t, instantiate rx k pos kw = .ok t :=
  (instantiate_ok_iff_legal rx k pos kw).2 h

/-- **C03.** Only `InvalidSpec` escapes type instantiation. -/
theorem instantiate_no_crash (rx : String → Bool) (k pos kw) : ∀ e, instantiate rx k pos kw ≠ .error (.crash e) :=
  let ⟨_, _, h⟩ := instantiate_spec rx k pos kw
  ne_crash_of_eq_ite h

/-- without the positional bookkeeping the constructor call does fail otherwise (`List()`): the theorem above is
not about a model that cannot crash -/
example : construct (fun _ => true) .list [] [] = .error (.crash .typeError) := by decide +kernel

/-- `instantiate_spec` for a reference `K(args)` / `K(args)?` (`Void?` refused) -/
theorem resolveBuiltin_spec (rx : String → Bool) (k pos kw) (nullable : Bool) :
    ∃ t r, resolveBuiltin rx k pos kw nullable =
      if legalRef rx k pos kw nullable then .ok (t, nullable) else .error (.specerr r) := by
  obtain ⟨t, r, h⟩ := instantiate_spec rx k pos kw
  unfold resolveBuiltin legalRef
  rw [h]
  cases k == TyKind.void && nullable
  · exact ⟨t, r, by cases legalArgs rx k pos kw <;> rfl⟩
  · exact ⟨t, .voidNullable, by cases legalArgs rx k pos kw <;> rfl⟩

theorem resolveBuiltin_ok_iff_legalRef (rx : String → Bool) (k pos kw) (nullable : Bool) :
    (∃ r, resolveBuiltin rx k pos kw nullable = .ok r) ↔ legalRef rx k pos kw nullable = true :=
  let ⟨_, _, h⟩ := resolveBuiltin_spec rx k pos kw nullable
  ok_iff_of_eq_ite h

theorem resolveBuiltin_no_crash (rx : String → Bool) (k pos kw) (nullable : Bool) :
    ∀ e, resolveBuiltin rx k pos kw nullable ≠ .error (.crash e) :=
  let ⟨_, _, h⟩ := resolveBuiltin_spec rx k pos kw nullable
  ne_crash_of_eq_ite h

example : legalRef (fun _ => true) .list [.ty false] [("min_items", .bool false)] true = true := by decide +kernel

section regression
local notation "anyRx" => (fun _ : String => true)

/-- `String(pattern="")` stays legal and accepted when the empty pattern compiles -/
example : instantiate anyRx .string [] [("pattern", .str "")] = .ok (.string none none (some (.str ""))) ∧
    legalArgs anyRx .string [] [("pattern", .str "")] = true := by decide +kernel

/-- `Float32(min_value=1e39)`, `Float32(max_value=-1e39)` (were accepted) -/
theorem float32_bound_beyond_far_end_refused :
    instantiate anyRx .float32 [] [("min_value", .float (.fin (10 ^ 39) 1))] = .error (.specerr .badArgument) ∧
    instantiate anyRx .float32 [] [("max_value", .float (.fin (-(10 ^ 39)) 1))] = .error (.specerr .badArgument) := by
  decide +kernel

example : instantiate anyRx .int32 [] [("min_value", .int (-2147483648)), ("max_value", .int 2147483647)]
    = .ok (.int .int32 (some (-2147483648)) (some 2147483647)) := by decide +kernel

/-- `Map(String, 3)` (was accepted) -/
theorem map_value_literal_refused :
    instantiate anyRx .map [.ty true, .int 3] [] = .error (.specerr .badArgument) := by decide +kernel

/-- booleans still pass as lengths, as for `String` (not judged: the language reference is silent) -/
example : instantiate anyRx .list [.ty true] [("min_items", .bool true)] = .ok (.list (.ty true) (some 1) none) := by
  decide +kernel

end regression

end StoneVerif.FeParams
