import StoneVerif.Model.Path
/-! `_relative_output_path` in terms of normalised component lists (`relativeOutputPath_spec`). The model's `splitOn` /
`joinSep` are core's and inverse to each other (the documentation-string lemmas stand on these too);
`first_comp_unique` is also used for namespace keys in `FeNames`. -/
namespace StoneVerif.Path

/-- a path component that names a directory entry -/
def Proper (w : Str) : Prop := w ≠ [] ∧ w ≠ dot ∧ w ≠ dotdot ∧ sep ∉ w

theorem Proper.rel {w : Str} (h : Proper w) : w ≠ [] ∧ sep ∉ w := ⟨h.1, h.2.2.2⟩

theorem splitOn_eq (c : Char) (s : Str) : splitOn c s = List.splitOn c s := by
  fun_induction splitOn c s <;> simp_all [List.splitOn_cons_eq_if_modifyHead]

theorem joinSep_eq (s : Str) (l : List Str) : joinSep s l = s.intercalate l := by
  fun_induction joinSep s l <;> simp_all [List.intercalate_cons_of_ne_nil]

theorem splitOn_ne_nil (c : Char) (s : Str) : splitOn c s ≠ [] := splitOn_eq c s ▸ List.splitOn_ne_nil c s

theorem splitOn_no_sep (c : Char) (s : Str) : ∀ w ∈ splitOn c s, c ∉ w := by
  fun_induction splitOn c s with
  | case1 => simp
  | case2 xs ih => simpa using ih
  | case3 x xs hx w ws e ih =>
    rw [e] at ih
    intro v hv
    rcases List.mem_cons.mp hv with rfl | hv
    · simpa [Ne.symm hx] using ih w (by simp)
    · exact ih v (by simp [hv])
  | case4 x xs hx e ih => simpa using Ne.symm hx

theorem splitOn_joinSep (c : Char) (l : List Str) (hl : l ≠ []) (h : ∀ w ∈ l, c ∉ w) :
    splitOn c (joinSep [c] l) = l := by
  rw [splitOn_eq, joinSep_eq, List.splitOn_intercalate c h hl]

theorem joinSep_splitOn (c : Char) (s : Str) : joinSep [c] (splitOn c s) = s := by
  rw [splitOn_eq, joinSep_eq, List.intercalate_splitOn]

theorem splitOn_replicate_sep (c : Char) (n : Nat) (rest : Str) :
    splitOn c (List.replicate n c ++ rest) = List.replicate n [] ++ splitOn c rest := by
  induction n with
  | zero => simp
  | succ n ih => simp [List.replicate_succ, splitOn, ih]

theorem endsWithSep_append (x y : Str) (hy : y ≠ []) : endsWithSep (x ++ y) = endsWithSep y := by
  fun_induction endsWithSep x <;> simp_all [endsWithSep]

theorem endsWithSep_no_sep (w : Str) (h : sep ∉ w) : endsWithSep w = false := by
  induction w with
  | nil => rfl
  | cons c cs ih =>
    simp at h
    cases cs with
    | nil =>
      simp [endsWithSep]
      intro e; exact h.1 (by simp [sep, e])
    | cons d ds => simp only [endsWithSep]; exact ih (by simpa using h.2)

theorem isAbs_cons (c : Char) (cs : Str) : isAbs (c :: cs) = (c == '/') := by
  by_cases h : c = '/'
  · subst h; rfl
  · rw [isAbs.eq_2 _ (fun t e => h (List.cons.inj e).1), beq_false_of_ne h]

theorem isAbs_append (a tail : Str) (hne : a ≠ []) : isAbs (a ++ tail) = isAbs a := by
  cases a with
  | nil => exact absurd rfl hne
  | cons c cs => rw [List.cons_append, isAbs_cons, isAbs_cons]

theorem isAbs_of_no_sep (w : Str) (h : sep ∉ w) : isAbs w = false := by
  cases w with
  | nil => rfl
  | cons c cs => rw [isAbs_cons]; exact beq_false_of_ne fun e => h (e ▸ List.mem_cons_self ..)

theorem joinMany_eq_joinSep (a : Str) (rest : List Str) (ha : a ≠ []) (hs : endsWithSep a = false)
    (h : ∀ w ∈ rest, w ≠ [] ∧ sep ∉ w) : joinMany a rest = joinSep [sep] (a :: rest) := by
  induction rest generalizing a with
  | nil => rfl
  | cons b r ih =>
    obtain ⟨hb, hbs⟩ := h b (by simp)
    have hstep : join2 a b = (a ++ [sep]) ++ b := by
      simp [join2, isAbs_of_no_sep b hbs, ha, hs]
    simp only [joinMany, List.foldl_cons, hstep] at ih ⊢
    rw [ih _ (by simp) (by rw [endsWithSep_append _ b hb]; exact endsWithSep_no_sep b hbs)
      fun w hw => h w (List.mem_cons_of_mem _ hw)]
    cases r <;> simp [joinSep]

theorem normStep_proper (acc : List Str) (comp : Str) (hacc : ∀ w ∈ acc, Proper w) (hc : sep ∉ comp) :
    ∀ w ∈ normStep true acc comp, Proper w := by
  unfold normStep
  split
  · exact hacc
  · next h1 =>
    have hhead : acc.head? ≠ some dotdot := by
      cases acc with
      | nil => simp
      | cons x xs => simp; exact (hacc x (by simp)).2.2.1
    split
    · next h2 =>
      have hne : comp ≠ dotdot := by
        rcases h2 with h2 | h2 | h2
        · exact h2
        · simp at h2
        · exact absurd h2 hhead
      intro w hw
      simp at hw
      rcases hw with rfl | hw
      · simp at h1; exact ⟨h1.1, h1.2, hne, hc⟩
      · exact hacc w hw
    · split
      · intro w hw; exact hacc w (by simp [hw])
      · exact hacc

theorem foldl_normStep_proper (comps : List Str) (acc : List Str) (hacc : ∀ w ∈ acc, Proper w)
    (hc : ∀ w ∈ comps, sep ∉ w) : ∀ w ∈ comps.foldl (normStep true) acc, Proper w :=
  List.foldlRecOn comps (normStep true) hacc fun acc hacc c hm => normStep_proper acc c hacc (hc c hm)

theorem normComps_proper (s : Str) : ∀ w ∈ normComps true (splitOn sep s), Proper w := by
  intro w hw
  unfold normComps at hw
  simp at hw
  exact foldl_normStep_proper _ [] (by simp) (splitOn_no_sep sep s) w hw

theorem normStep_of_proper {c : Str} (hc : Proper c) (acc : List Str) : normStep true acc c = c :: acc := by
  have h1 : ¬ (c = [] ∨ c = dot) := fun h => h.elim hc.1 hc.2.1
  simp [normStep, h1, hc.2.2.1]

theorem foldl_normStep_of_proper (l acc : List Str) (h : ∀ w ∈ l, Proper w) :
    l.foldl (normStep true) acc = l.reverse ++ acc := by
  rw [← List.foldl_flip_cons_eq_append']
  exact List.foldl_rel (r := Eq) rfl fun c hc a _ e => e ▸ normStep_of_proper (h c hc) a

theorem foldl_normStep_filter (abs : Bool) (xs acc : List Str) :
    (xs.filter (· ≠ [])).foldl (normStep abs) acc = xs.foldl (normStep abs) acc := by
  rw [List.foldl_filter]
  exact List.foldl_rel (r := Eq) rfl fun c _ a _ e => by subst e; by_cases hc : c = [] <;> simp [hc, normStep]

theorem initialSlashes_abs (q : Str) (h : isAbs q = true) : initialSlashes q = 1 ∨ initialSlashes q = 2 := by
  unfold initialSlashes
  split
  · simp
  · simp
  · simp
  · next h3 =>
    cases q with
    | nil => cases h
    | cons c cs =>
      rw [isAbs_cons, beq_iff_eq] at h
      exact absurd (h ▸ rfl) (h3 cs)

theorem normpath_abs (q : Str) (h : isAbs q = true) :
    ∃ n, (n = 1 ∨ n = 2) ∧
      normpath q = List.replicate n sep ++ joinSep [sep] (normComps true (splitOn sep q)) := by
  have hq : q ≠ [] := by intro e; subst e; simp [isAbs] at h
  have hn := initialSlashes_abs q h
  refine ⟨initialSlashes q, hn, ?_⟩
  unfold normpath
  simp only [hq, if_false]
  have hne : (initialSlashes q != 0) = true := by rcases hn with e | e <;> simp [e]
  simp only [hne]
  have : List.replicate (initialSlashes q) sep ++ joinSep [sep] (normComps true (splitOn sep q)) ≠ [] := by
    rcases hn with e | e <;> simp [e, List.replicate_succ]
  simp [this]

theorem isAbs_replicate (n : Nat) (hn : n = 1 ∨ n = 2) (rest : Str) : isAbs (List.replicate n sep ++ rest) = true := by
  rcases hn with e | e <;> subst e <;> simp [List.replicate_succ, isAbs, sep]

theorem isAbs_normpath (q : Str) (h : isAbs q = true) : isAbs (normpath q) = true := by
  obtain ⟨n, hn, e⟩ := normpath_abs q h
  rw [e]; exact isAbs_replicate n hn _

theorem nonEmptyComps_normpath (q : Str) (h : isAbs q = true) :
    nonEmptyComps (normpath q) = normComps true (splitOn sep q) := by
  obtain ⟨n, _, e⟩ := normpath_abs q h
  have hp := normComps_proper q
  generalize normComps true (splitOn sep q) = L at *
  rw [e]
  unfold nonEmptyComps
  rw [splitOn_replicate_sep]
  cases hL : L with
  | nil => simp [joinSep, splitOn]
  | cons a r =>
    rw [splitOn_joinSep sep (a :: r) (by simp) (fun w hw => (hp w (hL ▸ hw)).2.2.2)]
    rw [List.filter_append]
    have h1 : (List.replicate n ([] : Str)).filter (fun x => decide (x ≠ [])) = [] := by
      simp
    rw [h1]
    simp only [List.nil_append]
    rw [List.filter_eq_self]
    intro w hw
    simpa using (hp w (hL ▸ hw)).1

theorem normComps_normpath (q : Str) (h : isAbs q = true) :
    normComps true (splitOn sep (normpath q)) = normComps true (splitOn sep q) := by
  rw [normComps, ← foldl_normStep_filter]
  show ((nonEmptyComps (normpath q)).foldl (normStep true) []).reverse = _  -- `nonEmptyComps` is that filter
  rw [nonEmptyComps_normpath q h, foldl_normStep_of_proper _ [] (normComps_proper q)]
  simp

theorem isAbs_join2 (cwd p : Str) (hcwd : isAbs cwd = true) : isAbs (join2 cwd p) = true := by
  unfold join2
  split
  · assumption
  · cases cwd with
    | nil => cases hcwd
    | cons c cs => rw [isAbs_cons] at hcwd; split <;> simpa [isAbs_cons] using hcwd

def absInput (cwd p : Str) : Str := if isAbs p then p else join2 cwd p

theorem abspath_eq (cwd p : Str) : abspath cwd p = normpath (absInput cwd p) := by
  unfold abspath absInput; split <;> rfl

theorem isAbs_absInput (cwd p : Str) (hcwd : isAbs cwd = true) : isAbs (absInput cwd p) = true := by
  unfold absInput; split
  · assumption
  · exact isAbs_join2 cwd p hcwd

theorem isAbs_abspath (cwd p : Str) (hcwd : isAbs cwd = true) : isAbs (abspath cwd p) = true := by
  rw [abspath_eq]; exact isAbs_normpath _ (isAbs_absInput cwd p hcwd)

theorem abspath_ne_nil (cwd p : Str) (hcwd : isAbs cwd = true) : abspath cwd p ≠ [] := by
  intro e; have := isAbs_abspath cwd p hcwd; rw [e] at this; simp [isAbs] at this

theorem absComps_eq (cwd p : Str) (hcwd : isAbs cwd = true) :
    absComps cwd p = normComps true (splitOn sep (absInput cwd p)) := by
  unfold absComps; rw [abspath_eq]; exact nonEmptyComps_normpath _ (isAbs_absInput cwd p hcwd)

theorem absComps_proper (cwd p : Str) (hcwd : isAbs cwd = true) : ∀ w ∈ absComps cwd p, Proper w := by
  rw [absComps_eq cwd p hcwd]; exact normComps_proper _

/-- `relpath` re-normalises its (already absolute, already normal) arguments: nothing changes -/
theorem absComps_abspath (cwd p : Str) (hcwd : isAbs cwd = true) :
    absComps cwd (abspath cwd p) = absComps cwd p := by
  have habs := isAbs_abspath cwd p hcwd
  rw [absComps_eq cwd (abspath cwd p) hcwd, absComps_eq cwd p hcwd]
  have : absInput cwd (abspath cwd p) = abspath cwd p := by unfold absInput; simp [habs]
  rw [this, abspath_eq]
  exact normComps_normpath _ (isAbs_absInput cwd p hcwd)

theorem commonLen_le (a b : List Str) : commonLen a b ≤ a.length := by
  induction a generalizing b with
  | nil => simp [commonLen]
  | cons x xs ih =>
    cases b with
    | nil => simp [commonLen]
    | cons y ys =>
      simp only [commonLen]; split
      · have := ih ys; simp; omega
      · simp

theorem commonLen_eq_iff_prefix (root p : List Str) : commonLen root p = root.length ↔ root <+: p := by
  induction root generalizing p with
  | nil => simp [commonLen]
  | cons x xs ih =>
    cases p with
    | nil => simp [commonLen]
    | cons y ys =>
      simp only [commonLen]
      split
      · next h => subst h; simp [ih]
      · next h => simp [h]

theorem startsWith_iff (p s : Str) : startsWith p s = true ↔ p <+: s := by
  fun_induction startsWith p s <;> simp_all [List.cons_prefix_cons]

/-- what may follow a whole component -/
def CompEnd (tail : Str) : Prop := tail = [] ∨ ∃ t, tail = sep :: t

theorem head_splitOn {a tail : Str} (ha : sep ∉ a) (ht : CompEnd tail) :
    (List.splitOn sep (a ++ tail)).head? = some a := by
  rcases ht with rfl | ⟨t, rfl⟩
  · rw [List.append_nil, List.splitOn_eq_singleton ha]; rfl
  · rw [List.splitOn_append_cons_self_of_not_mem ha]; rfl

theorem first_comp_unique {a b tail tail' : Str} (ha : sep ∉ a) (hb : sep ∉ b) (ht : CompEnd tail) (ht' : CompEnd tail')
    (h : a ++ tail = b ++ tail') : a = b :=
  Option.some.inj (by rw [← head_splitOn ha ht, h, head_splitOn hb ht'])

/-- For a relative path whose first component `a` is non-empty and slash-free, the code's test
(`== '..'`, `startswith('../')`, `isabs`) fires exactly when that component is `..`. -/
theorem escapes_joinSep (a : Str) (rest : List Str) (ha : a ≠ [] ∧ sep ∉ a) :
    escapes (joinSep [sep] (a :: rest)) = true ↔ a = dotdot := by
  obtain ⟨tail, e, ht⟩ : ∃ tail, joinSep [sep] (a :: rest) = a ++ tail ∧ CompEnd tail := by
    cases rest with
    | nil => exact ⟨[], by simp [joinSep], Or.inl rfl⟩
    | cons b r => exact ⟨[sep] ++ joinSep [sep] (b :: r), by simp [joinSep], Or.inr ⟨_, rfl⟩⟩
  have hdd : sep ∉ dotdot := by decide
  rw [e]
  unfold escapes
  rw [isAbs_append a tail ha.1, isAbs_of_no_sep a ha.2, Bool.or_false, Bool.or_eq_true, beq_iff_eq, startsWith_iff]
  constructor
  · rintro (hh | ⟨u, hu⟩)
    · exact first_comp_unique ha.2 hdd ht (Or.inl rfl) (by rw [hh, List.append_nil])
    · exact first_comp_unique ha.2 hdd ht (Or.inr ⟨u, rfl⟩) (by rw [← hu, List.append_assoc]; rfl)
  · rintro rfl
    rcases ht with rfl | ⟨t, rfl⟩
    · exact Or.inl (List.append_nil _)
    · exact Or.inr ⟨t, by simp⟩

/-- the accepted relative name (`.` for the root itself) -/
def relOf (rootComps pathComps : List Str) : Str :=
  match pathComps.drop rootComps.length with
  | [] => dot
  | a :: r => joinSep [sep] (a :: r)

/-- `_relative_output_path` in closed form. Inside the root `relpath` joins proper names, which the three-way test
passes (`escapes_joinSep`); outside it the result begins with `..`, which the test refuses. -/
theorem relativeOutputPath_spec (cwd root p : Str) (hcwd : isAbs cwd = true) :
    relativeOutputPath cwd root p =
      if absComps cwd root <+: absComps cwd p then .ok (relOf (absComps cwd root) (absComps cwd p))
      else .error () := by
  have hPp := absComps_proper cwd p hcwd
  unfold relativeOutputPath relpath
  have e : ∀ q, nonEmptyComps (abspath cwd q) = absComps cwd q := fun _ => rfl
  simp only [abspath_ne_nil cwd p hcwd, if_false, e, absComps_abspath cwd _ hcwd]
  generalize absComps cwd root = R at *
  generalize absComps cwd p = P at *
  have hle := commonLen_le R P
  by_cases hpre : R <+: P
  · have hi := (commonLen_eq_iff_prefix R P).2 hpre
    simp only [hpre, if_true, hi, Nat.sub_self, List.replicate_zero, List.nil_append, relOf]
    cases hd : List.drop R.length P with
    | nil => simp [escapes, dot, dotdot, startsWith, isAbs, sep]
    | cons a rest =>
      have hmem : ∀ w ∈ a :: rest, Proper w := fun w hw => hPp w (List.mem_of_mem_drop (hd ▸ hw))
      have ha := hmem a (by simp)
      simp only [joinMany_eq_joinSep a rest ha.1 (endsWithSep_no_sep a ha.rel.2) fun w hw =>
        (hmem w (List.mem_cons_of_mem _ hw)).rel]
      have hesc := escapes_joinSep a rest ha.rel
      have : escapes (joinSep [sep] (a :: rest)) = false := by
        cases he : escapes (joinSep [sep] (a :: rest)) with
        | false => rfl
        | true => exact absurd (hesc.1 he) ha.2.2.1
      simp [this]
  · have hi : commonLen R P ≠ R.length := fun e => hpre ((commonLen_eq_iff_prefix R P).1 e)
    simp only [hpre, if_false]
    obtain ⟨k, hk⟩ : ∃ k, R.length - commonLen R P = k + 1 := ⟨R.length - commonLen R P - 1, by omega⟩
    rw [hk, List.replicate_succ]
    simp only [List.cons_append]
    have hall : ∀ w ∈ List.replicate k dotdot ++ List.drop (commonLen R P) P, w ≠ [] ∧ sep ∉ w := by
      intro w hw
      rcases List.mem_append.1 hw with hw | hw
      · rw [(List.mem_replicate.1 hw).2]; decide
      · exact (hPp w (List.mem_of_mem_drop hw)).rel
    simp only [joinMany_eq_joinSep dotdot _ (by decide) rfl hall]
    simp [(escapes_joinSep dotdot _ (by decide)).2 rfl]

end StoneVerif.Path
