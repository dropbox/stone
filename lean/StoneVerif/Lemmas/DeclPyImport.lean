import StoneVerif.Lemmas.DeclPy
/-!
The import-time semantics of `Model/DeclPy.lean` (C09). A successful run of statements that are not imports is
described once, by `Steps`, with one lemma per kind of statement and combinators over lists; no importer of this file
unfolds `execStmt`. `HasA` is lookup in an interpreter state; the model's `HasAttr` speaks of the statement list, and no
lemma connects the two.
-/
namespace StoneVerif.DeclPy

def clsKeys (st : St) : List ClsId := st.classes.map (·.1)

/-- keys are distinct and every base lies further down (was created earlier) -/
def TableWF : List (ClsId × Option ClsId) → Prop
  | [] => True
  | (c, p) :: rest => c ∉ rest.map (·.1) ∧ (∀ q, p = some q → q ∈ rest.map (·.1)) ∧ TableWF rest

theorem lookupAttr_cons_self (A : List (ClsId × Name)) (c : ClsId) (p : Option ClsId)
    (rest : List (ClsId × Option ClsId)) (a : Name) :
    lookupAttr A ((c, p) :: rest) c a
      = (A.contains (c, a) || match p with | some p => lookupAttr A rest p a | none => false) := by
  simp only [lookupAttr, beq_self_eq_true, if_true]
  rfl

theorem lookupAttr_cons_ne (A : List (ClsId × Name)) {c' c : ClsId} (h : c' ≠ c) (p : Option ClsId)
    (rest : List (ClsId × Option ClsId)) (a : Name) :
    lookupAttr A ((c', p) :: rest) c a = lookupAttr A rest c a := by
  have : (c' == c) = false := beq_eq_false_iff_ne.mpr h
  simp only [lookupAttr, this, Bool.false_eq_true, if_false]

theorem lookupAttr_attrs_mono {A A' : List (ClsId × Name)} (h : ∀ x ∈ A, x ∈ A')
    (tbl : List (ClsId × Option ClsId)) (c : ClsId) (a : Name) (h' : lookupAttr A tbl c a = true) :
    lookupAttr A' tbl c a = true := by
  induction tbl generalizing c with
  | nil => cases h'
  | cons e rest ih =>
    obtain ⟨c', p⟩ := e
    by_cases hc : c' = c
    · subst hc
      rw [lookupAttr_cons_self, Bool.or_eq_true] at h' ⊢
      rcases h' with h' | h'
      · exact Or.inl (by simpa using h _ (by simpa using h'))
      · cases p with
        | none => cases h'
        | some q => exact Or.inr (ih q h')
    · rw [lookupAttr_cons_ne _ hc] at h' ⊢
      exact ih c h'

theorem lookupAttr_prepend {A : List (ClsId × Name)} (new tbl : List (ClsId × Option ClsId)) (c : ClsId) (a : Name)
    (h : c ∉ new.map (·.1)) : lookupAttr A (new ++ tbl) c a = lookupAttr A tbl c a := by
  induction new with
  | nil => rfl
  | cons e rest ih =>
    rw [List.map_cons, List.mem_cons, not_or] at h
    rw [List.cons_append, lookupAttr_cons_ne _ (Ne.symm h.1)]
    exact ih h.2

theorem lookupAttr_not_key {A : List (ClsId × Name)} (tbl : List (ClsId × Option ClsId)) (c : ClsId) (a : Name)
    (h : c ∉ tbl.map (·.1)) : lookupAttr A tbl c a = false := by
  have := lookupAttr_prepend (A := A) tbl [] c a h
  rw [List.append_nil] at this
  exact this

theorem lookupAttr_direct {A : List (ClsId × Name)} (tbl : List (ClsId × Option ClsId)) (c : ClsId) (a : Name)
    (h : c ∈ tbl.map (·.1)) (hA : (c, a) ∈ A) : lookupAttr A tbl c a = true := by
  induction tbl with
  | nil => cases h
  | cons e rest ih =>
    obtain ⟨c', p⟩ := e
    by_cases hc : c' = c
    · subst hc
      rw [lookupAttr_cons_self, Bool.or_eq_true]
      exact Or.inl (by simpa using hA)
    · rw [lookupAttr_cons_ne _ hc]
      rw [List.map_cons, List.mem_cons] at h
      exact ih (h.resolve_left fun e => hc e.symm)

theorem TableWF.parent_mem {tbl : List (ClsId × Option ClsId)} (hwf : TableWF tbl) {c p : ClsId}
    (h : (c, some p) ∈ tbl) : p ∈ tbl.map (·.1) := by
  induction tbl with
  | nil => cases h
  | cons e rest ih =>
    rw [List.map_cons]
    rcases List.mem_cons.mp h with h | h
    · exact List.mem_cons_of_mem _ (hwf.2.1 p (h ▸ rfl))
    · exact List.mem_cons_of_mem _ (ih hwf.2.2 h)

theorem lookupAttr_inherit {A : List (ClsId × Name)} {tbl : List (ClsId × Option ClsId)} (hwf : TableWF tbl)
    {c p : ClsId} {a : Name} (h : (c, some p) ∈ tbl) (hp : lookupAttr A tbl p a = true) :
    lookupAttr A tbl c a = true := by
  induction tbl with
  | nil => cases h
  | cons e rest ih =>
    obtain ⟨c', p'⟩ := e
    -- the head's key does not occur below it, so lookups of anything below skip the head
    have below : ∀ {q : ClsId}, q ∈ rest.map (·.1) → c' ≠ q := fun hq e => hwf.1 (e ▸ hq)
    rcases List.mem_cons.mp h with h | h
    · injection h with h1 h2
      subst h1 h2
      rw [lookupAttr_cons_ne _ (below (hwf.2.1 p rfl))] at hp
      simp only [lookupAttr_cons_self, hp, Bool.or_true]
    · rw [lookupAttr_cons_ne _ (below (TableWF.parent_mem hwf.2.2 h))] at hp
      rw [lookupAttr_cons_ne _ (below (List.mem_map.mpr ⟨_, h, rfl⟩))]
      exact ih hwf.2.2 h hp

/-- a literal with arbitrary other components: what `{ st with globals := … }` elaborates to -/
theorem global?_cons (st : St) (k : Name × Name) (v : Val) (cls : List (ClsId × Option ClsId))
    (at' : List (ClsId × Name)) (sd : List Name) (m n : Name) :
    St.global? { started := sd, globals := (k, v) :: st.globals, classes := cls, attrs := at' } m n
      = if k = (m, n) then some v else st.global? m n := by
  unfold St.global?
  simp only [List.find?_cons]
  by_cases h : k = (m, n)
  · simp [h]
  · have : (k == (m, n)) = false := by simpa using h
    simp [this, h]

/-- `st'` extends `st`; classes are only prepended, under new keys, so lookups of old classes skip them (`Le.hasA`) -/
structure Le (st st' : St) : Prop where
  cls : ∃ new, st'.classes = new ++ st.classes ∧ ∀ e ∈ new, e.1 ∉ clsKeys st
  attrs : ∀ x ∈ st.attrs, x ∈ st'.attrs
  glob : ∀ m n v, st.global? m n = some v → st'.global? m n = some v
  started : ∀ m ∈ st.started, m ∈ st'.started

theorem Le.refl (st : St) : Le st st :=
  ⟨⟨[], rfl, by simp⟩, fun _ h => h, fun _ _ _ h => h, fun _ h => h⟩

theorem Le.trans {a b c : St} (h1 : Le a b) (h2 : Le b c) : Le a c := by
  obtain ⟨n1, e1, f1⟩ := h1.cls
  obtain ⟨n2, e2, f2⟩ := h2.cls
  refine ⟨⟨n2 ++ n1, by rw [e2, e1, List.append_assoc], ?_⟩, fun x h => h2.attrs x (h1.attrs x h),
    fun m n v h => h2.glob m n v (h1.glob m n v h), fun m h => h2.started m (h1.started m h)⟩
  intro e he
  rcases List.mem_append.mp he with he | he
  · intro hk
    apply f2 e he
    simp only [clsKeys, e1, List.map_append, List.mem_append]
    exact Or.inr hk
  · exact f1 e he

theorem Le.glob_isSome {st st' : St} (h : Le st st') {m n : Name} (hs : (st.global? m n).isSome = true) :
    (st'.global? m n).isSome = true := by
  cases hv : st.global? m n with
  | none => rw [hv] at hs; cases hs
  | some v => rw [h.glob _ _ _ hv]; rfl

theorem Le.mem_classes {st st' : St} (h : Le st st') {e : ClsId × Option ClsId} (he : e ∈ st.classes) :
    e ∈ st'.classes := by
  obtain ⟨new, e', _⟩ := h.cls
  rw [e']; exact List.mem_append_right _ he

def HasA (st : St) (c : ClsId) (a : Name) : Prop := lookupAttr st.attrs st.classes c a = true

theorem HasA.key {st : St} {c : ClsId} {a : Name} (h : HasA st c a) : c ∈ clsKeys st := by
  by_cases hc : c ∈ clsKeys st
  · exact hc
  · have := lookupAttr_not_key (A := st.attrs) st.classes c a hc
    unfold HasA at h; rw [this] at h; cases h

theorem Le.hasA {st st' : St} (h : Le st st') {c : ClsId} {a : Name} (ha : HasA st c a) : HasA st' c a := by
  obtain ⟨new, e, f⟩ := h.cls
  have hk := ha.key
  unfold HasA
  rw [e, lookupAttr_prepend]
  · exact lookupAttr_attrs_mono h.attrs _ _ _ ha
  · intro hc
    obtain ⟨e', he', rfl⟩ := List.mem_map.mp hc
    exact f e' he' hk

/-- `keyglob` turns "the name is unbound" into "the key is fresh" (`fresh_key`) when a class statement runs -/
structure StWF (st : St) : Prop where
  tbl : TableWF st.classes
  clsval : ∀ m n c, st.global? m n = some (.cls c) → c ∈ clsKeys st
  keyglob : ∀ c ∈ clsKeys st, (st.global? c.1 c.2).isSome = true
  globstarted : ∀ m n, (st.global? m n).isSome = true → m ∈ st.started

theorem stWF_empty : StWF {} :=
  ⟨trivial, fun _ _ _ h => by simp [St.global?] at h, fun _ h => by simp [clsKeys] at h,
   fun _ _ h => by simp [St.global?] at h⟩

theorem StWF.fresh_key {st : St} (hwf : StWF st) {c : ClsId} (h : st.global? c.1 c.2 = none) : c ∉ clsKeys st := by
  intro hc
  have := hwf.keyglob c hc
  rw [h] at this
  cases this

/-- `new`, `nattrs`: the table entries and attributes of a class created under `t` (empty for an assignment, an import) -/
theorem bind_fresh {st st' : St} {cur t : Name} {v : Val} (hwf : StWF st) (hcur : cur ∈ st.started)
    (hfresh : st.global? cur t = none) (new : List (ClsId × Option ClsId)) (nattrs : List (ClsId × Name))
    (htbl : TableWF (new ++ st.classes)) (hnew : ∀ e ∈ new, e.1 = (cur, t))
    (hv : ∀ c, v = .cls c → c ∈ (new ++ st.classes).map (·.1))
    (hst' : st' = { st with globals := ((cur, t), v) :: st.globals, classes := new ++ st.classes,
                            attrs := nattrs ++ st.attrs }) :
    Le st st' ∧ StWF st' ∧ st'.global? cur t = some v
      ∧ ∀ m n, (m, n) ≠ (cur, t) → st'.global? m n = st.global? m n := by
  subst hst'
  have hkey : (cur, t) ∉ clsKeys st := hwf.fresh_key hfresh
  refine ⟨⟨⟨new, rfl, fun e he => hnew e he ▸ hkey⟩, fun x h => List.mem_append_right _ h, fun m n v' h => ?_,
      fun _ h => h⟩, ⟨htbl, fun m n c h => ?_, fun c hc => ?_, fun m n h => ?_⟩, ?_, fun m n hne => ?_⟩
  · rw [global?_cons]
    split
    · rename_i heq; injection heq with h1 h2; subst h1 h2; rw [hfresh] at h; cases h
    · exact h
  · rw [global?_cons] at h
    split at h
    · injection h with h; exact hv c h
    · show c ∈ (new ++ st.classes).map (·.1)
      rw [List.map_append]
      exact List.mem_append_right _ (hwf.clsval m n c h)
  · rw [global?_cons]
    split
    · rfl
    · rename_i hne
      have hc' : c ∈ (new ++ st.classes).map (·.1) := hc
      rw [List.map_append, List.mem_append] at hc'
      rcases hc' with hc' | hc'
      · obtain ⟨e, he, rfl⟩ := List.mem_map.mp hc'
        exact absurd (hnew e he).symm hne
      · exact hwf.keyglob c hc'
  · rw [global?_cons] at h
    split at h
    · rename_i heq; injection heq with h1 h2; subst h1; exact hcur
    · exact hwf.globstarted m n h
  · rw [global?_cons, if_pos rfl]
  · rw [global?_cons, if_neg (Ne.symm hne)]

def Resolves (st : St) (cur : Name) (mod : Option Name) (name : Name) (v : Val) : Prop :=
  match mod with
  | none => st.global? cur name = some v
  | some m => ∃ m', st.global? cur m = some (.modu m') ∧ st.global? m' name = some v

def Ready (st : St) (cur : Name) (r : Ref) : Prop :=
  ∃ v, Resolves st cur r.mod r.name v ∧ ∀ a, r.attr = some a → ∃ c, v = .cls c ∧ HasA st c a

theorem Resolves.mono {st st' : St} (h : Le st st') {cur : Name} {mod : Option Name} {name : Name} {v : Val}
    (hr : Resolves st cur mod name v) : Resolves st' cur mod name v := by
  cases mod with
  | none => exact h.glob _ _ _ hr
  | some m => obtain ⟨m', h1, h2⟩ := hr; exact ⟨m', h.glob _ _ _ h1, h.glob _ _ _ h2⟩

theorem Resolves.unique {st : St} {cur : Name} {mod : Option Name} {name : Name} {v v' : Val}
    (h : Resolves st cur mod name v) (h' : Resolves st cur mod name v') : v = v' := by
  cases mod with
  | none => simp only [Resolves] at h h'; rw [h] at h'; injection h'
  | some m =>
    obtain ⟨m1, a1, b1⟩ := h
    obtain ⟨m2, a2, b2⟩ := h'
    rw [a1] at a2; injection a2 with a2; injection a2 with a2; subst a2
    rw [b1] at b2; injection b2

theorem resolves_cls_key {st : St} (hwf : StWF st) {cur : Name} {mod : Option Name} {name : Name} {c : ClsId}
    (h : Resolves st cur mod name (.cls c)) : c ∈ clsKeys st := by
  cases mod with
  | none => exact hwf.clsval _ _ _ h
  | some m => obtain ⟨m', _, h2⟩ := h; exact hwf.clsval _ _ _ h2

theorem Ready.mono {st st' : St} (h : Le st st') {cur : Name} {r : Ref} (hr : Ready st cur r) : Ready st' cur r := by
  obtain ⟨v, h1, h2⟩ := hr
  refine ⟨v, h1.mono h, fun a ha => ?_⟩
  obtain ⟨c, hc, hh⟩ := h2 a ha
  exact ⟨c, hc, h.hasA hh⟩

theorem ready_here {st : St} {cur n : Name} {v : Val} (h : st.global? cur n = some v) : Ready st cur (here n) :=
  ⟨v, h, fun a ha => by cases ha⟩

theorem ready_here_attr {st : St} {cur n a : Name} {c : ClsId} (h : st.global? cur n = some (.cls c))
    (ha : HasA st c a) : Ready st cur (here n (some a)) :=
  ⟨_, h, fun a' ha' => by injection ha' with ha'; subst ha'; exact ⟨c, rfl, ha⟩⟩

theorem evalRef_ready {st : St} {cur : Name} {r : Ref} (h : Ready st cur r) :
    ∃ v, Resolves st cur r.mod r.name v
      ∧ evalRef st cur r = .ok (match r.attr with | none => v | some _ => .obj) := by
  obtain ⟨v, h1, h2⟩ := h
  refine ⟨v, h1, ?_⟩
  obtain ⟨mod, name, attr⟩ := r
  cases mod with
  | none =>
    simp only [Resolves] at h1
    cases attr with
    | none => simp [evalRef, h1, bind, Except.bind, pure, Except.pure]
    | some a =>
      obtain ⟨c, rfl, hh⟩ := h2 a rfl
      unfold HasA at hh
      simp [evalRef, h1, hh, bind, Except.bind, pure, Except.pure]
  | some m =>
    obtain ⟨m', h1a, h1b⟩ := h1
    cases attr with
    | none => simp [evalRef, h1a, h1b, bind, Except.bind, pure, Except.pure]
    | some a =>
      obtain ⟨c, rfl, hh⟩ := h2 a rfl
      unfold HasA at hh
      simp [evalRef, h1a, h1b, hh, bind, Except.bind, pure, Except.pure]

theorem evalAll_ready {st : St} {cur : Name} {rs : List Ref} (h : ∀ r ∈ rs, Ready st cur r) :
    evalAll st cur rs = .ok () := by
  induction rs with
  | nil => rfl
  | cons r rs ih =>
    obtain ⟨v, _, hv⟩ := evalRef_ready (h r List.mem_cons_self)
    simp only [evalAll, hv, bind, Except.bind]
    exact ih fun r' hr' => h r' (List.mem_cons_of_mem _ hr')

def execBody (cur : Name) : St → List Stmt → Except Err St
  | st, [] => pure st
  | st, s :: rest => do
    let st ← execStmt st cur s
    execBody cur st rest

theorem execStmts_cons (imp : St → Name → Except Err St) (cur : Name) (st : St) {s : Stmt} (hs : s.isImp = false)
    (rest : List Stmt) :
    execStmts imp cur st (s :: rest) = (execStmt st cur s >>= fun st' => execStmts imp cur st' rest) := by
  cases s with
  | imp m => cases hs
  | _ => rfl

theorem execStmts_noimp (imp : St → Name → Except Err St) (cur : Name) (l : List Stmt) (st : St)
    (h : ∀ s ∈ l, s.isImp = false) : execStmts imp cur st l = execBody cur st l := by
  induction l generalizing st with
  | nil => rfl
  | cons s rest ih =>
    rw [execStmts_cons imp cur st (h s List.mem_cons_self)]
    simp only [execBody, fun st => ih st fun s' hs' => h s' (List.mem_cons_of_mem _ hs')]

theorem execStmts_append (imp : St → Name → Except Err St) (cur : Name) (a b : List Stmt) (st : St) :
    execStmts imp cur st (a ++ b) = (execStmts imp cur st a >>= fun st' => execStmts imp cur st' b) := by
  induction a generalizing st with
  | nil => rfl
  | cons s rest ih =>
    cases hs : s.isImp with
    | false =>
      rw [List.cons_append, execStmts_cons imp cur st hs, execStmts_cons imp cur st hs]
      cases execStmt st cur s with
      | error e => rfl
      | ok st1 => exact ih st1
    | true =>
      cases s with
      | imp m =>
        simp only [List.cons_append, execStmts, bind, Except.bind]
        cases imp st m with
        | error e => rfl
        | ok st1 => exact ih _
      | _ => cases hs

theorem execBody_append (cur : Name) (b a : List Stmt) (st st1 : St) (h : execBody cur st a = .ok st1) :
    execBody cur st (a ++ b) = execBody cur st1 b := by
  induction a generalizing st with
  | nil => injection h with h; subst h; rfl
  | cons s rest ih =>
    simp only [List.cons_append, execBody, bind, Except.bind] at h ⊢
    cases hs : execStmt st cur s with
    | error e => simp [hs] at h
    | ok st' => simp only [hs] at h ⊢; exact ih st' h

/-- `frame`: globals of other modules, and names of `cur` that `l` does not bind, are untouched -/
structure Steps (st : St) (cur : Name) (l : List Stmt) (st' : St) : Prop where
  ok : execBody cur st l = .ok st'
  le : Le st st'
  wf : StWF st'
  started : st'.started = st.started
  frame : ∀ m n, (m = cur → n ∉ l.flatMap Stmt.globals) → st'.global? m n = st.global? m n

theorem Steps.nil {st : St} {cur : Name} (h : StWF st) : Steps st cur [] st :=
  ⟨rfl, Le.refl st, h, rfl, fun _ _ _ => rfl⟩

theorem Steps.append {st st1 st2 : St} {cur : Name} {a b : List Stmt} (h1 : Steps st cur a st1)
    (h2 : Steps st1 cur b st2) : Steps st cur (a ++ b) st2 := by
  refine ⟨(execBody_append cur b a st st1 h1.ok).trans h2.ok, h1.le.trans h2.le, h2.wf,
    h2.started.trans h1.started, fun m n hmn => ?_⟩
  simp only [List.flatMap_append, List.mem_append, not_or] at hmn
  rw [h2.frame m n (fun e => (hmn e).2), h1.frame m n (fun e => (hmn e).1)]

theorem steps_single {st st' : St} {cur : Name} {s : Stmt} (hok : execStmt st cur s = .ok st') (hle : Le st st')
    (hwf : StWF st') (hst : st'.started = st.started)
    (hfr : ∀ m n, (m = cur → n ∉ s.globals) → st'.global? m n = st.global? m n) : Steps st cur [s] st' := by
  refine ⟨by simp [execBody, hok, bind, Except.bind, pure, Except.pure], hle, hwf, hst, ?_⟩
  intro m n h
  apply hfr m n
  intro e
  simpa using h e

theorem steps_assign_attr {st : St} {cur t a : Name} {cp : Option Ref} {uses : List Ref} (hwf : StWF st)
    (hu : ∀ r ∈ uses, Ready st cur r) (ht : (st.global? cur t).isSome = true) :
    ∃ st', Steps st cur [.assign t (some a) cp uses] st' ∧ st'.classes = st.classes
      ∧ (∀ c, st.global? cur t = some (.cls c) → (c, a) ∈ st'.attrs) := by
  have hev := evalAll_ready hu
  cases hg : st.global? cur t with
  | none => simp [hg] at ht
  | some v =>
    cases v with
    | cls c =>
      refine ⟨{ st with attrs := (c, a) :: st.attrs }, steps_single ?_ ?_ ?_ rfl ?_, rfl, ?_⟩
      · simp [execStmt, hev, hg, bind, Except.bind, pure, Except.pure]
      · exact ⟨⟨[], rfl, by simp⟩, fun x h => List.mem_cons_of_mem _ h, fun _ _ _ h => h, fun _ h => h⟩
      · exact ⟨hwf.tbl, hwf.clsval, hwf.keyglob, hwf.globstarted⟩
      · intro m n _; rfl
      · intro c' hc'; injection hc' with hc'; injection hc' with hc'; subst hc'; exact List.mem_cons_self
    | _ =>
      -- only a class object records the attribute
      refine ⟨st, steps_single ?_ (Le.refl st) hwf rfl (fun _ _ _ => rfl), rfl, fun c hc => nomatch hc⟩
      simp [execStmt, hev, hg, bind, Except.bind, pure, Except.pure]

theorem assign_on_class {st : St} {cur t a : Name} {c : ClsId} {uses : List Ref} (hwf : StWF st)
    (hc : st.global? cur t = some (.cls c)) (hu : ∀ r ∈ uses, Ready st cur r) :
    ∃ st', Steps st cur [.assign t (some a) none uses] st' ∧ HasA st' c a := by
  obtain ⟨st', hs, hcl, ha⟩ := steps_assign_attr (cur := cur) (t := t) (a := a) (cp := none) (uses := uses)
    hwf hu (by simp [hc])
  refine ⟨st', hs, lookupAttr_direct _ _ _ ?_ (ha c hc)⟩
  rw [hcl]; exact hwf.clsval _ _ _ hc

theorem steps_expr {st : St} {cur : Name} {uses : List Ref} (hwf : StWF st) (hu : ∀ r ∈ uses, Ready st cur r) :
    Steps st cur [.expr uses] st := by
  refine steps_single ?_ (Le.refl st) hwf rfl (fun _ _ _ => rfl)
  simp [execStmt, evalAll_ready hu, bind, Except.bind, pure, Except.pure]

theorem steps_assign_glob {st : St} {cur t : Name} {cp : Option Ref} {uses : List Ref} (hwf : StWF st)
    (hu : ∀ r ∈ uses, Ready st cur r) (hcp : ∀ r, cp = some r → Ready st cur r)
    (hfresh : st.global? cur t = none) (hcur : cur ∈ st.started) :
    ∃ st' v, Steps st cur [.assign t none cp uses] st' ∧ st'.global? cur t = some v
      ∧ (∀ r, cp = some r → r.attr = none → Resolves st cur r.mod r.name v)
      ∧ st'.classes = st.classes ∧ st'.attrs = st.attrs := by
  have hev := evalAll_ready hu
  obtain ⟨v, hv, hres, hkey⟩ : ∃ v,
      (match cp with | some r => evalRef st cur r | none => (pure Val.obj : Except Err Val)) = .ok v
      ∧ (∀ r, cp = some r → r.attr = none → Resolves st cur r.mod r.name v)
      ∧ (∀ c, v = .cls c → c ∈ clsKeys st) := by
    cases cp with
    | none => exact ⟨.obj, rfl, fun r h => (nomatch h), fun c h => (nomatch h)⟩
    | some r =>
      obtain ⟨v, hres, hv⟩ := evalRef_ready (hcp r rfl)
      refine ⟨_, hv, fun r' h hattr => ?_, fun c hc => ?_⟩
      · injection h with h; subst h
        simp only [hattr]; exact hres
      · cases hattr : r.attr with
        | none => simp only [hattr] at hc; subst hc; exact resolves_cls_key hwf hres
        | some a => simp only [hattr] at hc; cases hc
  obtain ⟨hle, hwf', hg, hfr⟩ := bind_fresh (st' := { st with globals := ((cur, t), v) :: st.globals }) hwf hcur
    hfresh [] [] hwf.tbl (fun _ h => by cases h) hkey rfl
  refine ⟨_, v, steps_single ?_ hle hwf' rfl (fun m n h => hfr m n ?_), hg, hres, rfl, rfl⟩
  · cases cp with
    | none => injection hv with hv; subst hv; simp [execStmt, hev, bind, Except.bind, pure, Except.pure]
    | some r => simp only at hv; simp [execStmt, hev, hv, bind, Except.bind, pure, Except.pure]
  · intro e
    injection e with e1 e2
    exact h e1 (by simp [e2])

theorem steps_cls {st : St} {cur n : Name} {base : Option Ref} {body : List Name} {ctor : Option (List Name)}
    (hwf : StWF st) (pid : Option ClsId)
    (hb : match base with
      | none => pid = none
      | some r => r.attr = none ∧ ∃ p, pid = some p ∧ Resolves st cur r.mod r.name (.cls p))
    (hfresh : st.global? cur n = none) (hcur : cur ∈ st.started) :
    ∃ st', Steps st cur [.cls n base body ctor] st' ∧ st'.global? cur n = some (.cls (cur, n))
      ∧ ((cur, n), pid) ∈ st'.classes ∧ (∀ b ∈ body, ((cur, n), b) ∈ st'.attrs) := by
  have hpid : ∀ q, pid = some q → q ∈ clsKeys st := by
    intro q hq
    cases base with
    | none => rw [show pid = none from hb] at hq; cases hq
    | some r =>
      obtain ⟨_, p, hp, hres⟩ := hb
      rw [hp] at hq; injection hq with hq; subst hq
      exact resolves_cls_key hwf hres
  obtain ⟨hle, hwf', hg, hfr⟩ := bind_fresh
    (st' := { st with globals := ((cur, n), .cls (cur, n)) :: st.globals,
                      classes := ((cur, n), pid) :: st.classes,
                      attrs := body.map (fun a => ((cur, n), a)) ++ st.attrs })
    hwf hcur hfresh [((cur, n), pid)] (body.map fun a => ((cur, n), a))
    ⟨hwf.fresh_key hfresh, hpid, hwf.tbl⟩ (fun e he => by rw [List.mem_singleton.mp he])
    (fun c hc => by injection hc with hc; subst hc; exact List.mem_cons_self) rfl
  refine ⟨_, steps_single ?_ hle hwf' rfl (fun m n' h => hfr m n' ?_), hg, List.mem_cons_self,
    fun b hb' => List.mem_append_left _ (List.mem_map.mpr ⟨b, hb', rfl⟩)⟩
  · cases base with
    | none =>
      rw [show pid = none from hb]
      simp [execStmt, bind, Except.bind, pure, Except.pure]
    | some r =>
      obtain ⟨hattr, p, hp, hres⟩ := hb
      obtain ⟨v, hres', hv⟩ := evalRef_ready (st := st) (cur := cur) (r := r)
        ⟨.cls p, hres, fun a ha => by rw [hattr] at ha; cases ha⟩
      simp only [hattr] at hv
      rw [hres'.unique hres] at hv
      subst hp
      simp [execStmt, hv, bind, Except.bind, pure, Except.pure]
  · intro e
    injection e with e1 e2
    exact h e1 (by simp [e2])

def Fresh (st : St) (cur : Name) (l : List Stmt) : Prop :=
  (l.flatMap Stmt.globals).Nodup ∧ ∀ n ∈ l.flatMap Stmt.globals, st.global? cur n = none

theorem Fresh.left {st : St} {cur : Name} {a b : List Stmt} (h : Fresh st cur (a ++ b)) : Fresh st cur a := by
  unfold Fresh at h ⊢
  rw [List.flatMap_append] at h
  exact ⟨(List.nodup_append.mp h.1).1, fun n hn => h.2 n (List.mem_append_left _ hn)⟩

theorem Steps.fresh_rest {st st' : St} {cur : Name} {a b : List Stmt} (hs : Steps st cur a st')
    (h : Fresh st cur (a ++ b)) : Fresh st' cur b := by
  unfold Fresh at h ⊢
  rw [List.flatMap_append] at h
  obtain ⟨_, hb, hdisj⟩ := List.nodup_append.mp h.1
  refine ⟨hb, fun n hn => ?_⟩
  rw [hs.frame cur n fun _ hmem => hdisj n hmem n hn rfl]
  exact h.2 n (List.mem_append_right _ hn)

/-- each item runs in an extension of `st`, may rely on `Q` of the earlier items and must establish its own -/
theorem steps_flatMap {α : Type} (f : α → List Stmt) (cur : Name) (Q : α → St → Prop)
    (hQ : ∀ {x st st'}, Le st st' → Q x st → Q x st') (xs : List α) (st : St) (hwf : StWF st)
    (step : ∀ pre x post, xs = pre ++ x :: post → ∀ st', StWF st' → Le st st' → (∀ y ∈ pre, Q y st') →
        Fresh st' cur (f x) → ∃ st'', Steps st' cur (f x) st'' ∧ Q x st'')
    (hf : Fresh st cur (xs.flatMap f)) :
    ∃ st', Steps st cur (xs.flatMap f) st' ∧ ∀ y ∈ xs, Q y st' := by
  suffices H : ∀ (suffix pre : List α), xs = pre ++ suffix → ∀ st1, StWF st1 → Le st st1 → (∀ y ∈ pre, Q y st1) →
      Fresh st1 cur (suffix.flatMap f) →
      ∃ st', Steps st1 cur (suffix.flatMap f) st' ∧ ∀ y ∈ pre ++ suffix, Q y st' by
    simpa using H xs [] rfl st hwf (Le.refl st) (fun y hy => nomatch hy) hf
  intro suffix
  induction suffix with
  | nil =>
    intro pre _ st1 hwf1 _ hq _
    exact ⟨st1, Steps.nil hwf1, by simpa using hq⟩
  | cons x rest ih =>
    intro pre hxs st1 hwf1 hle hq hfr
    rw [List.flatMap_cons] at hfr ⊢
    obtain ⟨st2, hs1, hq1⟩ := step pre x rest hxs st1 hwf1 hle hq hfr.left
    obtain ⟨st3, hs2, hq2⟩ := ih (pre ++ [x]) (by simp [hxs]) st2 hs1.wf (hle.trans hs1.le)
      (fun y hy => by
        rcases List.mem_append.mp hy with hy | hy
        · exact hQ hs1.le (hq y hy)
        · rw [List.mem_singleton.mp hy]; exact hq1)
      (hs1.fresh_rest hfr)
    exact ⟨st3, hs1.append hs2, fun y hy => hq2 y (by simpa using hy)⟩

theorem steps_flatMap_attrs {α : Type} (f : α → List Stmt) (cur : Name) (Q : α → St → Prop)
    (hQ : ∀ {x st st'}, Le st st' → Q x st → Q x st') (xs : List α) (st : St) (hwf : StWF st)
    (hng : ∀ x ∈ xs, (f x).all noGlobal = true)
    (step : ∀ pre x post, xs = pre ++ x :: post → ∀ st', StWF st' → Le st st' → (∀ y ∈ pre, Q y st') →
        ∃ st'', Steps st' cur (f x) st'' ∧ Q x st'') :
    ∃ st', Steps st cur (xs.flatMap f) st' ∧ ∀ y ∈ xs, Q y st' := by
  have h0 : (xs.flatMap f).flatMap Stmt.globals = [] :=
    flatMap_globals_of_noGlobal (by rw [List.all_flatMap, List.all_eq_true]; exact hng)
  exact steps_flatMap f cur Q hQ xs st hwf (fun pre x post h st' hwf' hle hq _ => step pre x post h st' hwf' hle hq)
    ⟨h0 ▸ List.nodup_nil, by rw [h0]; intro n hn; cases hn⟩

/-- what an assignment evaluates may be an attribute set by an earlier one -/
theorem seq_assigns {st : St} {cur t : Name} {c : ClsId} (hwf : StWF st) (hg : st.global? cur t = some (.cls c))
    (hkey : c ∈ clsKeys st) (l : List (Name × List Ref))
    (hready : ∀ pre x post, l = pre ++ x :: post → ∀ st', Le st st' → (∀ y ∈ pre, HasA st' c y.1) →
      ∀ r ∈ x.2, Ready st' cur r) :
    ∃ st', Steps st cur (l.map fun x => Stmt.assign t (some x.1) none x.2) st' ∧ ∀ y ∈ l, HasA st' c y.1 := by
  rw [List.map_eq_flatMap]
  exact steps_flatMap_attrs (fun x : Name × List Ref => [Stmt.assign t (some x.1) none x.2]) cur
    (fun y st' => HasA st' c y.1) (fun hle h => hle.hasA h) l st hwf (fun _ _ => rfl)
    (fun pre x post hsplit st' hwf' hle hpre =>
      assign_on_class hwf' (hle.glob _ _ _ hg) (hready pre x post hsplit st' hle hpre))

theorem seq_assigns_indep {st : St} {cur t : Name} {c : ClsId} (hwf : StWF st)
    (hc : st.global? cur t = some (.cls c))
    (l : List (Name × List Ref)) (hready : ∀ x ∈ l, ∀ r ∈ x.2, Ready st cur r) :
    ∃ st', Steps st cur (l.map fun x => Stmt.assign t (some x.1) none x.2) st' ∧ ∀ y ∈ l, HasA st' c y.1 :=
  seq_assigns hwf hc (hwf.clsval _ _ _ hc) l fun pre x post hsplit st' hle _ r hr =>
    (hready x (by rw [hsplit]; exact List.mem_append_right _ List.mem_cons_self) r hr).mono hle

end StoneVerif.DeclPy
