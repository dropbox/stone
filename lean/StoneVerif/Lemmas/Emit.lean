import StoneVerif.Model.Emit
import StoneVerif.Lemmas.Fmt
/-! The emit machine produces exactly the pieces of the reference pretty-printer. Every emit function is described by
one `Spec` (what it appends to the state, or that it fails), and `Spec.bind` is the only sequencing rule; `run_spec` /
`runList_spec` then go operation by operation. -/
namespace StoneVerif.Emit
open StoneVerif.Fmt

/-- how a reference piece is stored in the real output buffer -/
def enc (tabs : Bool) (p : Piece) : Str := encodeSeg (pieceSeg tabs p)

/-- `st` after the pieces `ps` went to the buffer, `P` behind the positional and `N` in front of the named placeholders;
the indentation is that of `st` -/
def res (tabs : Bool) (st : St) (ps : List Piece) (P : List Str) (N : List (Str × Str)) : St :=
  { out := st.out ++ ps.map (enc tabs), ind := st.ind, pos := st.pos ++ P, named := N ++ st.named }

/-- the run `r` from `st`: when `ok` it ends in `res tabs st ps P N`, otherwise in an error -/
def Spec (tabs : Bool) (r : Except Err St) (st : St) (ps : List Piece) (P : List Str) (N : List (Str × Str))
    (ok : Bool) : Prop :=
  (ok = true → r = .ok (res tabs st ps P N)) ∧ (ok = false → ∃ e, r = .error e)

theorem res_nil (tabs : Bool) (st : St) : res tabs st [] [] [] = st := by
  cases st; simp [res]

theorem res_res (tabs : Bool) (st : St) (ps qs P P' N N') :
    res tabs (res tabs st ps P N) qs P' N' = res tabs st (ps ++ qs) (P ++ P') (N' ++ N) := by
  simp [res, List.append_assoc]

theorem Spec.congr {tabs r st ps P N ok} (h : Spec tabs r st ps P N ok) {ps' P' N' ok'}
    (e1 : ps = ps') (e2 : P = P') (e3 : N = N') (e4 : ok = ok') : Spec tabs r st ps' P' N' ok' := by
  subst e1 e2 e3 e4; exact h

theorem Spec.congr_ok {tabs r st ps P N ok} (h : Spec tabs r st ps P N ok) {ok'} (e : ok = ok') :
    Spec tabs r st ps P N ok' := e ▸ h

theorem Spec.of_ok {tabs r st ps P N} (h : r = .ok (res tabs st ps P N)) : Spec tabs r st ps P N true :=
  ⟨fun _ => h, fun h => nomatch h⟩

theorem Spec.pure (tabs : Bool) (st : St) : Spec tabs (.ok st) st [] [] [] true :=
  Spec.of_ok (by rw [res_nil])

theorem Spec.bind {tabs r st ps P N ok₁} (h : Spec tabs r st ps P N ok₁) {f : St → Except Err St} {qs P' N' ok₂}
    (hf : Spec tabs (f (res tabs st ps P N)) (res tabs st ps P N) qs P' N' ok₂) :
    Spec tabs (r >>= f) st (ps ++ qs) (P ++ P') (N' ++ N) (ok₁ && ok₂) := by
  constructor
  · intro hok
    simp at hok
    rw [h.1 hok.1]
    show f _ = _
    rw [hf.1 hok.2, res_res]
  · intro hok
    cases h1 : ok₁ with
    | false =>
      obtain ⟨e, he⟩ := h.2 h1
      exact ⟨e, by rw [he]; rfl⟩
    | true =>
      rw [h.1 h1]
      have h2 : ok₂ = false := by simpa [h1] using hok
      obtain ⟨e, he⟩ := hf.2 h2
      exact ⟨e, he⟩

theorem Spec.error {tabs e st ps P N ok} (h : ok = false) : Spec tabs (.error e) st ps P N ok :=
  ⟨fun h' => absurd (h'.symm.trans h) (by decide), fun _ => ⟨e, rfl⟩⟩

/-- `Spec` for a function that registers no placeholder and fails exactly when a piece is refused -/
abbrev Emits (tabs : Bool) (r : Except Err St) (st : St) (ps : List Piece) : Prop :=
  Spec tabs r st ps [] [] (ps.all pieceOk)

theorem Emits.bind {tabs r st ps} (h : Emits tabs r st ps) {f : St → Except Err St} {qs}
    (hf : Emits tabs (f (res tabs st ps [] [])) (res tabs st ps [] []) qs) : Emits tabs (r >>= f) st (ps ++ qs) :=
  (Spec.bind h hf).congr_ok List.all_append.symm

theorem Emits.of_eq {tabs r st ps ps'} (h : Emits tabs r st ps) (e : ps = ps') : Emits tabs r st ps' := e ▸ h

theorem emitRaw_spec (tabs : Bool) (st : St) (s : Str) : Emits tabs (emitRaw st s) st [.raw s] := by
  unfold emitRaw
  by_cases h : s ≠ [] ∧ s.getLast? ≠ some '\n'
  · rw [if_pos h]
    exact Spec.error (by simp [pieceOk, h.1, h.2])
  · rw [if_neg h]
    have : pieceOk (.raw s) = true := by
      simp [pieceOk]
      by_cases hs : s = []
      · exact Or.inl hs
      · right; simp [hs] at h; exact h
    exact (Spec.of_ok (by simp [res, enc, pieceSeg, encodeSeg])).congr_ok (by simp [this])

theorem getLast?_append_singleton (l : Str) (c : Char) : (l ++ [c]).getLast? = some c := by simp

theorem emit_spec (tabs : Bool) (st : St) (s : Str) : Emits tabs (emit tabs st s) st [.line st.ind s] := by
  unfold emit
  by_cases h : '\n' ∈ s
  · simp only [h, if_true]
    exact Spec.error (by simp [pieceOk, h])
  · simp only [h, if_false]
    refine (Spec.of_ok ?_).congr_ok (by simp [pieceOk, h])
    by_cases hs : s = []
    · subst hs
      simp only [ne_eq, not_true_eq_false, if_false]
      rw [(emitRaw_spec tabs st ['\n']).1 (by simp [pieceOk])]
      simp [res, enc, pieceSeg, encodeSeg]
    · simp only [ne_eq, hs, not_false_eq_true, if_true]
      rw [(emitRaw_spec tabs st (makeIndent tabs st.ind ++ s ++ ['\n'])).1 (by simp [pieceOk])]
      simp [res, enc, pieceSeg, encodeSeg, hs]

theorem emitListCompact_spec (tabs : Bool) (sep tail : Str) (items : List Str) (hne : items ≠ []) (st : St) :
    Emits tabs (emitListCompact tabs sep tail st items) st
      (items.dropLast.map (fun i => Piece.line st.ind (i ++ sep)) ++
        [Piece.line st.ind (items.getLast?.getD [] ++ tail)]) := by
  induction items generalizing st with
  | nil => exact absurd rfl hne
  | cons a rest ih =>
    cases rest with
    | nil =>
      simp only [emitListCompact, List.dropLast_singleton, List.map_nil, List.nil_append]
      exact emit_spec tabs st (a ++ tail)
    | cons b r =>
      simp only [emitListCompact]
      exact (emit_spec tabs st (a ++ sep)).bind (f := fun st => emitListCompact tabs sep tail st (b :: r))
        (ih (by simp) (res tabs st [.line st.ind (a ++ sep)] [] []))

theorem emitListLoose_eq (tabs : Bool) (sep : Str) (skip : Bool) (items : List Str) (st : St) :
    emitListLoose tabs sep skip st items = emitListCompact tabs sep (if skip then [] else sep) st items := by
  induction items generalizing st with
  | nil => rfl
  | cons a rest ih =>
    cases rest with
    | nil => cases skip <;> simp [emitListLoose, emitListCompact]
    | cons b r =>
      simp only [emitListLoose, emitListCompact]
      exact bind_congr fun st' => ih st'

theorem emitListLoose_spec (tabs : Bool) (sep : Str) (skip : Bool) (items : List Str) (hne : items ≠ []) (st : St) :
    Emits tabs (emitListLoose tabs sep skip st items) st
      (items.dropLast.map (fun i => Piece.line st.ind (i ++ sep)) ++
        [Piece.line st.ind (items.getLast?.getD [] ++ (if skip then [] else sep))]) := by
  rw [emitListLoose_eq]
  exact emitListCompact_spec tabs sep _ items hne st

def dentOk : Option Int → Bool
  | some d => 0 ≤ d
  | none => true

theorem withIndent_spec (tabs : Bool) (st : St) (dent : Option Int) (body : St → Except Err St) {ps P N ok}
    (h : Spec tabs (body { st with ind := st.ind + dentOf tabs dent }) { st with ind := st.ind + dentOf tabs dent } ps P N ok) :
    Spec tabs (withIndent tabs st dent body) st ps P N (dentOk dent && ok) := by
  have key : ∀ n, Spec tabs (body { st with ind := st.ind + n }) { st with ind := st.ind + n } ps P N ok →
      Spec tabs ((fun (a : St) => { a with ind := a.ind - n }) <$> body { st with ind := st.ind + n }) st ps P N ok := by
    intro n hb
    constructor
    · intro hok
      rw [hb.1 hok]
      show Except.ok _ = _
      simp [res]
    · intro hok
      obtain ⟨e, he⟩ := hb.2 hok
      exact ⟨e, by rw [he]; rfl⟩
  unfold withIndent
  cases dent with
  | none => simpa [dentOk, dentOf] using key _ h
  | some d =>
    by_cases hd : d < 0
    · simp only [hd, if_true]
      exact Spec.error (by simp [dentOk]; omega)
    · simp only [hd, if_false]
      have : dentOk (some d) = true := by simp [dentOk]; omega
      rw [this]
      simpa [dentOf] using key _ h

theorem Emits.indent {tabs st dent} {body : St → Except Err St} {ps} (hd : dentOk dent = true)
    (h : Emits tabs (body { st with ind := st.ind + dentOf tabs dent }) { st with ind := st.ind + dentOf tabs dent } ps) :
    Emits tabs (withIndent tabs st dent body) st ps :=
  (withIndent_spec tabs st dent body h).congr_ok (by rw [hd]; rfl)

theorem ne_nil_or_iff {α} (a b : List α) : (a ≠ [] ∨ b ≠ []) ↔ a ++ b ≠ [] := by
  cases a <;> simp

/-- `c` is the test the source makes, each time equivalent to the line not being empty -/
theorem optLine_spec (tabs : Bool) (st : St) (c : Prop) [Decidable c] (s : Str) (hc : c ↔ s ≠ []) :
    Emits tabs (if c then emit tabs st s else Pure.pure st) st (if s ≠ [] then [Piece.line st.ind s] else []) := by
  by_cases h : s ≠ []
  · rw [if_pos (hc.2 h), if_pos h]
    exact emit_spec tabs st s
  · rw [if_neg (mt hc.1 h), if_neg h]
    exact Spec.pure tabs st

theorem toNat_cast_add (a b : Nat) : ((a : Int) + (b : Int)).toNat = a + b := by omega

/-- the last statement of `generate_multiline_list` -/
def footer (tabs : Bool) (d1 after : Str) (st : St) : Except Err St :=
  if d1 ≠ [] ∨ after ≠ [] then emit tabs st (d1 ++ after)
  else if d1 ≠ [] then emit tabs st d1 else Pure.pure st

/-- the inner test of `footer` is dead code -/
theorem footer_spec (tabs : Bool) (st : St) (d1 after : Str) :
    Emits tabs (footer tabs d1 after st) st (if d1 ++ after ≠ [] then [Piece.line st.ind (d1 ++ after)] else []) := by
  have h := optLine_spec tabs st (d1 ≠ [] ∨ after ≠ []) (d1 ++ after) (ne_nil_or_iff d1 after)
  unfold footer
  by_cases hc : d1 ≠ [] ∨ after ≠ []
  · rw [if_pos hc] at h ⊢; exact h
  · rw [if_neg hc] at h ⊢
    rw [if_neg fun hd => hc (Or.inl hd)]; exact h

theorem withIndent_zero (tabs : Bool) (st : St) (body : St → Except Err St) :
    withIndent tabs st (some 0) body = body st := by
  show (body st >>= fun st' => Pure.pure { st' with ind := st'.ind - 0 }) = body st
  cases body st <;> rfl

/-- the compact branch indents the continuation lines by the length of what stands before the first item: the
test only spares an `indent(0)` -/
theorem mlist_compact_eq (tabs : Bool) (st : St) (x y : Str) (r : List Str) (before after d0 d1 sep : Str) (skip : Bool) :
    mlist tabs st (x :: y :: r) before after d0 d1 true sep skip =
      (emit tabs st (before ++ d0 ++ x ++ sep) >>= fun st =>
        withIndent tabs st (some ((before.length + d0.length : Nat) : Int))
          (fun st => emitListCompact tabs sep (d1 ++ after) st (y :: r))) := by
  simp only [mlist, if_true]
  refine bind_congr fun st1 => ?_
  split
  · rfl
  · next hc =>
    obtain ⟨rfl, rfl⟩ := List.append_eq_nil_iff.1 (Decidable.not_not.1 (mt (ne_nil_or_iff before d0).2 hc))
    exact (withIndent_zero tabs st1 fun st => emitListCompact tabs sep (d1 ++ after) st (y :: r)).symm

theorem mlist_loose_eq (tabs : Bool) (st : St) (x y : Str) (r : List Str) (before after d0 d1 sep : Str) (skip : Bool) :
    mlist tabs st (x :: y :: r) before after d0 d1 false sep skip =
      ((if before ≠ [] ∨ d0 ≠ [] then emit tabs st (before ++ d0) else Pure.pure st) >>= fun st =>
        withIndent tabs st none (fun st => emitListLoose tabs sep skip st (x :: y :: r)) >>= footer tabs d1 after) := by
  simp only [mlist, Bool.false_eq_true, if_false]
  split <;> rfl

theorem mlist_spec (tabs : Bool) (st : St) (items : List Str) (before after d0 d1 : Str) (compact : Bool)
    (sep : Str) (skip : Bool) :
    Emits tabs (mlist tabs st items before after d0 d1 compact sep skip) st
      (mlistPieces tabs st.ind items before after d0 d1 compact sep skip) := by
  match items with
  | [] => exact emit_spec tabs st _
  | [x] => exact emit_spec tabs st _
  | x :: y :: r =>
    cases compact with
    | true =>
      rw [mlist_compact_eq]
      refine ((emit_spec tabs st (before ++ d0 ++ x ++ sep)).bind
        (f := fun st => withIndent tabs st (some ((before.length + d0.length : Nat) : Int))
          (fun st => emitListCompact tabs sep (d1 ++ after) st (y :: r)))
        (Emits.indent ?_ (emitListCompact_spec tabs sep (d1 ++ after) (y :: r) (by simp) _))).of_eq ?_
      · simp only [dentOk, decide_eq_true_eq]; omega
      · simp [mlistPieces, res, dentOf, Nat.add_assoc, List.append_assoc, toNat_cast_add]
    | false =>
      rw [mlist_loose_eq]
      refine ((optLine_spec tabs st (before ≠ [] ∨ d0 ≠ []) (before ++ d0) (ne_nil_or_iff before d0)).bind
        (f := fun st => withIndent tabs st none (fun st => emitListLoose tabs sep skip st (x :: y :: r)) >>=
          footer tabs d1 after)
        ((Emits.indent rfl (emitListLoose_spec tabs sep skip (x :: y :: r) (by simp) _)).bind
          (f := footer tabs d1 after) (footer_spec tabs _ d1 after))).of_eq ?_
      simp [mlistPieces, dentOf, res]

def headerPieces (ind : Nat) (before : Str) (d0 : Option Str) (allman : Bool) : List Piece :=
  if before ≠ [] ∧ allman = false then
    [Piece.line ind (match d0 with | some d => before ++ ' ' :: d | none => before)]
  else
    (if before ≠ [] then [Piece.line ind before] else []) ++
      (match d0 with | some d => [Piece.line ind d] | none => [])

theorem blockHeader_spec (tabs : Bool) (st : St) (before : Str) (d0 : Option Str) (allman : Bool) :
    Emits tabs (blockHeader tabs st before d0 allman) st (headerPieces st.ind before d0 allman) := by
  unfold blockHeader headerPieces
  by_cases hc : before ≠ [] ∧ allman = false
  · rw [if_pos hc, if_pos hc]
    cases d0 with
    | none => exact emit_spec tabs st _
    | some d => exact emit_spec tabs st _
  · rw [if_neg hc, if_neg hc]
    have hh := optLine_spec tabs st (before ≠ []) before Iff.rfl
    cases d0 with
    | none =>
      exact (hh.bind (f := fun st => Pure.pure st) (Spec.pure tabs _)).of_eq (by simp)
    | some d =>
      exact (hh.bind (f := fun st => emit tabs st d) (emit_spec tabs _ d)).of_eq (by simp [res])

theorem blockFooter_spec (tabs : Bool) (st : St) (after : Str) (d1 : Option Str) :
    Emits tabs (blockFooter tabs st after d1) st
      [Piece.line st.ind (match d1 with | some d => d ++ after | none => after)] := by
  unfold blockFooter
  cases d1 with
  | none => exact emit_spec tabs st _
  | some d => exact emit_spec tabs st _

theorem run_indent_eq (tabs : Bool) (st : St) (dent : Option Int) (body : List Op) :
    run tabs st (.indent dent body) = withIndent tabs st dent (fun st => runList tabs st body) := by
  simp [run]

theorem run_block_eq (tabs : Bool) (st : St) (before after : Str) (d0 d1 : Option Str) (dent : Option Int)
    (allman : Bool) (body : List Op) :
    run tabs st (.block before after d0 d1 dent allman body) =
      (blockHeader tabs st before d0 allman >>= fun st =>
        withIndent tabs st dent (fun st => runList tabs st body) >>= fun st => blockFooter tabs st after d1) := by
  simp [run]

theorem fill_ok (width : Int) (a b s : Str) (h : 0 < width) : ∃ t, Wrap.fill width a b s = .ok t := by
  have : ¬ width ≤ 0 := by omega
  simp [Wrap.fill, Wrap.wrap, this, Except.map]

theorem fill_err (width : Int) (a b s : Str) (h : ¬ 0 < width) : Wrap.fill width a b s = .error () := by
  have : width ≤ 0 := by omega
  simp [Wrap.fill, Wrap.wrap, this, Except.map]

def opOk (tabs : Bool) (ind : Nat) (op : Op) : Bool := ctxOk op && (pieces tabs ind op).all pieceOk
def opsOk (tabs : Bool) (ind : Nat) (ops : List Op) : Bool := ctxOkList ops && (piecesList tabs ind ops).all pieceOk

theorem opsOk_init (tabs : Bool) (script : List Op) : opsOk tabs St.init.ind script = wellFormed tabs script := rfl

theorem bool_shuffle (a b c d : Bool) : ((a && c) && (b && d)) = ((a && b) && (c && d)) := by
  cases a <;> cases b <;> cases c <;> cases d <;> rfl

mutual
theorem run_spec (tabs : Bool) : ∀ (op : Op) (st : St),
    Spec tabs (run tabs st op) st (pieces tabs st.ind op) (posOf op) (namedOf op) (opOk tabs st.ind op)
  | .emit s, st => by
    simp only [run, pieces, posOf, namedOf, opOk, ctxOk]
    exact (emit_spec tabs st s).congr_ok (by simp)
  | .emitRaw s, st => by
    simp only [run, pieces, posOf, namedOf, opOk, ctxOk]
    exact (emitRaw_spec tabs st s).congr_ok (by simp)
  | .placeholder name, st => by
    simp only [run, pieces, posOf, namedOf, opOk, ctxOk]
    by_cases hv : validName name = true
    · rw [if_pos hv]
      exact (Spec.of_ok (by simp [res, enc, pieceSeg, encodeSeg])).congr_ok (by simp [pieceOk, hv])
    · rw [if_neg hv]
      exact Spec.error (by simp [pieceOk, hv])
  | .addPos s, st => by
    simp only [run, pieces, posOf, namedOf, opOk, ctxOk]
    exact Spec.of_ok (by simp [res])
  | .addNamed k v, st => by
    simp only [run, pieces, posOf, namedOf, opOk, ctxOk]
    exact Spec.of_ok (by simp [res])
  | .wrapped s pre ini sub width, st => by
    simp only [run, pieces, posOf, namedOf, opOk, ctxOk, emitWrapped]
    by_cases hw : 0 < width
    · obtain ⟨t, ht⟩ := fill_ok width (makeIndent tabs st.ind ++ pre ++ ini) (makeIndent tabs st.ind ++ pre ++ sub) s hw
      simp only [ht]
      exact (emitRaw_spec tabs st (t ++ ['\n'])).congr_ok (by simp [hw])
    · have ht := fill_err width (makeIndent tabs st.ind ++ pre ++ ini) (makeIndent tabs st.ind ++ pre ++ sub) s hw
      simp only [ht]
      exact Spec.error (by simp [hw])
  | .indent dent body, st => by
    rw [run_indent_eq]
    have hb := runList_spec tabs body { st with ind := st.ind + dentOf tabs dent }
    have := withIndent_spec tabs st dent (fun st => runList tabs st body) hb
    refine this.congr ?_ ?_ ?_ ?_
    · simp [pieces]
    · simp [posOf]
    · simp [namedOf]
    · simp only [opOk, opsOk, ctxOk, pieces, dentOk, Bool.and_assoc]
      cases dent <;> simp
  | .block before after d0 d1 dent allman body, st => by
    rw [run_block_eq]
    have hh := blockHeader_spec tabs st before d0 allman
    have hb := fun st1 : St => withIndent_spec tabs st1 dent (fun st => runList tabs st body)
      (runList_spec tabs body { st1 with ind := st1.ind + dentOf tabs dent })
    have hbf := fun st1 : St => (hb st1).bind (f := fun st => blockFooter tabs st after d1) (blockFooter_spec tabs _ after d1)
    have := Spec.bind hh (f := fun st => withIndent tabs st dent (fun st => runList tabs st body) >>=
      fun st => blockFooter tabs st after d1) (hbf _)
    refine this.congr ?_ ?_ ?_ ?_
    · simp only [pieces, headerPieces, res, List.append_assoc]; rfl
    · simp [posOf]
    · simp [namedOf]
    · simp only [opOk, opsOk, ctxOk, pieces, headerPieces, dentOk, res, List.all_append]
      cases dent <;> simp only [Bool.true_and, List.all_cons, List.all_nil, Bool.and_true] <;> ac_rfl
  | .mlist items before after d0 d1 compact sep skip, st => by
    simp only [run, pieces, posOf, namedOf, opOk, ctxOk]
    exact (mlist_spec tabs st items before after d0 d1 compact sep skip).congr_ok (by simp)

theorem runList_spec (tabs : Bool) : ∀ (ops : List Op) (st : St),
    Spec tabs (runList tabs st ops) st (piecesList tabs st.ind ops) (posOfList ops) (namedOfList ops)
      (opsOk tabs st.ind ops)
  | [], st => by
    simp only [runList, piecesList, posOfList, namedOfList, opsOk, ctxOkList]
    exact (Spec.pure tabs st).congr_ok (by simp)
  | op :: ops, st => by
    simp only [runList, piecesList, posOfList, namedOfList, opsOk, ctxOkList]
    have h1 := run_spec tabs op st
    have h2 := runList_spec tabs ops (res tabs st (pieces tabs st.ind op) (posOf op) (namedOf op))
    have := h1.bind (f := fun st => runList tabs st ops) h2
    refine this.congr_ok ?_
    simp only [opOk, opsOk, res, List.all_append]
    exact bool_shuffle _ _ _ _
end

/-- escaping and `str.format` cancel, and an accepted field has a name `str.format` reads back -/
theorem bufferToString_res (tabs : Bool) (ps : List Piece) (P : List Str) (N : List (Str × Str))
    (h : ps.all pieceOk = true) :
    (bufferToString (res tabs St.init ps P N)).toOption = expand N P (ps.map (pieceSeg tabs)) := by
  have hvalid : ∀ n, Seg.field n ∈ ps.map (pieceSeg tabs) → validName n = true := by
    intro n hn
    obtain ⟨p, hp, hpe⟩ := List.mem_map.1 hn
    have := List.all_eq_true.1 h p hp
    cases p <;> simp only [pieceSeg, reduceCtorEq, Seg.field.injEq] at hpe
    subst hpe
    exact this
  have henc : enc tabs = fun x => encodeSeg (pieceSeg tabs x) := rfl
  have hout : (res tabs St.init ps P N).out.flatten = renderSegs (ps.map (pieceSeg tabs)) := by
    simp [res, St.init, renderSegs, henc, List.map_map, Function.comp_def]
  unfold bufferToString
  rw [hout, show (res tabs St.init ps P N).named = N by simp [res, St.init],
    show (res tabs St.init ps P N).pos = P by simp [res, St.init], pyFormat_renderSegs N P _ hvalid]
  cases expand N P (ps.map (pieceSeg tabs)) <;> rfl

end StoneVerif.Emit
