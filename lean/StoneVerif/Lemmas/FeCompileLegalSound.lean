import StoneVerif.Lemmas.FeCompileLegalAccept
import StoneVerif.Lemmas.FeCompileAcyclic
/-!
What the compileCore model accepts obeys the rules (`compile_legal`), and with Lemmas/FeCompileLegalAccept.lean:
accepted = legal (`compile_ok_iff_legal`).  The checks that passes 3 - 6 made, at whatever moment and in whatever
order, add up to the order-free clauses of `LegalCore`: the static tests of pass 3 (the invariant `K`), the `?` of
every reference re-checked against the final alias targets, the alias graph, and passes 4 - 6 through the
equivalences of FeCompileLegalAccept.
-/
namespace StoneVerif.FeCompile.L

/-- what pass 3 has established of the entries it made: each is the image of its declaration (`Inv`), has its parent in
the table, passed the tests that do not look into aliases, and every `?` in it is in `nrefs` for the re-check -/
structure K (rx : String → Bool) (E : Env) (fs : List File) (st : St) : Prop where
  inv : Inv rx E fs st
  closed : ParentsIn st.done
  aliasStat : ∀ k t, (k, t) ∈ st.aliases → ∃ r, E.items.lookup k = some (.alias r) ∧ refStatic rx fs k.1 r = true ∧
    ∀ u, u ∈ nullRefs t → u ∈ st.nrefs
  typeStat : ∀ k c, (k, c) ∈ st.done → ∃ d, E.items.lookup k = some (.type d) ∧ TypeStat rx fs k.1 d c ∧
    ∀ f, f ∈ c.fields → ∀ u, u ∈ nullRefs f.ty → u ∈ st.nrefs

theorem K.init {rx E fs} : K rx E fs {} := ⟨Inv.init, by simp [ParentsIn], by simp, by simp⟩

theorem K.grow {rx E fs st} (hK : K rx E fs st) (l : List Ty) : K rx E fs { st with nrefs := st.nrefs ++ l } :=
  ⟨hK.inv.nrefs _, hK.closed,
   fun k t hm => by
     obtain ⟨r, h1, h2, h3⟩ := hK.aliasStat k t hm
     exact ⟨r, h1, h2, fun u hu => List.mem_append_left _ (h3 u hu)⟩,
   fun k c hm => by
     obtain ⟨d, h1, h2, h3⟩ := hK.typeStat k c hm
     exact ⟨d, h1, h2, fun f hf u hu => List.mem_append_left _ (h3 f hf u hu)⟩⟩

theorem populateStep_sound {rx E fs st1 key d pty st'} (hE : EnvOK2 E fs) (hK : K rx E fs st1)
    (hk : E.items.lookup key = some (.type d)) (hp : ParentSlot rx E st1 key d pty)
    (h : populateStep rx E st1 key d pty = .ok st') : K rx E fs st' := by
  have hinv := populateStep_inv hE hK.inv hk (hp.src hE) h
  have hcl := populateStep_closed hK.closed hp h
  obtain ⟨fields, c, ho, hden, hstat, _, rfl⟩ := (populateStep_ok_iff_legal hE hK.inv hK.closed hp).mp h
  refine ⟨hinv, hcl, (hK.grow _).aliasStat, fun k c' hm => ?_⟩
  rcases List.mem_cons.mp hm with hm | hm
  · cases hm
    refine ⟨d, hk, hstat, fun f hf u hu => List.mem_append_right _ ?_⟩
    -- the implicit `other` records no `?`
    rw [denoteType_fields_eq hden ho] at hf
    rcases List.mem_append.mp hf with hf | hf
    · exact List.mem_flatMap.mpr ⟨f, hf, hu⟩
    · split at hf
      · rw [List.mem_singleton.mp hf] at hu
        simp [otherField, tyVoid, nullRefs] at hu
      · cases hf
  · exact (hK.grow _).typeStat k c' hm

theorem setAlias_sound {rx E fs st ns name r st'} (hE : EnvOK2 E fs) (hK : K rx E fs st)
    (hk : E.items.lookup (ns, name) = some (.alias r)) (h : setAlias rx E st ns name r = .ok st') : K rx E fs st' := by
  have hinv := setAlias_inv hE hK.inv hk h
  obtain ⟨t, ht, _, rfl⟩ := setAlias_eq_ok h
  refine ⟨hinv, hK.closed, fun k t' hm => ?_, (hK.grow _).typeStat⟩
  rcases List.mem_cons.mp hm with hm | hm
  · cases hm
    exact ⟨r, hk, ((resolve_ok_iff hE).mp ht).1, fun u hu => List.mem_append_right _ hu⟩
  · exact (hK.grow _).aliasStat k t' hm

theorem pass3Nss_sound {rx E fs} (hE : EnvOK2 E fs) {nss : List String} {st st'} (hK : K rx E fs st)
    (h : pass3Nss rx E st nss = .ok st') : K rx E fs st' := by
  refine pass3Nss_induct (P := K rx E fs) ?_ ?_ hK h
  · intro st ns n r st' hK hm h
    rw [hE.ok.files] at hm
    exact setAlias_sound hE hK (hE.ok.lookup_alias hm) h
  · intro st ns d st' hK hm _ h
    rw [hE.ok.files] at hm
    exact populate_induct (fun hK _ _ => hK.grow _) (fun hK hk hp h => populateStep_sound hE hK hk hp h) _ hK
      (hE.ok.lookup_type hm) h

theorem pass3_sound {rx E fs st} (hE : EnvOK2 E fs) (h : pass3 rx E = .ok st) :
    K rx E fs st ∧ ∀ u, u ∈ st.nrefs → nullOK (lookOf st.aliases) (aliasFuel E) u = true :=
  ⟨pass3Nss_sound hE K.init (pass3_eq_ok h).1, recheckNullable_ok_iff.mp (pass3_eq_ok h).2⟩

/-! The keys of the alias declarations: the `dom` of `Gr.search_no_of_acyclic` for the alias graph, one shorter than
the fuel `fuelA`. -/

def aliasKeyOf : String × Decl → Option Key
  | (ns, .alias n _) => some (ns, n)
  | _ => none

def aliasKeys (fs : List File) : List Key := (allPairs fs).filterMap aliasKeyOf

theorem aliasKeyOf_decls_length (ns : String) : ∀ ds : List Decl,
    ((ds.map fun d => (ns, d)).filterMap aliasKeyOf).length = (aliasDecls ds).length
  | [] => rfl
  | d :: ds => by
    have ih := aliasKeyOf_decls_length ns ds
    cases d <;> simp only [List.map_cons, List.filterMap_cons, aliasKeyOf, aliasDecls, List.length_cons, ih]

theorem aliasKeys_length (fs : List File) : (aliasKeys fs).length = (allAliasDecls fs).length := by
  unfold aliasKeys allAliasDecls allPairs
  induction fs with
  | nil => rfl
  | cons f fs ih =>
    simp only [List.flatMap_cons, List.filterMap_append, List.length_append, aliasDecls_append]
    rw [ih, aliasKeyOf_decls_length]

theorem aliasS_some_key {rx fs k t} (h : aliasS rx fs k = some t) : k ∈ aliasKeys fs := by
  obtain ⟨r, hd⟩ := aliasS_isSome (by rw [h]; rfl)
  exact List.mem_filterMap.mpr ⟨(k.1, .alias k.2 r), mem_declsOf.mp hd, rfl⟩

theorem alias_search_no {rx fs} (hA : Gr.Acyclic (aliasSucc (aliasS rx fs))) {self : Key} {t : Ty}
    (hs : aliasS rx fs self = some t) :
    anyTri (search (aliasSucc (aliasS rx fs)) self (fuelA fs)) t.aliases = .no := by
  rw [Gr.anyTri_no_iff]
  intro m hm
  apply Gr.search_no_of_acyclic (dom := aliasKeys fs) hA
  · intro x hx
    obtain ⟨y, hy⟩ := List.exists_mem_of_ne_nil _ hx
    obtain ⟨t', hl, _⟩ := mem_aliasSucc.mp hy
    exact aliasS_some_key hl
  · rw [aliasKeys_length]; unfold fuelA; omega
  · intro hr
    exact hA self (Gr.path_of_edge_reach (mem_aliasSucc.mpr ⟨t, hs, hm⟩) hr)

theorem compile_legal {rx fs api} (hl : nsLexical fs = true) (h : compileCore rx fs = .ok api) : LegalCore rx fs = true := by
  obtain ⟨E, st, en, routes, hEb, hst, hp4, hen, hroutes, houts⟩ := compileCore_eq_ok h
  have hE := buildEnv_envOK2 hEb
  have hbi := buildEnv_ok_iff fs hl
  rw [hEb] at hbi
  have hnames : namesLegal fs = true ∧ importsLegal fs = true := by
    simpa [isOk] using hbi.symm
  obtain ⟨hK, hnull⟩ := pass3_sound hE hst
  have hAc := pass3_aliasAcyc hE.ok hst
  have hcomp : Complete fs E.nss st := pass3Nss_complete hE.ok (pass3_eq_ok hst).1
  have hF : Final rx E fs st := ⟨hK.inv, hcomp⟩
  have hlook := hF.look_eq hE
  have hnullS : ∀ u, u ∈ st.nrefs → nullOK (aliasS rx fs) (fuelA fs) u = true := by
    intro u hu
    have := hnull u hu
    rw [hlook, hE.ok.aliasFuel_eq] at this
    exact this
  have hAcyc : Gr.Acyclic (aliasSucc (aliasS rx fs)) := hlook ▸ hAc
  have hdecls : DeclsLegal rx fs := by
    intro p hm
    obtain ⟨ns, d⟩ := p
    have hmem : d ∈ declsOf fs ns := mem_declsOf.mpr hm
    have hns : ns ∈ E.nss := hE.ok.ns_mem hmem
    cases d with
    | imp _ => rfl
    | patch _ => rfl
    | annot _ _ => rfl
    | aliasAnnots _ _ => rfl
    | annotType _ => rfl
    | type td =>
      have hd : td ∈ typeDecls (declsOf fs ns) := mem_typeDecls.mpr hmem
      obtain ⟨c, hlk, hden⟩ := hF.lookup_decl hE hd
      obtain ⟨d', hd', hstat, hrec⟩ := hK.typeStat _ _ (mem_of_lookup hlk)
      rw [hE.ok.lookup_type hd] at hd'
      cases hd'
      simp only at hstat hrec
      refine typeLegal_iff.mpr ⟨c, hden, hstat, ?_, ?_, ?_⟩
      · intro f hf
        exact tyNullLegal_iff.mpr fun u hu => hnullS u (hrec f hf u hu)
      · exact fun hk => (pass4_ok_iff hE hF).mp hp4 ns hns td hd hk c hlk
      · exact (pass5_ok_iff hE hF).mp ⟨en, hen⟩ ns hns td hd c hlk
    | «alias» n r =>
      have hd : (n, r) ∈ aliasDecls (declsOf fs ns) := mem_aliasDecls.mpr hmem
      have hsome := (hcomp ns hns).2 n r hd
      obtain ⟨t, ht⟩ := Option.isSome_iff_exists.mp hsome
      obtain ⟨r', hr', hstat, hrec⟩ := hK.aliasStat _ _ (mem_of_lookup ht)
      rw [hE.ok.lookup_alias hd] at hr'
      cases hr'
      simp only at hstat
      have hs : aliasS rx fs (ns, n) = some t := hK.inv.below hE.ok (ns, n) t ht
      have hden : denoteRef rx fs ns r = some t := hE.ok.aliasS_eq (hE.ok.lookup_alias hd) ▸ hs
      have hn : tyNullLegal (aliasS rx fs) (fuelA fs) t = true :=
        tyNullLegal_iff.mpr fun u hu => hnullS u (hrec u hu)
      show aliasLegal rx fs ns n r = true
      unfold aliasLegal refLegal
      simp only [hstat, hden, hn, alias_search_no hAcyc hs, beq_self_eq_true, Bool.and_self]
    | route r => exact (pass6_ok_iff hE hlook).mp ⟨routes, hroutes⟩ ns hns r (mem_routeDecls.mpr hmem)
  unfold LegalCore
  simp only [hnames.1, hnames.2, Bool.and_self, Bool.true_and, List.all_eq_true]
  exact hdecls

/-- **accepted = legal** (namespace names being identifiers) -/
theorem compile_ok_iff_legal (rx : String → Bool) (fs : List File) (hl : nsLexical fs = true) :
    (∃ api, compileCore rx fs = .ok api) ↔ LegalCore rx fs = true :=
  ⟨fun ⟨_, h⟩ => compile_legal hl h, legal_compile_ok hl⟩

end StoneVerif.FeCompile.L
