import StoneVerif.Lemmas.RtCompatTags
/-!
`compatEnv` as a relation between specs: it holds between `A` and `A` renamed one-to-one (`renEnv`; at `r := id`, reflexivity),
it composes under the composed correspondence (any number of compatible edits is one compatible change), and it holds when
one optional / defaulted field is inserted into a class in every chain that contains it (`addFieldEnv`).  The edits of a
single class are proved where they are stated, in Props/C07.
-/
namespace StoneVerif.Rt.Compat

theorem Rho.idOf_mem_struct {env : Env} {c : String} {s : StructDef} (h : env.struct? c = some s) : (c, c) ∈ Rho.idOf env := by
  obtain ⟨hm, hc⟩ := struct?_some h
  simp only [Rho.idOf, List.mem_append, List.mem_map]
  exact .inl ⟨s, hm, by rw [hc]⟩

theorem Rho.idOf_mem_union {env : Env} {c : String} {u : UnionDef} (h : env.union? c = some u) : (c, c) ∈ Rho.idOf env := by
  obtain ⟨hm, hc⟩ := union?_some h
  simp only [Rho.idOf, List.mem_append, List.mem_map]
  exact .inr ⟨u, hm, by rw [hc]⟩

theorem Rho.idOf_diag {env : Env} {p : String × String} (h : p ∈ Rho.idOf env) : p.1 = p.2 := by
  simp only [Rho.idOf, List.mem_append, List.mem_map] at h
  rcases h with ⟨s, _, rfl⟩ | ⟨u, _, rfl⟩ <;> rfl

theorem Rho.idOf_wf (env : Env) : (Rho.idOf env).wf = true := by
  simp only [Rho.wf, List.all_eq_true]
  intro p hp q hq
  rw [← Rho.idOf_diag hp, ← Rho.idOf_diag hq]
  simp

theorem Rho.idOf_isSome {env : Env} {p : String × String} (h : p ∈ Rho.idOf env) :
    (env.struct? p.1).isSome = true ∨ (env.union? p.1).isSome = true := by
  simp only [Rho.idOf, List.mem_append, List.mem_map] at h
  rcases h with ⟨s, hs, rfl⟩ | ⟨u, hu, rfl⟩
  · exact .inl (List.find?_isSome.2 ⟨s, hs, beq_self_eq_true _⟩)
  · exact .inr (List.find?_isSome.2 ⟨u, hu, beq_self_eq_true _⟩)

def renTy (r : String → String) : PTy → PTy
  | .list fl item a b => .list fl (renTy r item) a b
  | .map fl k v => .map fl (renTy r k) (renTy r v)
  | .struct fl c => .struct fl (r c)
  | .tree fl c => .tree fl (r c)
  | .union fl c => .union fl (r c)
  | t => t

def renField (r : String → String) (f : FieldDef) : FieldDef := { f with ty := renTy r f.ty }

def renLevel (r : String → String) (l : Level) : Level := { cls := r l.cls, fields := l.fields.map (renField r) }

def renSub (r : String → String) (e : SubEntry) : SubEntry := (e.1, r e.2.1, e.2.2)

def renStruct (r : String → String) (s : StructDef) : StructDef :=
  { cls := r s.cls, levels := s.levels.map (renLevel r), subtypes := s.subtypes.map (·.map (renSub r)), catchAll := s.catchAll }

def renTag (r : String → String) (t : TagDef) : TagDef := { t with ty := renTy r t.ty }

def renULevel (r : String → String) (l : ULevel) : ULevel := { cls := r l.cls, tags := l.tags.map (renTag r) }

def renUnion (r : String → String) (u : UnionDef) : UnionDef :=
  { cls := r u.cls, levels := u.levels.map (renULevel r), catchAll := u.catchAll }

def renEnv (r : String → String) (A : Env) : Env :=
  { structs := A.structs.map (renStruct r), unions := A.unions.map (renUnion r) }

def Rho.ofRen (r : String → String) (A : Env) : Rho := (Rho.idOf A).map fun p => (p.1, r p.2)

/-- `r` is one-to-one on the classes of `A` (`Rho.idOf A` pairs each with itself) -/
def RenInj (r : String → String) (A : Env) : Prop :=
  ∀ p ∈ Rho.idOf A, ∀ q ∈ Rho.idOf A, r p.1 = r q.1 → p.1 = q.1

theorem Rho.ofRen_mem {r : String → String} {A : Env} {c : String} (h : (c, c) ∈ Rho.idOf A) : (c, r c) ∈ Rho.ofRen r A :=
  List.mem_map.mpr ⟨(c, c), h, rfl⟩

theorem Rho.ofRen_wf {r : String → String} {A : Env} (hinj : RenInj r A) : (Rho.ofRen r A).wf = true := by
  simp only [Rho.wf, Rho.ofRen, List.all_eq_true, List.mem_map]
  rintro _ ⟨p, hp, rfl⟩ _ ⟨q, hq, rfl⟩
  have e1 := Rho.idOf_diag hp
  have e2 := Rho.idOf_diag hq
  simp only
  by_cases h : p.1 = q.1
  · have : r p.2 = r q.2 := by rw [← e1, ← e2, h]
    simp [h, this]
  · have : ¬ r p.2 = r q.2 := by
      rw [← e1, ← e2]; exact fun hr => h (hinj p hp q hq hr)
    have e3 : (p.1 == q.1) = false := by simpa using h
    have e4 : (r p.2 == r q.2) = false := by simpa using this
    rw [e3, e4]; rfl

theorem find?_map_ren {α : Type} (cls : α → String) (ren : α → α) (r : String → String) (hcls : ∀ x, cls (ren x) = r (cls x))
    {c : String} : ∀ {l : List α}, (∀ x ∈ l, r (cls x) = r c → cls x = c) → ∀ {s : α}, l.find? (cls · == c) = some s →
    (l.map ren).find? (cls · == r c) = some (ren s)
  | [], _, _, h => by cases h
  | x :: rest, hinj, s, h => by
    simp only [List.find?_cons] at h
    simp only [List.map_cons, List.find?_cons, hcls]
    by_cases hx : cls x = c
    · simp only [hx, beq_self_eq_true] at h ⊢
      cases h; rfl
    · have h1 : (cls x == c) = false := by simpa using hx
      have h2 : (r (cls x) == r c) = false := by simpa using fun hr => hx (hinj x List.mem_cons_self hr)
      simp only [h1] at h
      simp only [h2]
      exact find?_map_ren cls ren r hcls (fun y hy => hinj y (List.mem_cons_of_mem _ hy)) h

theorem renEnv_struct? {r : String → String} {A : Env} (hinj : RenInj r A) {c : String} {s : StructDef}
    (hs : A.struct? c = some s) : (renEnv r A).struct? (r c) = some (renStruct r s) :=
  find?_map_ren StructDef.cls (renStruct r) r (fun _ => rfl) (l := A.structs)
    (fun x hx => hinj (x.cls, x.cls) (List.mem_append.mpr (.inl (List.mem_map.mpr ⟨x, hx, rfl⟩))) _ (Rho.idOf_mem_struct hs)) hs

theorem renEnv_union? {r : String → String} {A : Env} (hinj : RenInj r A) {c : String} {u : UnionDef}
    (hu : A.union? c = some u) : (renEnv r A).union? (r c) = some (renUnion r u) :=
  find?_map_ren UnionDef.cls (renUnion r) r (fun _ => rfl) (l := A.unions)
    (fun x hx => hinj (x.cls, x.cls) (List.mem_append.mpr (.inr (List.mem_map.mpr ⟨x, hx, rfl⟩))) _ (Rho.idOf_mem_union hu)) hu

theorem tySub_ren {r : String → String} {A : Env} (t : PTy) (h : tyWF A t = true) :
    tySub (Rho.ofRen r A) t (renTy r t) = true := by
  refine TySub.eq_true ?_
  induction t with
  | list fl item a b ih => exact .list rfl (ih h)
  | map fl k v ihk ihv => exact .map rfl (ihk (tyWF_map h).2.1) (ihv (tyWF_map h).2.2)
  | struct fl c =>
    obtain ⟨s, hs, -⟩ := tyWF_struct h
    exact .struct rfl (Rho.rel_iff.mpr (Rho.ofRen_mem (Rho.idOf_mem_struct hs)))
  | tree fl c =>
    obtain ⟨s, hs, -⟩ := tyWF_tree h
    exact .tree rfl (Rho.rel_iff.mpr (Rho.ofRen_mem (Rho.idOf_mem_struct hs)))
  | union fl c =>
    obtain ⟨u, hu⟩ := tyWF_union h
    exact .union rfl (Rho.rel_iff.mpr (Rho.ofRen_mem (Rho.idOf_mem_union hu)))
  | _ => exact .prim rfl rfl

theorem renStruct_allAttrs (r : String → String) (s : StructDef) :
    (renStruct r s).allAttrs = s.allAttrs.map (renField r) := by
  simp only [StructDef.allAttrs, renStruct, List.flatMap_map, renLevel, List.map_flatMap]

theorem find_renField {r : String → String} {fields : List FieldDef} (hnd : nodupS (fields.map (·.name)) = true)
    {f : FieldDef} (hf : f ∈ fields) : (fields.map (renField r)).find? (·.name == f.name) = some (renField r f) := by
  rw [List.find?_map]
  exact congrArg (Option.map _) (find_name_of_mem ((nodupS_iff _).1 hnd) hf)

theorem structSub_ren {r : String → String} {A : Env} (hwf : envWF A = true) (hinj : RenInj r A) {c : String}
    {s : StructDef} (hs : A.struct? c = some s) : structSub (Rho.ofRen r A) A (renEnv r A) c (r c) = true := by
  have hw := envWF_struct hwf hs
  have hnd := StructDef.wf_nodupS hw
  refine (structSub_iff hs).2 ⟨_, renEnv_struct? hinj hs, ?_, ?_, ?_⟩
  · intro f hf
    rw [renStruct_allAttrs]
    exact ⟨_, find_renField hnd hf, by simp [fieldSub, renField, tySub_ren f.ty (StructDef.wf_tyWF hw hf)]⟩
  · intro g hg
    rw [renStruct_allAttrs] at hg
    obtain ⟨f, hf, rfl⟩ := List.mem_map.mp hg
    exact .inl (find_name_isSome (g := f) hf)
  · cases hsub : s.subtypes with
    | none => simp [renStruct, hsub]
    | some xa =>
      simp only [renStruct, hsub, Option.map_some, Bool.and_eq_true, beq_self_eq_true, List.all_eq_true, true_and]
      have hfind : ∀ e ∈ xa, findSub e.1 (xa.map (renSub r)) = some (renSub r e) := fun e he => by
        rw [findSub, List.find?_map]
        exact congrArg (Option.map _) (find?_key_of_mem_inj (·.1) (StructDef.subtypes_tags_inj hw hsub) he)
      refine ⟨?_, ?_⟩
      · intro e he
        rw [hfind e he]
        have : e ∈ s.subtypes.getD [] := by rw [hsub]; exact he
        obtain ⟨d, hd, _⟩ := subtype_entry_wf hw this
        simp [renSub, Rho.rel_iff.mpr (Rho.ofRen_mem (Rho.idOf_mem_struct hd))]
      · rw [Bool.or_eq_true, List.all_eq_true]
        right
        intro e' he'
        obtain ⟨e, he, rfl⟩ := List.mem_map.mp he'
        have : (renSub r e).1 = e.1 := rfl
        rw [this]
        cases hq : findSub e.1 xa with
        | some _ => rfl
        | none =>
          unfold findSub at hq
          have := List.find?_eq_none.mp hq e he
          simp at this

theorem renUnion_allTags (r : String → String) (u : UnionDef) :
    UnionDef.allTags (renUnion r u) = (UnionDef.allTags u).map (renTag r) := by
  simp only [UnionDef.allTags, renUnion, List.flatMap_map, renULevel, List.map_flatMap]

theorem unionSub_ren {r : String → String} {A : Env} (hwf : envWF A = true) (hinj : RenInj r A) {c : String}
    {u : UnionDef} (hu : A.union? c = some u) : unionSub (Rho.ofRen r A) A (renEnv r A) c (r c) = true := by
  have hw := envWF_union hwf hu
  have hnd := allTags_nodupS hw
  have hnd' : nodupS (((UnionDef.allTags u).map (renTag r)).map (·.name)) = true := by
    have : ((UnionDef.allTags u).map (renTag r)).map (·.name) = (UnionDef.allTags u).map (·.name) := by
      simp [List.map_map, Function.comp_def, renTag]
    rw [this]; exact hnd
  refine (unionSub_iff hu).2 ⟨_, renEnv_union? hinj hu, rfl, ?_, .inr ?_⟩ <;> rw [renUnion_allTags]
  · intro t ht
    exact ⟨renTag r t, findTag_of_mem ((nodupS_iff _).1 hnd') (List.mem_map.mpr ⟨t, ht, rfl⟩), rfl,
      .inl (tySub_ren t.ty (UnionDef.wf_tyWF hw ht))⟩
  · intro t' ht'
    obtain ⟨t, ht, rfl⟩ := List.mem_map.mp ht'
    exact Option.isSome_iff_exists.2 ⟨t, findTag_of_mem ((nodupS_iff _).1 hnd) ht⟩

/-- Renaming types. -/
theorem edit_rename_env {A : Env} (hwf : envWF A = true) (r : String → String) (hinj : RenInj r A) :
    compatEnv (Rho.ofRen r A) A (renEnv r A) = true := by
  simp only [compatEnv, Bool.and_eq_true, Rho.ofRen_wf hinj, List.all_eq_true, true_and]
  intro p hp
  obtain ⟨q, hq, rfl⟩ := List.mem_map.mp hp
  have hd := Rho.idOf_diag hq
  obtain ⟨a, b⟩ := q
  simp only at hd
  subst hd
  simp only [pairOk, Bool.and_eq_true, Bool.or_eq_true]
  refine ⟨⟨Rho.idOf_isSome hq, ?_⟩, ?_⟩
  · cases hs : A.struct? a with
    | none => simp
    | some s => right; exact structSub_ren hwf hinj hs
  · cases hu : A.union? a with
    | none => simp
    | some u => right; exact unionSub_ren hwf hinj hu

theorem renTy_id (t : PTy) : renTy id t = t := by
  induction t with
  | list fl i a b ih => simp only [renTy, ih]
  | map fl k v ihk ihv => simp only [renTy, ihk, ihv]
  | _ => rfl

theorem renEnv_id (A : Env) : renEnv id A = A := by
  have hf : renField id = id := funext fun f => by simp only [renField, renTy_id, id]
  have hl : renLevel id = id := funext fun l => by simp only [renLevel, hf, List.map_id, id]
  have hs : renSub id = id := funext fun e => rfl
  have hst : renStruct id = id := funext fun s => by simp [renStruct, hl, hs]
  have ht : renTag id = id := funext fun t => by simp only [renTag, renTy_id, id]
  have hul : renULevel id = id := funext fun l => by simp only [renULevel, ht, List.map_id, id]
  have hu : renUnion id = id := funext fun u => by simp only [renUnion, hul, List.map_id, id]
  simp only [renEnv, hst, hu, List.map_id]

theorem ofRen_id (A : Env) : Rho.ofRen id A = Rho.idOf A := by
  simp only [Rho.ofRen, id, List.map_id']

theorem renInj_id (A : Env) : RenInj id A := fun _ _ _ _ h => h

theorem tySub_refl {env : Env} (t : PTy) (h : tyWF env t = true) : tySub (Rho.idOf env) t t = true := by
  have := tySub_ren (r := id) t h
  rwa [ofRen_id, renTy_id] at this

theorem structSub_refl {env : Env} (hwf : envWF env = true) {c : String} {s : StructDef} (hs : env.struct? c = some s) :
    structSub (Rho.idOf env) env env c c = true := by
  have := structSub_ren hwf (renInj_id env) hs
  rwa [ofRen_id, renEnv_id] at this

theorem unionSub_refl {env : Env} (hwf : envWF env = true) {c : String} {u : UnionDef} (hu : env.union? c = some u) :
    unionSub (Rho.idOf env) env env c c = true := by
  have := unionSub_ren hwf (renInj_id env) hu
  rwa [ofRen_id, renEnv_id] at this

theorem compatEnv_refl {env : Env} (hwf : envWF env = true) : compatEnv (Rho.idOf env) env env = true := by
  have := edit_rename_env hwf id (renInj_id env)
  rwa [ofRen_id, renEnv_id] at this

theorem Rho.mem_comp {ρ₁ ρ₂ : Rho} {a c : String} :
    (a, c) ∈ ρ₁.comp ρ₂ ↔ ∃ b, (a, b) ∈ ρ₁ ∧ ρ₂.toB b = some c := by
  simp only [Rho.comp, List.mem_filterMap, Option.map_eq_some_iff, Prod.mk.injEq]
  constructor
  · rintro ⟨⟨a', b⟩, hm, c', hc, rfl, rfl⟩
    exact ⟨b, hm, hc⟩
  · rintro ⟨b, hm, hc⟩
    exact ⟨(a, b), hm, c, hc, rfl, rfl⟩

theorem Rho.rel_comp {ρ₁ ρ₂ : Rho} (h₂ : ρ₂.wf = true) {a b c : String} (h1 : ρ₁.rel a b = true) (h2 : ρ₂.rel b c = true) :
    (ρ₁.comp ρ₂).rel a c = true :=
  Rho.rel_iff.mpr (Rho.mem_comp.mpr ⟨b, Rho.rel_iff.mp h1, Rho.toB_of_rel h₂ h2⟩)

theorem Rho.comp_wf {ρ₁ ρ₂ : Rho} (h₁ : ρ₁.wf = true) (h₂ : ρ₂.wf = true) : (ρ₁.comp ρ₂).wf = true := by
  simp only [Rho.wf, List.all_eq_true]
  intro p hp q hq
  obtain ⟨a, c⟩ := p
  obtain ⟨a', c'⟩ := q
  obtain ⟨b, hab, hbc⟩ := Rho.mem_comp.mp hp
  obtain ⟨b', hab', hbc'⟩ := Rho.mem_comp.mp hq
  have hbc2 := Rho.rel_iff.mp (Rho.rel_of_toB hbc)
  have hbc2' := Rho.rel_iff.mp (Rho.rel_of_toB hbc')
  have e1 := Rho.fst_eq_iff_of_wf h₁ hab hab'
  have e2 := Rho.fst_eq_iff_of_wf h₂ hbc2 hbc2'
  simp only at e1 e2
  have : a = a' ↔ c = c' := e1.trans e2
  by_cases h : a = a'
  · simp [h, this.mp h]
  · have h' : ¬ c = c' := fun hc => h (this.mpr hc)
    have e3 : (a == a') = false := by simpa using h
    have e4 : (c == c') = false := by simpa using h'
    show ((a == a') == (c == c')) = true
    rw [e3, e4]; rfl

theorem TySub.trans {ρ₁ ρ₂ : Rho} (h₂ : ρ₂.wf = true) {a b : PTy} (h1 : TySub ρ₁ a b) :
    ∀ {c : PTy}, TySub ρ₂ b c → TySub (ρ₁.comp ρ₂) a c := by
  induction h1 with
  | @prim a g hp hn =>
    intro c h2
    obtain ⟨hc, hn'⟩ := h2.prim_left (by rw [isPrimTy_withFlags]; exact hp)
    rw [flags_withFlags] at hn'
    rw [hc, withFlags_withFlags]
    exact .prim hp (hn.trans hn')
  | list hn _ ih =>
    intro c h2
    cases h2 with
    | prim hp => cases hp
    | list hn' hi' => exact .list (hn.trans hn') (ih hi')
  | map hn _ _ ihk ihv =>
    intro c h2
    cases h2 with
    | prim hp => cases hp
    | map hn' hk' hv' => exact .map (hn.trans hn') (ihk hk') (ihv hv')
  | struct hn hr =>
    intro c h2
    cases h2 with
    | prim hp => cases hp
    | struct hn' hr' => exact .struct (hn.trans hn') (Rho.rel_comp h₂ hr hr')
  | tree hn hr =>
    intro c h2
    cases h2 with
    | prim hp => cases hp
    | tree hn' hr' => exact .tree (hn.trans hn') (Rho.rel_comp h₂ hr hr')
  | union hn hr =>
    intro c h2
    cases h2 with
    | prim hp => cases hp
    | union hn' hr' => exact .union (hn.trans hn') (Rho.rel_comp h₂ hr hr')

theorem tySub_trans {ρ₁ ρ₂ : Rho} (h₂ : ρ₂.wf = true) {tA tB tC : PTy} (h1 : tySub ρ₁ tA tB = true)
    (h2 : tySub ρ₂ tB tC = true) : tySub (ρ₁.comp ρ₂) tA tC = true :=
  ((TySub.of_eq_true h1).trans h₂ (.of_eq_true h2)).eq_true

theorem fieldSub_trans {ρ₁ ρ₂ : Rho} (h₂ : ρ₂.wf = true) {f g h : FieldDef} (h1 : fieldSub ρ₁ f g = true)
    (h2 : fieldSub ρ₂ g h = true) : fieldSub (ρ₁.comp ρ₂) f h = true := by
  have n1 := fieldSub_name h1
  have n2 := fieldSub_name h2
  obtain ⟨a1, a2, a3, a4, a5⟩ := fieldSub_parts h1
  obtain ⟨b1, b2, b3, b4, b5⟩ := fieldSub_parts h2
  simp only [fieldSub, Bool.and_eq_true, beq_iff_eq]
  exact ⟨⟨⟨⟨⟨n1.trans n2, tySub_trans h₂ a1 b1⟩, a2.trans b2⟩, a3.trans b3⟩, a4.trans b4⟩, a5.trans b5⟩

structure Ctx2 (ρ₂ : Rho) (B C : Env) : Prop where
  compat : compatEnv ρ₂ B C = true
  wfB : envWF B = true
  wfC : envWF C = true

theorem newFieldOk_sub {ρ₂ : Rho} {B C : Env} (cx : Ctx2 ρ₂ B C) {g h : FieldDef} (hsub : fieldSub ρ₂ g h = true)
    (hw : tyWF B g.ty = true) (hg : newFieldOk B g = true) : newFieldOk C h = true := by
  obtain ⟨hty, _, hnul, _, hd⟩ := fieldSub_parts hsub
  simp only [newFieldOk, Bool.or_eq_true, Bool.and_eq_true, Bool.not_eq_true'] at hg ⊢
  rw [← hnul, ← tySub_nullable hty, ← hd, ← hasDefault_sub cx.compat cx.wfC hty hw]
  exact hg

theorem structSub_trans {ρ₁ ρ₂ : Rho} {A B C : Env} (cx : Ctx2 ρ₂ B C) {a b c : String}
    (h1 : structSub ρ₁ A B a b = true) (h2 : structSub ρ₂ B C b c = true) {sa : StructDef} (hsa : A.struct? a = some sa) :
    structSub (ρ₁.comp ρ₂) A C a c = true := by
  have h₂ := compat_wf cx.compat
  obtain ⟨sb, hsb, hcom1, hext1, hs1⟩ := (structSub_iff hsa).1 h1
  obtain ⟨sc, hsc, hcom2, hext2, hs2⟩ := (structSub_iff hsb).1 h2
  have hndC := StructDef.wf_nodupS (envWF_struct cx.wfC hsc)
  have hwB := envWF_struct cx.wfB hsb
  refine (structSub_iff hsa).2 ⟨_, hsc, ?_, ?_, ?_⟩
  · intro f hf
    obtain ⟨g, hg, hsub1⟩ := hcom1 f hf
    obtain ⟨h, hh, hsub2⟩ := hcom2 g (List.mem_of_find?_eq_some hg)
    exact ⟨h, fieldSub_name hsub1 ▸ hh, fieldSub_trans h₂ hsub1 hsub2⟩
  · intro h hh
    rcases hext2 h hh with hb | hnew
    · obtain ⟨g, hg⟩ := Option.isSome_iff_exists.mp hb
      obtain ⟨hgm, hgn⟩ := find_name_some hg
      rcases hext1 g hgm with ha | hnewg
      · left; rw [← hgn]; exact ha
      · right
        have hsub2 := fieldSub_of_name hndC
          (fun f hf => (hcom2 f hf).imp fun _ h => ⟨List.mem_of_find?_eq_some h.1, h.2⟩) hgm hh hgn
        have hwg : tyWF B g.ty = true := StructDef.wf_tyWF hwB hgm
        exact newFieldOk_sub cx hsub2 hwg hnewg
    · exact .inr hnew
  · cases hxa : sa.subtypes with
    | none =>
      cases hxb : sb.subtypes with
      | some xb => simp [hxa, hxb] at hs1
      | none =>
        cases hxc : sc.subtypes with
        | some xc => simp [hxb, hxc] at hs2
        | none => rfl
    | some xa =>
      cases hxb : sb.subtypes with
      | none => simp [hxa, hxb] at hs1
      | some xb =>
        cases hxc : sc.subtypes with
        | none => simp [hxb, hxc] at hs2
        | some xc =>
          have k1 := hs1
          have k2 := hs2
          simp only [hxa, hxb, Bool.and_eq_true, beq_iff_eq, List.all_eq_true, Bool.or_eq_true] at k1
          simp only [hxb, hxc, Bool.and_eq_true, beq_iff_eq, List.all_eq_true, Bool.or_eq_true] at k2
          simp only [Bool.and_eq_true, beq_iff_eq, List.all_eq_true, Bool.or_eq_true]
          refine ⟨⟨k1.1.1.trans k2.1.1, ?_⟩, ?_⟩
          · intro e he
            have h12 := k1.1.2 e he
            cases hf1 : findSub e.1 xb with
            | none => simp [hf1] at h12
            | some e' =>
              simp only [hf1, Bool.and_eq_true, beq_iff_eq] at h12
              obtain ⟨hm', ht'⟩ := findSub_some hf1
              have := k2.1.2 e' hm'
              cases hf2 : findSub e'.1 xc with
              | none => simp [hf2] at this
              | some e'' =>
                simp only [hf2, Bool.and_eq_true, beq_iff_eq] at this
                rw [ht'] at hf2
                simp only [hf2, Bool.and_eq_true, beq_iff_eq]
                exact ⟨Rho.rel_comp h₂ h12.1 this.1, h12.2.trans this.2⟩
          · by_cases hca : sa.catchAll = true
            · exact .inl hca
            · right
              intro e'' he''
              have hcb : ¬ sb.catchAll = true := by rw [← k1.1.1]; exact hca
              rcases k2.2 with h | h
              · exact absurd h hcb
              · have := h e'' he''
                obtain ⟨e', hf'⟩ := Option.isSome_iff_exists.mp this
                obtain ⟨hm', ht'⟩ := findSub_some hf'
                rcases k1.2 with h' | h'
                · exact absurd h' hca
                · have := h' e' hm'
                  rw [ht'] at this
                  exact this

theorem unionSub_trans {ρ₁ ρ₂ : Rho} {A B C : Env} (h₂ : ρ₂.wf = true) {a b c : String}
    (h1 : unionSub ρ₁ A B a b = true) (h2 : unionSub ρ₂ B C b c = true) {ua : UnionDef} (hua : A.union? a = some ua) :
    unionSub (ρ₁.comp ρ₂) A C a c = true := by
  obtain ⟨ub, hub, hca1, hk1, hf1⟩ := (unionSub_iff hua).1 h1
  obtain ⟨uc, huc, hca2, hk2, hf2⟩ := (unionSub_iff hub).1 h2
  refine (unionSub_iff hua).2 ⟨_, huc, hca1.trans hca2, ?_, ?_⟩
  · intro t ht
    obtain ⟨t', ht', hom1, hty1⟩ := hk1 t ht
    obtain ⟨hm', hn'⟩ := findTag_some ht'
    obtain ⟨t'', ht'', hom2, hty2⟩ := hk2 t' hm'
    rw [hn'] at ht''
    refine ⟨t'', ht'', hom1.trans hom2, ?_⟩
    rcases hty1 with hs1 | ⟨hv1, hc1⟩
    · rcases hty2 with hs2 | ⟨hv2, hc2⟩
      · exact .inl (tySub_trans h₂ hs1 hs2)
      · right
        refine ⟨by rw [tySub_isVoid hs1]; exact hv2, ?_⟩
        rw [hca1, ← hn']; exact hc2
    · exact .inr ⟨hv1, hc1⟩
  · by_cases hca : ua.catchAll.isSome = true
    · exact .inl hca
    · right
      intro t'' ht''
      rcases hf2 with h | h
      · rw [← hca1] at h; exact absurd h hca
      · have := h t'' ht''
        obtain ⟨t', hft'⟩ := Option.isSome_iff_exists.mp this
        obtain ⟨hm', hn'⟩ := findTag_some hft'
        rcases hf1 with h' | h'
        · exact absurd h' hca
        · have := h' t' hm'
          rw [hn'] at this
          exact this

theorem compatEnv_trans {ρ₁ ρ₂ : Rho} {A B C : Env} (h1 : compatEnv ρ₁ A B = true) (cx : Ctx2 ρ₂ B C) :
    compatEnv (ρ₁.comp ρ₂) A C = true := by
  have hw1 := compat_wf h1
  have hw2 := compat_wf cx.compat
  simp only [compatEnv, Bool.and_eq_true, Rho.comp_wf hw1 hw2, List.all_eq_true, true_and]
  intro p hp
  obtain ⟨a, c⟩ := p
  obtain ⟨b, hab, hbc⟩ := Rho.mem_comp.mp hp
  have hr1 := Rho.rel_iff.mpr hab
  have hr2 := Rho.rel_of_toB hbc
  have hp1 := compat_pair h1 hr1
  have hp2 := compat_pair cx.compat hr2
  simp only [pairOk, Bool.and_eq_true, Bool.or_eq_true] at hp1 hp2 ⊢
  refine ⟨⟨hp1.1.1, ?_⟩, ?_⟩
  · cases hsa : A.struct? a with
    | none => simp
    | some sa =>
      right
      have s1 := compat_struct h1 hr1 hsa
      obtain ⟨sb, hsb, -⟩ := (structSub_iff hsa).1 s1
      have s2 := compat_struct cx.compat hr2 hsb
      exact structSub_trans cx s1 s2 hsa
  · cases hua : A.union? a with
    | none => simp
    | some ua =>
      right
      have u1 := compat_union h1 hr1 hua
      obtain ⟨ub, hub, -⟩ := (unionSub_iff hua).1 u1
      have u2 := compat_union cx.compat hr2 hub
      exact unionSub_trans hw2 u1 u2 hua

/-- `g` inserted among the own fields of `cls` in the chain of `s` (no change if `cls` is no ancestor) -/
def insertField (g : FieldDef) (cls : String) (pos : Nat) (s : StructDef) : StructDef :=
  { s with levels := s.levels.map fun l => if l.cls == cls then { l with fields := l.fields.insertIdx pos g } else l }

def addFieldEnv (A : Env) (g : FieldDef) (cls : String) (pos : Nat) : Env :=
  { A with structs := A.structs.map (insertField g cls pos) }

theorem insertField_cls (g : FieldDef) (cls : String) (pos : Nat) (s : StructDef) : (insertField g cls pos s).cls = s.cls := rfl

theorem addFieldEnv_struct? (A : Env) (g : FieldDef) (cls : String) (pos : Nat) (c : String) :
    (addFieldEnv A g cls pos).struct? c = (A.struct? c).map (insertField g cls pos) := by
  simp only [Env.struct?, addFieldEnv, List.find?_map]; rfl

theorem addFieldEnv_union? (A : Env) (g : FieldDef) (cls : String) (pos : Nat) (c : String) :
    (addFieldEnv A g cls pos).union? c = A.union? c := rfl

theorem mem_insertIdx_iff {α} (x y : α) (l : List α) (n : Nat) :
    y ∈ l.insertIdx n x ↔ (n ≤ l.length ∧ y = x) ∨ y ∈ l := by
  by_cases hn : n ≤ l.length
  · simp [List.mem_insertIdx hn, hn]
  · simp [List.insertIdx_of_length_lt (Nat.lt_of_not_le hn), hn]

theorem insertField_attrs_keep (g : FieldDef) (cls : String) (pos : Nat) (s : StructDef) :
    ∀ f ∈ s.allAttrs, f ∈ (insertField g cls pos s).allAttrs := by
  intro f hf
  simp only [StructDef.allAttrs, insertField, List.mem_flatMap, List.mem_map] at hf ⊢
  obtain ⟨l, hl, hfl⟩ := hf
  refine ⟨_, ⟨l, hl, rfl⟩, ?_⟩
  split
  · exact (mem_insertIdx_iff g f l.fields pos).2 (.inr hfl)
  · exact hfl

theorem insertField_attrs_new (g : FieldDef) (cls : String) (pos : Nat) (s : StructDef) :
    ∀ h ∈ (insertField g cls pos s).allAttrs, h ∈ s.allAttrs ∨ h = g := by
  intro h hh
  simp only [StructDef.allAttrs, insertField, List.mem_flatMap, List.mem_map] at hh ⊢
  obtain ⟨l', ⟨l, hl, rfl⟩, hfl⟩ := hh
  split at hfl
  · rcases (mem_insertIdx_iff g h l.fields pos).1 hfl with ⟨-, h1⟩ | h1
    · exact .inr h1
    · exact .inl ⟨l, hl, h1⟩
  · exact .inl ⟨l, hl, hfl⟩

/-- Adding an optional / defaulted field: `g` goes into the level of `cls` in every chain, so into every subclass wherever it
is used; `hB` says the name is new along every chain. -/
theorem edit_add_field_env {A : Env} (hA : envWF A = true) (g : FieldDef) (cls : String) (pos : Nat)
    (hB : envWF (addFieldEnv A g cls pos) = true) (hg : newFieldOk (addFieldEnv A g cls pos) g = true) :
    compatEnv (Rho.idOf A) A (addFieldEnv A g cls pos) = true := by
  have href := compatEnv_refl hA
  simp only [compatEnv, Bool.and_eq_true, Rho.idOf_wf, List.all_eq_true, true_and] at href ⊢
  intro p hp
  have hd := Rho.idOf_diag hp
  obtain ⟨a, b⟩ := p
  simp only at hd
  subst hd
  have hpa := href (a, a) hp
  simp only [pairOk, Bool.and_eq_true, Bool.or_eq_true] at hpa ⊢
  refine ⟨⟨hpa.1.1, ?_⟩, ?_⟩
  · cases hsa : A.struct? a with
    | none => simp
    | some sa =>
      right
      have hsb : (addFieldEnv A g cls pos).struct? a = some (insertField g cls pos sa) := by
        rw [addFieldEnv_struct?, hsa]; rfl
      -- the subtype tables are untouched: their clause is the one of reflexivity
      obtain ⟨_, hsa', -, -, hsubs⟩ := (structSub_iff hsa).1 (structSub_refl hA hsa)
      cases hsa.symm.trans hsa'
      refine (structSub_iff hsa).2 ⟨_, hsb, ?_, ?_, hsubs⟩
      · intro f hf
        exact ⟨f, find_name_of_mem ((nodupS_iff _).1 (StructDef.wf_nodupS (envWF_struct hB hsb))) (insertField_attrs_keep g cls pos sa f hf),
          by simp [fieldSub, tySub_refl f.ty (StructDef.wf_tyWF (envWF_struct hA hsa) hf)]⟩
      · intro h hh
        rcases insertField_attrs_new g cls pos sa h hh with h1 | h1
        · exact .inl (find_name_isSome h1)
        · exact .inr (h1 ▸ hg)
  · cases hua : A.union? a with
    | none => simp
    | some ua =>
      right
      obtain ⟨ub, hub, h⟩ := (unionSub_iff hua).1 (unionSub_refl hA hua)
      exact (unionSub_iff hua).2 ⟨ub, (addFieldEnv_union? A g cls pos a).trans hub, h⟩

end StoneVerif.Rt.Compat
