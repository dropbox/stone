import StoneVerif.Lemmas.FeCompileResolve
/-!
The explicit fuel of `populate` (the depth-first population of parents): number of type declarations + 1 is enough.
Every recursive call puts a registered type key that is not yet in progress into `prog`, so the number of registered
type keys outside `prog` decreases.
-/
namespace StoneVerif.FeCompile.L

theorem unwrapAliases_ne_outOfFuel {A f t} : unwrapAliases A f t ≠ .error .outOfFuel := by
  fun_induction unwrapAliases A f t <;> simp_all

theorem wrapNull_ne_outOfFuel {fu A b t} : wrapNull fu A b t ≠ .error .outOfFuel := by
  fun_cases wrapNull fu A b t <;> try simp
  rename_i he; rintro rfl; exact unwrapAliases_ne_outOfFuel he

theorem finish_ne_outOfFuel {fu A w h t} : finish fu A w h t ≠ .error .outOfFuel := by
  fun_cases finish fu A w h t
  · exact wrapNull_ne_outOfFuel
  · simp

theorem instBuiltin_ne_outOfFuel {rx k tys lits kw} : instBuiltin rx k tys lits kw ≠ .error .outOfFuel := by
  fun_cases instBuiltin rx k tys lits kw <;> simp

theorem nonClass_ne_outOfFuel {ens h b e} : nonClass ens h b e ≠ .error .outOfFuel := by
  fun_cases nonClass ens h b e <;> simp

theorem headLookup_ne_outOfFuel {E cur h} : headLookup E cur h ≠ .error .outOfFuel := by
  fun_cases headLookup E cur h <;> simp

theorem resolveW_ne_outOfFuel {rx E A} (r : TRef) : ∀ {wrap cur}, resolveW rx E A wrap cur r ≠ .error .outOfFuel := by
  induction r using TRef.induct with
  | step r ih =>
    intro wrap cur
    rw [resolveW_eq]
    split
    · rename_i e he; intro hh; cases hh; exact headLookup_ne_outOfFuel he
    · split
      · simp
      · split
        · rename_i e he; intro hh; cases hh; exact mapE_ne_error (fun a ha => ih a ha) he
        · split
          · rename_i e he; intro hh; cases hh; exact instBuiltin_ne_outOfFuel he
          · exact finish_ne_outOfFuel
    · split
      · rename_i e he; intro hh; cases hh; exact nonClass_ne_outOfFuel he
      · exact finish_ne_outOfFuel

theorem structField_ne_outOfFuel {rx E A ns f} : structField rx E A ns f ≠ .error .outOfFuel := by
  fun_cases structField rx E A ns f <;> try simp
  rename_i he; rintro rfl; exact resolveW_ne_outOfFuel _ he

theorem unionField_ne_outOfFuel {rx E A ns f} : unionField rx E A ns f ≠ .error .outOfFuel := by
  fun_cases unionField rx E A ns f <;> try simp
  rename_i he; rintro rfl; exact resolveW_ne_outOfFuel _ he

theorem ancestorNames_ne_outOfFuel {done : Key → Option CType} {f p} : ancestorNames done f p ≠ .error .outOfFuel := by
  fun_induction ancestorNames done f p <;> try simp
  rename_i he ih; rintro rfl; exact ih he

theorem setAttributes_ne_outOfFuel {fu st key c} : setAttributes fu st key c ≠ .error .outOfFuel := by
  fun_cases setAttributes fu st key c <;> try simp
  rename_i he; rintro rfl; exact ancestorNames_ne_outOfFuel he

theorem structParent_ne_outOfFuel {E t} : structParent E t ≠ .error .outOfFuel := by
  fun_cases structParent E t <;> simp

theorem unionParent_ne_outOfFuel {E t} : unionParent E t ≠ .error .outOfFuel := by
  fun_cases unionParent E t <;> simp

theorem structParentOpt_ne_outOfFuel {E pty} : structParentOpt E pty ≠ .error .outOfFuel := by
  fun_cases structParentOpt E pty <;> try simp
  rename_i he; rintro rfl; exact structParent_ne_outOfFuel he

theorem unionParentOpt_ne_outOfFuel {E pty} : unionParentOpt E pty ≠ .error .outOfFuel := by
  fun_cases unionParentOpt E pty <;> try simp
  rename_i he; rintro rfl; exact unionParent_ne_outOfFuel he

theorem populateStep_ne_outOfFuel {rx E st key d pty} : populateStep rx E st key d pty ≠ .error .outOfFuel := by
  fun_cases populateStep rx E st key d pty <;> try simp
  · rename_i he; rintro rfl; exact structParentOpt_ne_outOfFuel he
  · rename_i he; rintro rfl; exact mapE_ne_error (fun f _ => structField_ne_outOfFuel) (mapFields_eq _ _ ▸ he)
  · exact setAttributes_ne_outOfFuel
  · rename_i he; rintro rfl; exact unionParentOpt_ne_outOfFuel he
  · rename_i he; rintro rfl; exact mapE_ne_error (fun f _ => unionField_ne_outOfFuel) (mapFields_eq _ _ ▸ he)
  · exact setAttributes_ne_outOfFuel

def typeKeys (fs : List File) : List Key := fs.flatMap fun f => (typeDecls f.decls).map fun d => (f.ns, d.name)

def slack (fs : List File) (prog : List Key) : Nat := ((typeKeys fs).filter (fun k => !prog.contains k)).length

theorem IsType.mem_typeKeys {fs : List File} {k : Key} (h : IsType fs k) : k ∈ typeKeys fs := by
  obtain ⟨d, h, hn⟩ := h
  simp only [declsOf, List.mem_flatMap, List.mem_filter, beq_iff_eq] at h
  obtain ⟨f, ⟨hf, hns⟩, hd⟩ := h
  simp only [typeKeys, List.mem_flatMap, List.mem_map]
  exact ⟨f, hf, d, mem_typeDecls.mpr hd, by rw [hns, hn]⟩

theorem slack_cons_lt {fs prog k} (hk : k ∈ typeKeys fs) (hp : ¬ prog.contains k = true) :
    slack fs (k :: prog) < slack fs prog := by
  unfold slack
  have : (fun x => !(k :: prog).contains x) = fun x => (x != k) && !prog.contains x := by
    funext x; rw [List.contains_cons, Bool.not_or]; rfl
  rw [this, ← List.filter_filter, List.length_filter_lt_length_iff_exists]
  exact ⟨k, List.mem_filter.mpr ⟨hk, by simpa using hp⟩, by simp⟩

theorem populate_ne_outOfFuel {rx E fs} (hE : EnvOK E fs) : ∀ (fuel : Nat) {prog st key d}, slack fs prog < fuel →
    populate rx E fuel prog st key d ≠ .error .outOfFuel := by
  intro fuel prog st key d hs
  fun_induction populate rx E fuel prog st key d <;> try simp
  · omega
  · exact populateStep_ne_outOfFuel
  · rename_i he; rintro rfl; exact resolveW_ne_outOfFuel _ he
  · -- the recursive call: `st1` is the model's `let st1`, `he` says it is the error, `ih` is for the parent
    rename_i fuel prog _ _ _ _ _ _ _ st1 _ he ih
    rintro rfl
    simp only [st1] at he
    split at he <;> try cases he
    rename_i k _
    split at he <;> try cases he
    split at he <;> try cases he
    rename_i hnp
    split at he <;> try cases he
    rename_i d' hd'
    have hlt := slack_cons_lt (prog := prog) (IsType.mem_typeKeys ⟨d', hE.type_decl hd'⟩) hnp
    exact ih k d' (by omega) he
  · rename_i he _; rintro rfl; exact wrapNull_ne_outOfFuel he
  · exact populateStep_ne_outOfFuel

theorem typeKeys_length (fs : List File) : (typeKeys fs).length = (allTypeDecls fs).length := by
  unfold typeKeys allTypeDecls
  induction fs with
  | nil => rfl
  | cons f fs ih =>
    simp only [List.flatMap_cons, List.length_append, List.length_map, typeDecls_append]
    omega

theorem slack_lt_populateFuel {E fs} (hE : EnvOK E fs) (prog : List Key) : slack fs prog < populateFuel E := by
  unfold populateFuel slack
  rw [hE.files, ← typeKeys_length]
  exact Nat.lt_succ_of_le (List.length_filter_le _ _)

/-- **fuel = number of type declarations + 1 suffices** for every call the passes make -/
theorem populate_fuel_sufficient {rx E fs} (hE : EnvOK E fs) (st : St) (key : Key) (d : TypeDecl) :
    populate rx E (populateFuel E) [key] st key d ≠ .error .outOfFuel :=
  populate_ne_outOfFuel hE _ (slack_lt_populateFuel hE _)

end StoneVerif.FeCompile.L
