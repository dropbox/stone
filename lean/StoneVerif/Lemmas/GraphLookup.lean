import StoneVerif.Lemmas.GraphClosure
import StoneVerif.Lemmas.ListFacts
/-! Lookups in the dump, the side conditions `refsOk` / `docsAgree` unpacked, the ancestor relation `Anc`, and what one
invocation of the walk reaches from a node (`Node.walked`). -/
namespace StoneVerif.Graph

variable {g : Graph}

theorem node?_mem {a : Id} {n : Node} (h : g.node? a = some n) : n ∈ g.nodes ∧ n.id = a :=
  find?_key_some Node.id h

theorem mem_ids_of_node {a : Id} {n : Node} (h : g.node? a = some n) : a ∈ g.ids := by
  obtain ⟨h1, h2⟩ := node?_mem h
  simp only [Graph.ids, List.mem_map]
  exact ⟨n, h1, h2⟩

/-- the three by-name lookups: the node with the expected id, if it passes the test `c` -/
theorem byName_some {id t : Id} {c : Node → Bool}
    (h : (match g.node? id with
      | some n => if c n then some n.id else none
      | none => none) = some t) : ∃ n, g.node? t = some n ∧ c n = true ∧ t = id := by
  split at h
  · rename_i n hn
    split at h
    · rename_i hc
      cases h
      rw [(node?_mem hn).2]
      exact ⟨n, hn, hc, rfl⟩
    · simp at h
  · simp at h

theorem typeByName_some {ns name : String} {t : Id} (h : g.typeByName ns name = some t) :
    ∃ n, g.node? t = some n ∧ n.isType = true ∧ n.ns = ns := by
  obtain ⟨n, hn, hc, _⟩ := byName_some h
  simp only [Bool.and_eq_true, beq_iff_eq] at hc
  exact ⟨n, hn, hc.1.1, hc.1.2⟩

theorem aliasByName_some {ns name : String} {t : Id} (h : g.aliasByName ns name = some t) :
    ∃ n, g.node? t = some n ∧ n.isAlias = true ∧ n.ns = ns := by
  obtain ⟨n, hn, hc, _⟩ := byName_some h
  simp only [Bool.and_eq_true, beq_iff_eq] at hc
  exact ⟨n, hn, hc.1.1, hc.1.2⟩

theorem routeByName_some {ns name : String} {v : Nat} {t : Id}
    (h : g.routeByName ns name v = some t) :
    ∃ n, g.node? t = some n ∧ n.isRoute = true ∧ n.ns = ns ∧ n.name = name ∧ n.version = v ∧
      t = routeId ns name v := by
  obtain ⟨n, hn, hc, ht⟩ := byName_some h
  simp only [Bool.and_eq_true, beq_iff_eq] at hc
  exact ⟨n, hn, hc.1.1.1, hc.1.1.2, hc.1.2, hc.2, ht⟩

/-- the tests `isTypeId`, `isAliasId`, `isRouteId`: the id names a node that passes `p` -/
theorem node?_test_iff {a : Id} {p : Node → Bool} :
    (match g.node? a with
      | some n => p n
      | none => false) = true ↔ ∃ n, g.node? a = some n ∧ p n = true := by
  split <;> simp_all

theorem isRouteId_iff {a : Id} : g.isRouteId a = true ↔ ∃ n, g.node? a = some n ∧ n.isRoute = true :=
  node?_test_iff

theorem isTypeId_iff {a : Id} : g.isTypeId a = true ↔ ∃ n, g.node? a = some n ∧ n.isType = true :=
  node?_test_iff

theorem isAliasId_iff {a : Id} : g.isAliasId a = true ↔ ∃ n, g.node? a = some n ∧ n.isAlias = true :=
  node?_test_iff

theorem mem_reachedAliases {r : Filtered} {a : Id} :
    a ∈ r.reachedAliases g ↔ Item.node a ∈ r.seen ∧ g.isAliasId a = true := by
  simp only [Filtered.reachedAliases, List.mem_filterMap]
  constructor
  · rintro ⟨it, hit, hx⟩
    cases it with
    | field o f c => simp at hx
    | node j =>
      simp only at hx
      split at hx
      · rename_i hal
        cases hx
        exact ⟨hit, hal⟩
      · simp at hx
  · rintro ⟨h1, h2⟩
    exact ⟨.node a, h1, by simp [h2]⟩

theorem mem_allAliases {a : Id} : a ∈ g.allAliases ↔ ∃ nd, g.node? a = some nd ∧ nd.isAlias = true := by
  simp only [Graph.allAliases, List.mem_filter]
  constructor
  · rintro ⟨_, h⟩
    exact isAliasId_iff.1 h
  · rintro ⟨nd, hnd, hal⟩
    exact ⟨mem_ids_of_node hnd, isAliasId_iff.2 ⟨nd, hnd, hal⟩⟩

theorem listed_iff {ns : String} {p : Node → Bool} {id : Id} :
    g.listed ns p id = true ↔ ∃ nd, g.node? id = some nd ∧ p nd = true ∧ nd.ns = ns := by
  simp only [Graph.listed]
  split <;> simp_all

theorem kind_cases (n : Node) :
    (n.isType = true ∧ n.isAlias = false ∧ n.isRoute = false) ∨
    (n.isType = false ∧ n.isAlias = true ∧ n.isRoute = false ∧ n.kind = .alias) ∨
    (n.isType = false ∧ n.isAlias = false ∧ n.isRoute = true ∧ n.kind = .route) := by
  simp only [Node.isType, Node.isAlias, Node.isRoute]
  cases n.kind <;> simp

theorem kind_of_isAlias {n : Node} (h : n.isAlias = true) : n.kind = .alias := by
  simpa [Node.isAlias] using h

theorem kind_of_isRoute {n : Node} (h : n.isRoute = true) : n.kind = .route := by
  simpa [Node.isRoute] using h

theorem ns?_mem {ns : String} {n : Namespace} (h : g.ns? ns = some n) : n ∈ g.namespaces ∧ n.name = ns :=
  find?_key_some Namespace.name h

theorem parsesTo_iff {ctx : String} {refs : List DocRef} {want : List Id × List Id} :
    parsesTo g ctx refs want = true ↔ parseDocs g ctx refs = .ok want := by
  simp only [parsesTo]
  split
  · rename_i p hp
    simp [hp]
  · rename_i e he
    simp [he]

theorem mem_specDocs_types {ns : String} {refs : List DocRef} {b : Id} :
    b ∈ (specDocs g ns refs).1 ↔ b ∈ docTargets g ns refs ∧ g.isRouteId b = false := by
  simp [specDocs]

theorem mem_specDocs_routes {ns : String} {refs : List DocRef} {b : Id} :
    b ∈ (specDocs g ns refs).2 ↔ b ∈ docTargets g ns refs ∧ g.isRouteId b = true := by
  simp [specDocs]

theorem mem_specDocs {ns : String} {refs : List DocRef} {b : Id} :
    b ∈ (specDocs g ns refs).1 ∨ b ∈ (specDocs g ns refs).2 ↔ b ∈ docTargets g ns refs := by
  rw [mem_specDocs_types, mem_specDocs_routes, ← and_or_left]
  cases g.isRouteId b <;> simp

theorem typeByName_ids {ns t : String} {b : Id} (h : b ∈ (g.typeByName ns t).toList) : b ∈ g.ids := by
  obtain ⟨n, hn, _⟩ := typeByName_some (Option.mem_toList.1 h)
  exact mem_ids_of_node hn

theorem routeByName_ids {ns t : String} {v : Nat} {b : Id} (h : b ∈ (g.routeByName ns t v).toList) :
    b ∈ g.ids := by
  obtain ⟨n, hn, _⟩ := routeByName_some (Option.mem_toList.1 h)
  exact mem_ids_of_node hn

theorem typeOrAlias_ids {ns t : String} {b : Id}
    (h : b ∈ ((g.typeByName ns t).orElse fun _ => g.aliasByName ns t).toList) : b ∈ g.ids := by
  cases h1 : g.typeByName ns t with
  | some x =>
    rw [h1] at h  -- `orElse` reduces on `some x`
    exact typeByName_ids (ns := ns) (t := t) (by rw [h1]; exact h)
  | none =>
    rw [h1] at h
    obtain ⟨n, hn, _⟩ := aliasByName_some (Option.mem_toList.1 h)
    exact mem_ids_of_node hn

theorem routeTargets_ids {ns rp : String} {b : Id} (h : b ∈ routeTargets g ns rp) : b ∈ g.ids := by
  simp only [routeTargets] at h
  split at h
  · exact routeByName_ids h
  · simp at h

theorem refTargets_ids {ns : String} {r : DocRef} {b : Id} (h : b ∈ refTargets g ns r) : b ∈ g.ids := by
  simp only [refTargets] at h
  split at h
  · split at h
    · exact typeByName_ids h
    · exact typeByName_ids h
    · simp at h
  · split at h
    · split at h
      · exact typeOrAlias_ids h
      · exact typeOrAlias_ids h
      · simp at h
    · split at h
      · split at h
        · exact routeTargets_ids h
        · exact routeTargets_ids h
      · simp at h

theorem docTargets_ids {ns : String} {refs : List DocRef} {b : Id} (h : b ∈ docTargets g ns refs) :
    b ∈ g.ids := by
  simp only [docTargets, List.mem_flatMap] at h
  obtain ⟨r, _, hb⟩ := h
  exact refTargets_ids hb

/-- the signature of the route `r` -/
def ioOf (g : Graph) (r : Id) : List Id :=
  match g.node? r with
  | some n => n.arg.refs ++ n.result.refs ++ n.error.refs
  | none => []

theorem routeIo_ok {r : Id} {io : List Id} (h : routeIo g r = .ok io) :
    g.isRouteId r = true ∧ io = ioOf g r := by
  simp only [routeIo] at h
  split at h
  · rename_i n hn
    split at h
    · rename_i hr
      have : n.arg.refs ++ n.result.refs ++ n.error.refs = io := by simpa using h
      exact ⟨isRouteId_iff.2 ⟨n, hn, hr⟩, by simp [ioOf, hn, this]⟩
    · simp at h
  · simp at h

theorem routesIo_ok {g : Graph} {rts : List Id} {io : List Id} (h : routesIo g rts = .ok io) :
    (∀ r ∈ rts, g.isRouteId r = true) ∧ ∀ b, b ∈ io ↔ ∃ r ∈ rts, b ∈ ioOf g r := by
  fun_induction routesIo g rts generalizing io <;> cases h
  · simp
  · rename_i hb ha ih
    obtain ⟨hr, rfl⟩ := routeIo_ok ha
    obtain ⟨h1, h2⟩ := ih hb
    exact ⟨List.forall_mem_cons.2 ⟨hr, h1⟩, fun b => by
      simp only [List.mem_append, h2, List.mem_cons, exists_eq_or_imp]⟩

inductive Anc (g : Graph) : Id → Id → Prop where
  | refl (a) : Anc g a a
  | step {a p o n} : g.node? a = some n → n.parent = some p → Anc g p o → Anc g a o

theorem refsOk_node (hwf : g.refsOk = true) {a : Id} {n : Node} (hn : g.node? a = some n) :
    n.idOk = true ∧ n.kindOk = true := by
  simp only [Graph.refsOk, Bool.and_eq_true, List.all_eq_true] at hwf
  have := hwf.1 n (node?_mem hn).1
  exact ⟨this.1.1, this.1.2⟩

theorem refsOk_kind (hwf : g.refsOk = true) {a : Id} {n : Node} (hn : g.node? a = some n) :
    n.isType = true ∨ (n.parent = none ∧ n.fields = []) := by
  have := (refsOk_node hwf hn).2
  simp only [Node.kindOk, Bool.or_eq_true, Bool.and_eq_true, Option.isNone_iff_eq_none, List.isEmpty_iff] at this
  exact this

theorem isType_of_parent (hwf : g.refsOk = true) {a p : Id} {n : Node} (hn : g.node? a = some n)
    (hp : n.parent = some p) : n.isType = true :=
  (refsOk_kind hwf hn).resolve_right fun h => by simp [h.1] at hp

theorem isType_of_field (hwf : g.refsOk = true) {a : Id} {n : Node} (hn : g.node? a = some n)
    {f : Field} (hf : f ∈ n.fields) : n.isType = true :=
  (refsOk_kind hwf hn).resolve_right fun h => by simp [h.2] at hf

theorem docsAgree_node (hda : docsAgree g = true) {a : Id} {n : Node} (hn : g.node? a = some n) :
    parseDocs g n.ns n.docRefs = .ok (specDocs g n.ns n.docRefs) := by
  simp only [docsAgree, Bool.and_eq_true, List.all_eq_true] at hda
  exact parsesTo_iff.1 (hda.1 n (node?_mem hn).1).1

theorem docsAgree_fields (hda : docsAgree g = true) {a : Id} {n : Node} (hn : g.node? a = some n)
    {f : Field} (hf : f ∈ n.fields) :
    parseDocs g n.ns f.docRefs = .ok (specDocs g n.ns f.docRefs) := by
  simp only [docsAgree, Bool.and_eq_true, List.all_eq_true] at hda
  exact parsesTo_iff.1 ((hda.1 n (node?_mem hn).1).2 f hf)

theorem docsAgree_ns (hda : docsAgree g = true) {ns : String} {n : Namespace} (hn : g.ns? ns = some n) :
    parseDocs g ns n.docRefs = .ok (specDocs g ns n.docRefs) := by
  simp only [docsAgree, Bool.and_eq_true, List.all_eq_true] at hda
  have := parsesTo_iff.1 (hda.2 n (ns?_mem hn).1)
  rwa [(ns?_mem hn).2] at this

theorem refsOk_routes (hwf : g.refsOk = true) {ns : String} {n : Namespace} (hn : g.ns? ns = some n)
    {r : Id} (hr : r ∈ n.routes) : ∃ nd, g.node? r = some nd ∧ nd.isRoute = true ∧ nd.ns = ns := by
  simp only [Graph.refsOk, Bool.and_eq_true, List.all_eq_true] at hwf
  have := (hwf.2 n (ns?_mem hn).1).1.1 r hr
  rw [(ns?_mem hn).2] at this
  exact listed_iff.1 this

theorem idOk_route (hwf : g.refsOk = true) {r : Id} {nd : Node} (hnd : g.node? r = some nd)
    (hk : nd.isRoute = true) : r = routeId nd.ns nd.name nd.version := by
  have h := (refsOk_node hwf hnd).1
  have hk' := kind_of_isRoute hk
  simp only [Node.idOk, hk', beq_self_eq_true, ↓reduceIte, beq_iff_eq] at h
  rw [← (node?_mem hnd).2, h]

theorem routeByName_of_route (hwf : g.refsOk = true) {r : Id} {nd : Node} (hnd : g.node? r = some nd)
    (hk : nd.isRoute = true) : g.routeByName nd.ns nd.name nd.version = some r := by
  have hid := idOk_route hwf hnd hk
  simp only [Graph.routeByName, ← hid, hnd, hk, beq_self_eq_true, Bool.and_self, ↓reduceIte]
  simp [(node?_mem hnd).2]

theorem mem_succ {a b : Id} : b ∈ succ g a ↔ ∃ n, g.node? a = some n ∧ b ∈ n.succ g := by
  unfold succ
  split <;> simp_all

theorem succ_ids (hwf : g.refsOk = true) {a b : Id} (hb : b ∈ succ g a) : b ∈ g.ids := by
  obtain ⟨n, hn, hb⟩ := mem_succ.1 hb
  simp only [Graph.refsOk, Bool.and_eq_true, List.all_eq_true] at hwf
  have := (hwf.1 n (node?_mem hn).1).2 b hb
  simpa using this

theorem anc_closed {g : Graph} (hwf : g.refsOk = true) {T : Id → Prop} (hT : ∀ a b, T a → Edge g a b → T b)
    {a o : Id} (h : Anc g a o) (ha : T a) : T o := by
  induction h with
  | refl => exact ha
  | step hn hp _ ih => exact ih (hT _ _ ha (.parent hn (isType_of_parent hwf hn hp) hp))

/-! The walk reads a node in two levels: its fields (type and doc of each), and what the node holds outside its fields
(`ownHard`) with its own doc. `Node.walked` is that reading; the dependencies of the specification are these and the
tag defaults (`Node.mem_succ`), the references generated code dereferences are among them (`Node.walked_of_hardRefs`). -/

def Node.ownHard (n : Node) : List Id :=
  match n.kind with
  | .struct => n.parent.toList ++ n.subtypes
  | .union => n.parent.toList
  | .alias => n.target.refs
  | .route => n.arg.refs ++ n.result.refs ++ n.error.refs

def Node.walked (g : Graph) (n : Node) (b : Id) : Prop :=
  (n.isType = true ∧ ∃ f ∈ n.fields, b ∈ f.ty.refs ∨ b ∈ docTargets g n.ns f.docRefs) ∨
    b ∈ n.ownHard ∨ b ∈ docTargets g n.ns n.docRefs

theorem Node.mem_succ {n : Node} {b : Id} :
    b ∈ n.succ g ↔ n.walked g b ∨ (n.kind = .struct ∧ ∃ f ∈ n.fields, f.tagDefault = some b) := by
  have h : b ∈ n.succ g ↔ (n.isType = true ∧ ∃ f ∈ n.fields, b ∈ f.ty.refs) ∨ b ∈ n.ownHard ∨
      (n.kind = .struct ∧ ∃ f ∈ n.fields, f.tagDefault = some b) ∨
      (n.isType = true ∧ ∃ f ∈ n.fields, b ∈ docTargets g n.ns f.docRefs) ∨ b ∈ docTargets g n.ns n.docRefs := by
    -- the alternatives in the order of the `++` of `Node.succ`: regrouping them inside `simp` is dear
    unfold Node.succ Node.ownHard Node.isType
    cases n.kind <;> simp [List.mem_append, List.mem_flatMap, or_assoc]
  -- the same five alternatives, grouped as `walked` groups them
  rw [h]
  unfold Node.walked
  grind

theorem ioOf_route {r : Id} {n : Node} (hn : g.node? r = some n) (hk : n.kind = .route) : ioOf g r = n.ownHard := by
  simp [ioOf, hn, Node.ownHard, hk]

theorem Node.mem_hardRefs {n : Node} {b : Id} :
    b ∈ n.hardRefs ↔ (n.isType = true ∧ ∃ f ∈ n.fields, b ∈ f.ty.refs) ∨ b ∈ n.ownHard := by
  unfold Node.hardRefs Node.ownHard Node.isType
  cases n.kind <;> simp [List.mem_append, List.mem_flatMap]

theorem Node.walked_of_hardRefs {n : Node} {b : Id} (h : b ∈ n.hardRefs) : n.walked g b :=
  (Node.mem_hardRefs.1 h).elim (fun ⟨ht, f, hf, hb⟩ => .inl ⟨ht, f, hf, .inl hb⟩) fun h => .inr (.inl h)

theorem Node.walked_of_target {n : Node} {b : Id} (hal : n.isAlias = true) (hb : b ∈ n.target.refs) :
    n.walked g b :=
  .inr (.inl (by simpa [Node.ownHard, kind_of_isAlias hal] using hb))

theorem Node.mem_ownHard {n : Node} {b : Id} :
    b ∈ n.ownHard ↔ (n.isType = true ∧ n.parent = some b) ∨ (n.kind = .struct ∧ b ∈ n.subtypes) ∨
      (n.kind = .alias ∧ b ∈ n.target.refs) ∨
      (n.kind = .route ∧ (b ∈ n.arg.refs ∨ b ∈ n.result.refs ∨ b ∈ n.error.refs)) := by
  unfold Node.ownHard Node.isType
  cases n.kind <;> simp [List.mem_append]

theorem Stable.walked {T : Id → Prop} (hT : Stable (succ g) T) {a b : Id} {n : Node} (ha : T a) (hn : g.node? a = some n)
    (hb : n.walked g b) : T b :=
  hT a ha b (mem_succ.2 ⟨n, hn, Node.mem_succ.2 (.inl hb)⟩)

theorem wlRouteIds_route (hwf : g.refsOk = true) {ns : String} {reprs : List String} {r : Id}
    (h : r ∈ wlRouteIds g ns reprs) : ∃ nd, g.node? r = some nd ∧ nd.isRoute = true ∧ nd.ns = ns := by
  simp only [wlRouteIds] at h
  split at h
  · split at h
    · rename_i n hn
      exact refsOk_routes hwf hn h
    · simp at h
  · simp only [List.mem_flatMap] at h
    obtain ⟨rp, _, h⟩ := h
    split at h
    · obtain ⟨n, hn, hk, hns, _⟩ := routeByName_some (Option.mem_toList.1 h)
      exact ⟨n, hn, hk, hns⟩
    · simp at h

end StoneVerif.Graph
