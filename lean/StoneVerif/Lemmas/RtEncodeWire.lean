import StoneVerif.Lemmas.RtWireEnv
import StoneVerif.Lemmas.RtEncode
import StoneVerif.Lemmas.RtValidate
/-!
C05: under `envWFX` a valid value passes `validate` (`validate_ok`); then `encode = wire` on valid values in stored form,
by mutual induction on the value, from the equations of `RtEncode`.
-/
namespace StoneVerif.Rt

/-- `RoundTrip.fieldsOk_of_envRT` gives it from `envWF` and `envRT`. -/
theorem fieldsOk_of_envWFX {env : Env} (hx : envWFX env = true) : FieldsOkFromPublic env := by
  intro c cls slots hsub hall
  obtain ⟨s, sc, hs, -, hp⟩ := publicFields_prefix hx hsub
  rw [structFieldsOk_public hs]
  exact attrsPrefix_all_attrHas hp slots hall

theorem validate_ok {E : Ext} {env : Env} (hx : envWFX env = true) {t : PTy} {v : PyVal} (h : validB E env t v = true) :
    validate E env t v = .ok (normOf E t v) :=
  validate_valid (fieldsOk_of_envWFX hx) t v h

theorem validateList_ok (E : Ext) (env : Env) (hx : envWFX env = true) :
    ∀ (t : PTy) (xs : List PyVal), validList E env t xs = true → ∃ ys, validateList E env t xs = .ok ys :=
  fun t xs h =>
    (V8.validateList_spec E env t xs).ok_iff.2 (satList_of_validList (satB_of_validB (fieldsOk_of_envWFX hx) t) xs h)

theorem validateDict_ok (E : Ext) (env : Env) (hx : envWFX env = true) :
    ∀ (kt vt : PTy) (kvs : List (PyVal × PyVal)), validDict E env kt vt kvs = true →
      ∃ ys, validateDict E env kt vt kvs = .ok ys :=
  fun kt vt kvs h =>
    (V8.validateDict_spec E env kt vt kvs).ok_iff.2
      (satDict_of_validDict (satB_of_validB (fieldsOk_of_envWFX hx) kt) (satB_of_validB (fieldsOk_of_envWFX hx) vt) kvs h)

theorem lookupEnc_map_ok (name : String) (ws : List (String × JVal)) :
    lookupEnc name (ws.map fun kj => (kj.1, (.ok kj.2 : R JVal))) = (lookupW name ws).map .ok := by
  rw [lookupEnc_eq_find?, lookupW_eq_find?, List.find?_map]
  simp only [Option.map_map]; rfl

theorem assembleStruct_ok (fields : List FieldDef) (slots : List (String × PyVal)) (ws : List (String × JVal))
    (hall : fields.all (fun f => attrHas f slots) = true) :
    assembleStruct fields slots (ws.map fun kj => (kj.1, (.ok kj.2 : R JVal))) = .ok (pick fields ws) := by
  refine assembleStruct_ok_iff.mpr ⟨fun f hf => ⟨List.all_eq_true.mp hall f hf, fun e => ?_⟩, ?_⟩
  · rw [lookupEnc_map_ok]; cases lookupW f.name ws <;> simp
  · refine filterMap_congr_mem fun f _ => ?_
    rw [okEntry, lookupEnc_map_ok]
    cases lookupW f.name ws <;> rfl

theorem encode_leaf_wire (E : Ext) (env : Env) (perms : List String) (norm : Bool) {t : PTy} {v : PyVal}
    (h : ValidLeaf E t v) (hn : normalB env t v = true) :
    encode E env perms false norm t v = .ok (wire E env t v) := by
  cases hg : t.flags.nullable && isNoneV v with
  | true =>
    rw [Bool.and_eq_true] at hg
    cases isNoneV_iff.1 hg.2
    rw [encode_nullable_none E env perms norm hg.1]
    rfl
  | false =>
    obtain ⟨hp, h'⟩ := h.withFlags {} hg
    rw [encode_validated E env perms norm (validate_leaf E env h) hg,
      encode_prim_bare E env perms false norm hp, validate_leaf E env h']
    cases h with
    | unset hn' => rw [hn'] at hg; cases hg
    | floatOfInt => cases hn
    | floatOfBool => cases hn
    | _ => rfl

mutual
/-- For any `norm`: stored form (`hn`) rules out an integer or Boolean at a float type, the one case where
`encode_primitive` reads the flag. -/
theorem encode_wire (E : Ext) (env : Env) (hwf : envWF env = true) (hx : envWFX env = true) (t : PTy) (v : PyVal)
    (norm : Bool) (ht : tyWF env t = true) (hv : validB E env t v = true) (hn : normalB env t v = true) :
    encode E env [] false norm t v = .ok (wire E env t v) := by
  cases validB_view hv with
  | leaf hl => exact encode_leaf_wire E env [] norm hl hn
  | tuple => cases hn
  | @list fl item mn mx xs h1 h2 h3 =>
    obtain ⟨ys, hys⟩ := validateList_ok E env hx item xs h3
    rw [encode_validated E env [] norm (validate_ok hx hv) (Bool.and_false _), PTy.withFlags,
      encode_list_bare E env [] false norm item h1 h2 hys,
      encodeList_wire E env hwf hx item xs ht h3 hn]
    rfl
  | @dict fl kt vt kvs h1 =>
    obtain ⟨ys, hys⟩ := validateDict_ok E env hx kt vt kvs h1
    simp only [tyWF, Bool.and_eq_true] at ht
    rw [encode_validated E env [] norm (validate_ok hx hv) (Bool.and_false _), PTy.withFlags,
      encode_map_bare E env [] false norm kt vt hys,
      encodeDict_wire E env hwf hx kt vt kvs ht.1 ht.2 h1 hn]
    rfl
  | @struct fl cls c slots hsub hall hvs =>
    obtain ⟨s, sc, hs, hsc, hp⟩ := publicFields_prefix hx hsub
    obtain ⟨hvs', hn'⟩ := attrsPrefix_validSlots E env hp slots hvs hn
    have ih := encodeSlots_wire E env hwf hx (publicFields env cls) slots
      (fun f hf => publicFields_tyWF hwf hf) hvs' hn'
    rw [encode_struct E env norm fl cls c slots hs hsub (fieldsOk_of_envWFX hx _ _ slots hsub hall),
      fieldsFor_eq_publicFields hs, ih, assembleStruct_ok _ _ _ (attrsPrefix_all_attrHas hp slots hall)]
    rfl
  | @tree fl cls c tag slots htag hsub hall hvs =>
    obtain ⟨s, sc, hs, hsc, hp⟩ := publicFields_prefix hx hsub
    have ih := encodeSlots_wire E env hwf hx (publicFields env c) slots
      (fun f hf => publicFields_tyWF hwf hf) hvs hn
    rw [encode_validated E env [] norm (validate_ok hx hv) (Bool.and_false _), PTy.withFlags,
      encode_tree_bare, encodeGate_tree_nil hsub (fieldsOk_of_envWFX hx _ _ slots hsub hall), R_bind_ok]
    simp only [htag, hsc]
    rw [fieldsFor_eq_publicFields hsc, ih, assembleStruct_ok _ _ _ hall, wire_tree E env fl slots htag]
    rfl
  | @union fl cls c tag payload td hsub htag hvp =>
    obtain ⟨u, hu⟩ := tyWF_union ht
    have hpres := isTagPresent_nil hwf hu tag
    have hvd := valDataType_nil hwf hu tag
    simp only [htag, Option.isSome_some, Option.map_some] at hpres hvd
    simp only [normalB, htag] at hn
    have hvp' := validB_payload hvp
    have ih := encode_wire E env hwf hx td.ty payload false (publicTag_tyWF hwf htag) hvp' hn
    rw [encode_validated E env [] norm (validate_ok hx hv) (Bool.and_false _), withFlags_union,
      encode_union_bare E env [] false norm cls c tag payload hu, hsub, hpres, hvd]
    simp only [if_true, ih]
    generalize hj : wire E env (.union fl cls) (.union c tag payload) = j
    cases WireUnion.of_valid htag hvp' hj with
    | void hvd' => simp only [hvd', Bool.true_or, if_true]
    | unset _ hnl => simp only [hnl, isNoneV, Bool.and_self, Bool.or_true, if_true]
    | flat slots hty =>
      simp only [hty, isVoidT, isNoneV, isPlainStruct, Bool.and_false, Bool.or_self, Bool.false_eq_true, if_false,
        if_true, R_bind_ok, wire]
    | nested hvd' hps hpn =>
      simp only [hvd', hps, hpn, Bool.and_false, Bool.or_self, Bool.false_eq_true, if_false, R_bind_ok]
termination_by structural v
theorem encodeList_wire (E : Ext) (env : Env) (hwf : envWF env = true) (hx : envWFX env = true) :
    ∀ (t : PTy) (xs : List PyVal), tyWF env t = true → validList E env t xs = true →
      normalList env t xs = true → encodeList E env [] false t xs = .ok (wireList E env t xs)
  | t, [], _, _, _ => by simp only [encodeList, wireList]
  | t, x :: xs, ht, hv, hn => by
    simp only [validList, normalList, Bool.and_eq_true] at hv hn
    simp only [encodeList, wireList, encode_wire E env hwf hx t x true ht hv.1 hn.1,
      encodeList_wire E env hwf hx t xs ht hv.2 hn.2]
    rfl
theorem encodeDict_wire (E : Ext) (env : Env) (hwf : envWF env = true) (hx : envWFX env = true) :
    ∀ (kt vt : PTy) (kvs : List (PyVal × PyVal)),
      (match kt with | .str fl _ _ _ => !fl.nullable | _ => false) = true → tyWF env vt = true →
      validDict E env kt vt kvs = true → normalDict env kt vt kvs = true →
      encodeDict E env [] false kt vt kvs = .ok (wireDict E env vt kvs)
  | kt, vt, [], _, _, _, _ => by simp only [encodeDict, wireDict]
  | kt, vt, (k, x) :: rest, hk, ht, hv, hn => by
    simp only [validDict, normalDict, Bool.and_eq_true] at hv hn
    have hkt : tyWF env kt = true := by cases kt <;> first | rfl | cases hk
    have h0 := encode_wire E env hwf hx kt k true hkt hv.1.1 hn.1.1
    obtain ⟨ks, rfl⟩ := validB_strKey hk hv.1.1
    simp only [encodeDict, wireDict, h0, encode_wire E env hwf hx vt x true ht hv.1.2 hn.1.2,
      encodeDict_wire E env hwf hx kt vt rest hk ht hv.2 hn.2]
    rfl
/-- Not through `encodeSlots_eq_mapSlots`: the structural recursion of the block wants the call of `encode_wire` on a
component of `slots`. -/
theorem encodeSlots_wire (E : Ext) (env : Env) (hwf : envWF env = true) (hx : envWFX env = true) :
    ∀ (fields : List FieldDef) (slots : List (String × PyVal)), (∀ f ∈ fields, tyWF env f.ty = true) →
      validSlots E env fields slots = true → normalSlots env fields slots = true →
      encodeSlots E env [] false fields slots =
        (wireSlots E env fields slots).map fun kj => (kj.1, (.ok kj.2 : R JVal))
  | fields, [], _, _, _ => by simp only [encodeSlots, wireSlots, List.map_nil]
  | fields, (k, x) :: rest, hty, hv, hn => by
    simp only [validSlots, normalSlots, Bool.and_eq_true] at hv hn
    have h2 := encodeSlots_wire E env hwf hx fields rest hty hv.2 hn.2
    rw [wireSlots_eq_mapSlots] at h2 ⊢
    simp only [encodeSlots, mapSlots, List.filterMap_cons, isNone_eq_isNoneV] at h2 ⊢
    cases hf : fields.find? (·.name == k) with
    | none => exact h2
    | some f =>
      have hv1 := hv.1
      have hn1 := hn.1
      simp only [hf] at hv1 hn1
      have h1 := encode_wire E env hwf hx f.ty x false (hty f (List.mem_of_find?_eq_some hf)) hv1 hn1
      cases isNoneV x
      · simp only [Option.bind_some, Bool.false_eq_true, if_false, List.map_cons, h1, h2]
      · exact h2
end

end StoneVerif.Rt
