import StoneVerif.Model.Rt.Compat
import StoneVerif.Lemmas.RtModel
/-!
`tySub` read as an inductive relation (`TySub`), on which every fact about two related types is proved by cases, and the
two translations of values case by case: `view` (a B-value read under A) and `lift` (an A-value seen under B).
-/
namespace StoneVerif.Rt.Compat

/-- `prim` stands for the seven primitive arms of `tySub`: the same type up to the `_redact` flags -/
inductive TySub (ρ : Rho) : PTy → PTy → Prop
  | prim {a : PTy} {g : Flags} : isPrimTy a = true → a.flags.nullable = g.nullable → TySub ρ a (a.withFlags g)
  | list {f g : Flags} {i i' : PTy} {lo hi : Option Nat} :
    f.nullable = g.nullable → TySub ρ i i' → TySub ρ (.list f i lo hi) (.list g i' lo hi)
  | map {f g : Flags} {k k' v v' : PTy} :
    f.nullable = g.nullable → TySub ρ k k' → TySub ρ v v' → TySub ρ (.map f k v) (.map g k' v')
  | struct {f g : Flags} {c c' : String} : f.nullable = g.nullable → ρ.rel c c' = true → TySub ρ (.struct f c) (.struct g c')
  | tree {f g : Flags} {c c' : String} : f.nullable = g.nullable → ρ.rel c c' = true → TySub ρ (.tree f c) (.tree g c')
  | union {f g : Flags} {c c' : String} : f.nullable = g.nullable → ρ.rel c c' = true → TySub ρ (.union f c) (.union g c')

theorem TySub.of_eq_true {ρ : Rho} {a b : PTy} : tySub ρ a b = true → TySub ρ a b := by
  -- cases = arms of `tySub` in order: bool, int, float, str, bytes, ts, void, list, map, struct, tree, union, 13 = `false`
  fun_induction tySub ρ a b <;> simp only [Bool.and_eq_true, beq_iff_eq, Bool.false_eq_true, false_imp_iff]
  case case8 ih => rintro ⟨⟨⟨hn, hi⟩, rfl⟩, rfl⟩; exact .list hn (ih hi)
  case case9 ihk ihv => rintro ⟨⟨hn, hk⟩, hv⟩; exact .map hn (ihk hk) (ihv hv)
  case case10 => rintro ⟨hn, hr⟩; exact .struct hn hr
  case case11 => rintro ⟨hn, hr⟩; exact .tree hn hr
  case case12 => rintro ⟨hn, hr⟩; exact .union hn hr
  case case2 | case3 | case4 => rintro ⟨⟨⟨hn, rfl⟩, rfl⟩, rfl⟩; exact .prim rfl hn
  case case6 => rintro ⟨hn, rfl⟩; exact .prim rfl hn
  all_goals exact fun hn => .prim rfl hn

theorem TySub.eq_true {ρ : Rho} {a b : PTy} (h : TySub ρ a b) : tySub ρ a b = true := by
  induction h with
  | @prim a g hp hn =>
    cases a <;> simp only [isPrimTy, Bool.false_eq_true] at hp <;>
      (simp only [PTy.flags] at hn; simp only [PTy.withFlags, tySub, hn, beq_self_eq_true, Bool.and_self])
  | list hn _ ih => simp only [tySub, hn, ih, beq_self_eq_true, Bool.and_self]
  | map hn _ _ ihk ihv => simp only [tySub, hn, ihk, ihv, beq_self_eq_true, Bool.and_self]
  | struct hn hr | tree hn hr | union hn hr => simp only [tySub, hn, hr, beq_self_eq_true, Bool.and_self]

theorem TySub.nullable {ρ : Rho} {a b : PTy} (h : TySub ρ a b) : a.flags.nullable = b.flags.nullable := by
  cases h with
  | prim _ hn => rw [flags_withFlags]; exact hn
  | list hn | map hn | struct hn | tree hn | union hn => exact hn

theorem TySub.withFlags {ρ : Rho} {a b : PTy} (h : TySub ρ a b) {f g : Flags} (hn : f.nullable = g.nullable) :
    TySub ρ (a.withFlags f) (b.withFlags g) := by
  cases h with
  | @prim a g' hp _ =>
    rw [withFlags_withFlags, ← withFlags_withFlags a f g]
    exact .prim (by rw [isPrimTy_withFlags]; exact hp) (by rw [flags_withFlags]; exact hn)
  | list _ hi => exact .list hn hi
  | map _ hk hv => exact .map hn hk hv
  | struct _ hr => exact .struct hn hr
  | tree _ hr => exact .tree hn hr
  | union _ hr => exact .union hn hr

theorem TySub.prim_left {ρ : Rho} {a c : PTy} (h : TySub ρ a c) (hp : isPrimTy a = true) :
    c = a.withFlags c.flags ∧ a.flags.nullable = c.flags.nullable := by
  cases h with
  | prim _ hn => rw [flags_withFlags]; exact ⟨rfl, hn⟩
  | list | map | struct | tree | union => cases hp

theorem isVoidT_union (fl : Flags) (c : String) : isVoidT (.union fl c) = false := rfl

theorem isVoidT_struct (fl : Flags) (c : String) : isVoidT (.struct fl c) = false := rfl

theorem isVoidT_tree (fl : Flags) (c : String) : isVoidT (.tree fl c) = false := rfl

theorem isVoidT_list (fl : Flags) (i : PTy) (a b : Option Nat) : isVoidT (.list fl i a b) = false := rfl

theorem isVoidT_map (fl : Flags) (k v : PTy) : isVoidT (.map fl k v) = false := rfl

theorem tySub_nullable {ρ : Rho} {tA tB : PTy} (h : tySub ρ tA tB = true) : tA.flags.nullable = tB.flags.nullable :=
  (TySub.of_eq_true h).nullable

theorem tySub_withFlags {ρ : Rho} {tA tB : PTy} (h : tySub ρ tA tB = true) :
    tySub ρ (tA.withFlags {}) (tB.withFlags {}) = true :=
  ((TySub.of_eq_true h).withFlags rfl).eq_true

theorem tySub_isPrim {ρ : Rho} {tA tB : PTy} (h : tySub ρ tA tB = true) : isPrimTy tA = isPrimTy tB := by
  cases TySub.of_eq_true h with
  | prim => exact (isPrimTy_withFlags _ _).symm
  | list | map | struct | tree | union => rfl

theorem tySub_isVoid {ρ : Rho} {tA tB : PTy} (h : tySub ρ tA tB = true) : isVoidT tA = isVoidT tB := by
  cases TySub.of_eq_true h with
  | prim => exact (isVoidT_withFlags _ _).symm
  | list | map | struct | tree | union => rfl

theorem tySub_isPlainStruct {ρ : Rho} {tA tB : PTy} (h : tySub ρ tA tB = true) : isPlainStruct tA = isPlainStruct tB := by
  cases TySub.of_eq_true h with
  | prim => exact (isPlainStruct_withFlags _ _).symm
  | list | map | struct | tree | union => rfl

theorem tySub_struct_left {ρ : Rho} {f : Flags} {c : String} {b : PTy} (h : tySub ρ (.struct f c) b = true) :
    ∃ g c', b = .struct g c' ∧ f.nullable = g.nullable ∧ ρ.rel c c' = true := by
  cases TySub.of_eq_true h with
  | prim hp => cases hp
  | struct hn hr => exact ⟨_, _, rfl, hn, hr⟩

theorem tySub_struct_right {ρ : Rho} {a : PTy} {g : Flags} {c' : String} (h : tySub ρ a (.struct g c') = true) :
    ∃ f c, a = .struct f c ∧ f.nullable = g.nullable ∧ ρ.rel c c' = true := by
  obtain ⟨f, c, rfl⟩ := isPlainStruct_iff.1 (tySub_isPlainStruct h)
  obtain ⟨_, _, hb, hn, hr⟩ := tySub_struct_left h
  cases hb
  exact ⟨f, c, rfl, hn, hr⟩

theorem tySub_isUserTyC08 {ρ : Rho} {tA tB : PTy} (h : tySub ρ tA tB = true) : isUserTyC08 tA = isUserTyC08 tB := by
  cases TySub.of_eq_true h with
  | prim => exact (isUserTyC08_withFlags _ _).symm
  | list | map | struct | tree | union => rfl

theorem view_none (ρ : Rho) (A : Env) (t : PTy) : view ρ A t .none = .none := by unfold view; rfl

theorem view_prim (ρ : Rho) (A : Env) {t : PTy} (hp : isPrimTy t = true) (x : PyVal) : view ρ A t x = x := by
  cases x <;> unfold view <;> first | rfl | (split <;> first | rfl | cases hp)

theorem isNoneV_view (ρ : Rho) (A : Env) (t : PTy) (x : PyVal) : isNoneV (view ρ A t x) = isNoneV x := by
  cases x <;> unfold view <;> first | rfl | (split <;> first | rfl | (split <;> first | rfl | (split <;> rfl)))

theorem view_withFlags (ρ : Rho) (A : Env) (t : PTy) (fl : Flags) (v : PyVal) :
    view ρ A (t.withFlags fl) v = view ρ A t v := by
  cases t <;> (unfold view; rfl)

theorem view_list_list (ρ : Rho) (A : Env) (fl : Flags) (item : PTy) (a b : Option Nat) (xs : List PyVal) :
    view ρ A (.list fl item a b) (.list xs) = .list (viewList ρ A item xs) := by
  unfold view; rfl

theorem view_list_tuple (ρ : Rho) (A : Env) (fl : Flags) (item : PTy) (a b : Option Nat) (xs : List PyVal) :
    view ρ A (.list fl item a b) (.tuple xs) = .tuple (viewList ρ A item xs) := by
  unfold view; rfl

theorem viewList_length (ρ : Rho) (A : Env) (t : PTy) : ∀ xs : List PyVal, (viewList ρ A t xs).length = xs.length
  | [] => rfl
  | x :: xs => by simp [viewList, viewList_length ρ A t xs]

theorem view_map_dict (ρ : Rho) (A : Env) (fl : Flags) (kt vt : PTy) (kvs : List (PyVal × PyVal)) :
    view ρ A (.map fl kt vt) (.dict kvs) = .dict (viewDict ρ A vt kvs) := by
  unfold view; rfl

theorem view_struct_struct (ρ : Rho) (A : Env) (fl : Flags) (cls c : String) (slots : List (String × PyVal)) :
    view ρ A (.struct fl cls) (.struct c slots) =
      .struct cls (orderSlots (publicFields A cls) (viewSlots ρ A (publicFields A cls) slots)) := by
  unfold view; rfl

theorem view_tree_struct (ρ : Rho) (A : Env) (fl : Flags) (cls c : String) (slots : List (String × PyVal)) :
    view ρ A (.tree fl cls) (.struct c slots) =
      .struct (treeClassA ρ A cls c) (orderSlots (publicFields A (treeClassA ρ A cls c))
        (viewSlots ρ A (publicFields A (treeClassA ρ A cls c)) slots)) := by
  unfold view; rfl

theorem view_union (ρ : Rho) (A : Env) (fl : Flags) (cls c tag : String) (p : PyVal) :
    view ρ A (.union fl cls) (.union c tag p) =
      match publicTag? A cls tag with
      | some td => if isVoidT td.ty then .union cls tag .none else .union cls tag (view ρ A td.ty p)
      | none => .union cls ((catchAllOf A cls).getD tag) .none := by
  conv => lhs; unfold view
  simp only []
  cases publicTag? A cls tag <;> rfl

theorem view_union_known (ρ : Rho) (A : Env) (fl : Flags) {cls tag : String} {td : TagDef} (c : String) (p : PyVal)
    (h : publicTag? A cls tag = some td) :
    view ρ A (.union fl cls) (.union c tag p) =
      if isVoidT td.ty then .union cls tag .none else .union cls tag (view ρ A td.ty p) := by
  rw [view_union, h]

theorem view_union_unknown (ρ : Rho) (A : Env) (fl : Flags) {cls tag : String} (c : String) (p : PyVal)
    (h : publicTag? A cls tag = none) :
    view ρ A (.union fl cls) (.union c tag p) = .union cls ((catchAllOf A cls).getD tag) .none := by
  rw [view_union, h]

theorem view_union_none (ρ : Rho) (A : Env) (fl : Flags) {cls tag : String} {td : TagDef} (c : String)
    (h : publicTag? A cls tag = some td) : view ρ A (.union fl cls) (.union c tag .none) = .union cls tag .none := by
  rw [view_union_known ρ A fl c _ h, view_none, ite_self]

theorem view_union_shape (ρ : Rho) (A : Env) (fl : Flags) (cls c tag : String) (p : PyVal) :
    ∃ tag' p', view ρ A (.union fl cls) (.union c tag p) = .union cls tag' p' := by
  rw [view_union]
  split
  · split <;> exact ⟨_, _, rfl⟩
  · exact ⟨_, _, rfl⟩

theorem lift_none (ρ : Rho) (B : Env) (t : PTy) : lift ρ B t .none = .none := by unfold lift; rfl

theorem lift_prim (ρ : Rho) (B : Env) {t : PTy} (hp : isPrimTy t = true) (x : PyVal) : lift ρ B t x = x := by
  cases x <;> unfold lift <;> first | rfl | (split <;> first | rfl | cases hp)

theorem isNoneV_lift (ρ : Rho) (B : Env) (t : PTy) (x : PyVal) : isNoneV (lift ρ B t x) = isNoneV x := by
  cases x <;> unfold lift <;> first | rfl | (split <;> first | rfl | (split <;> first | rfl | (split <;> rfl)))

theorem lift_withFlags (ρ : Rho) (B : Env) (t : PTy) (fl : Flags) (v : PyVal) :
    lift ρ B (t.withFlags fl) v = lift ρ B t v := by
  cases t <;> (unfold lift; rfl)

theorem lift_list_list (ρ : Rho) (B : Env) (fl : Flags) (item : PTy) (a b : Option Nat) (xs : List PyVal) :
    lift ρ B (.list fl item a b) (.list xs) = .list (liftList ρ B item xs) := by
  unfold lift; rfl

theorem lift_list_tuple (ρ : Rho) (B : Env) (fl : Flags) (item : PTy) (a b : Option Nat) (xs : List PyVal) :
    lift ρ B (.list fl item a b) (.tuple xs) = .tuple (liftList ρ B item xs) := by
  unfold lift; rfl

theorem liftList_length (ρ : Rho) (B : Env) (t : PTy) : ∀ xs : List PyVal, (liftList ρ B t xs).length = xs.length
  | [] => rfl
  | x :: xs => by simp [liftList, liftList_length ρ B t xs]

theorem lift_map_dict (ρ : Rho) (B : Env) (fl : Flags) (kt vt : PTy) (kvs : List (PyVal × PyVal)) :
    lift ρ B (.map fl kt vt) (.dict kvs) = .dict (liftDict ρ B vt kvs) := by
  unfold lift; rfl

theorem lift_struct_struct (ρ : Rho) (B : Env) (fl : Flags) (cls c : String) (slots : List (String × PyVal)) :
    lift ρ B (.struct fl cls) (.struct c slots) =
      .struct cls (orderSlots (publicFields B cls) (liftSlots ρ B (publicFields B cls) slots)) := by
  unfold lift; rfl

theorem lift_tree_struct (ρ : Rho) (B : Env) (fl : Flags) (cls c : String) (slots : List (String × PyVal)) :
    lift ρ B (.tree fl cls) (.struct c slots) =
      .struct (treeClassB ρ B cls c) (orderSlots (publicFields B (treeClassB ρ B cls c))
        (liftSlots ρ B (publicFields B (treeClassB ρ B cls c)) slots)) := by
  unfold lift; rfl

theorem lift_union (ρ : Rho) (B : Env) (fl : Flags) (cls c tag : String) (p : PyVal) :
    lift ρ B (.union fl cls) (.union c tag p) =
      match publicTag? B cls tag with
      | some td => if isVoidT td.ty then .union cls tag .none else .union cls tag (lift ρ B td.ty p)
      | none => .union cls tag p := by
  conv => lhs; unfold lift
  simp only []
  cases publicTag? B cls tag <;> rfl

theorem lift_union_known (ρ : Rho) (B : Env) (fl : Flags) {cls tag : String} {td : TagDef} (c : String) (p : PyVal)
    (h : publicTag? B cls tag = some td) :
    lift ρ B (.union fl cls) (.union c tag p) =
      if isVoidT td.ty then .union cls tag .none else .union cls tag (lift ρ B td.ty p) := by
  rw [lift_union, h]

theorem lift_union_none (ρ : Rho) (B : Env) (fl : Flags) {cls tag : String} {td : TagDef} (c : String)
    (h : publicTag? B cls tag = some td) : lift ρ B (.union fl cls) (.union c tag .none) = .union cls tag .none := by
  rw [lift_union_known ρ B fl c _ h, lift_none, ite_self]

theorem lift_union_shape (ρ : Rho) (B : Env) (fl : Flags) (cls c tag : String) (p : PyVal) :
    ∃ p', lift ρ B (.union fl cls) (.union c tag p) = .union cls tag p' := by
  rw [lift_union]
  split
  · split <;> exact ⟨_, rfl⟩
  · exact ⟨_, rfl⟩

/-- `viewSlots` and `liftSlots` are the same walk over the slots (`S`), with `view` resp. `lift` at the field's type (`T`) -/
theorem lookupSlot_walk {fields : List FieldDef} {S : List (String × PyVal) → List (String × PyVal)}
    {T : PTy → PyVal → PyVal} (hnil : S [] = [])
    (hcons : ∀ k x rest, S ((k, x) :: rest) = match fields.find? (·.name == k) with
      | some f => (k, T f.ty x) :: S rest
      | none => S rest) (k : String) :
    ∀ (slots : List (String × PyVal)), lookupSlot k (S slots) =
      match fields.find? (·.name == k) with
      | some f => (lookupSlot k slots).map (T f.ty)
      | none => none
  | [] => by rw [hnil]; simp only [lookupSlot]; split <;> rfl
  | (k', x) :: rest => by
    have ih := lookupSlot_walk hnil hcons k rest
    rw [hcons]
    by_cases hk : k' = k
    · subst hk
      split
      · rename_i f hf
        simp [lookupSlot]
      · rename_i hf
        rw [ih]
        simp [hf]
    · have hne : (k' == k) = false := by simpa using hk
      split <;> (simp only [lookupSlot, hne]; exact ih)

theorem lookupSlot_viewSlots (ρ : Rho) (A : Env) (fields : List FieldDef) (k : String) (slots : List (String × PyVal)) :
    lookupSlot k (viewSlots ρ A fields slots) =
      match fields.find? (·.name == k) with
      | some f => (lookupSlot k slots).map (view ρ A f.ty)
      | none => none :=
  lookupSlot_walk rfl (fun _ _ _ => rfl) k slots

theorem lookupSlot_liftSlots (ρ : Rho) (B : Env) (fields : List FieldDef) (k : String) (slots : List (String × PyVal)) :
    lookupSlot k (liftSlots ρ B fields slots) =
      match fields.find? (·.name == k) with
      | some f => (lookupSlot k slots).map (lift ρ B f.ty)
      | none => none :=
  lookupSlot_walk rfl (fun _ _ _ => rfl) k slots

theorem lookupSlot_orderSlots (slots : List (String × PyVal)) (k : String) (fields : List FieldDef)
    (hnd : nodupS (fields.map (·.name)) = true) :
    lookupSlot k (orderSlots fields slots) = if k ∈ fields.map (·.name) then lookupSlot k slots else none := by
  rw [lookupSlot_eq_find?, orderSlots]
  split
  · rename_i hk
    obtain ⟨f, hf, rfl⟩ := List.mem_map.1 hk
    exact find?_filterMap_of_mem (·.name) (fun f => lookupSlot f.name slots) fields ((nodupS_iff _).1 hnd) f hf
  · rename_i hk
    rw [find?_filterMap_of_not_mem (·.name) (fun f => lookupSlot f.name slots) k fields hk]; rfl

theorem orderSlots_nil (fields : List FieldDef) : orderSlots fields [] = [] :=
  List.filterMap_eq_nil_iff.2 fun _ _ => rfl

end StoneVerif.Rt.Compat
