import StoneVerif.Lemmas.RtCompatEnv
import StoneVerif.Lemmas.RtCompatDecode
/-!
What `unionSub` / `structSub` say about the tag tables and the enumerated-subtype tables of a related pair of classes, in
the form the decoder consults them (caller without permissions): `TagsRel`, `SubsRel`, and the class under which each side
reads an instance at an enumerated root (`treeClassA`, `treeClassB`).
-/
namespace StoneVerif.Rt.Compat

/-- `unionSub` read on the tags a caller without permissions sees (`publicTag?`) -/
structure TagsRel (ρ : Rho) (A B : Env) (a b : String) : Prop where
  catchAll : catchAllOf A a = catchAllOf B b
  known : ∀ tag tdA, publicTag? A a tag = some tdA → ∃ tdB, publicTag? B b tag = some tdB ∧
    (tySub ρ tdA.ty tdB.ty = true ∨ (isVoidT tdA.ty = true ∧ catchAllOf A a ≠ some tag))
  fresh : ∀ tag tdB, publicTag? A a tag = none → publicTag? B b tag = some tdB → (catchAllOf A a).isSome = true

theorem tagsRel {ρ : Rho} {A B : Env} (cx : Ctx ρ A B) {a b : String} (hr : ρ.rel a b = true) {ua : UnionDef}
    (hu : A.union? a = some ua) : TagsRel ρ A B a b := by
  obtain ⟨ub, hub, hca, hknown, hfresh⟩ := (unionSub_iff hu).1 (compat_union cx.compat hr hu)
  have hcaA : catchAllOf A a = ua.catchAll := by simp [catchAllOf, hu]
  have hcaB : catchAllOf B b = ub.catchAll := by simp [catchAllOf, hub]
  refine ⟨by rw [hcaA, hcaB, hca], ?_, ?_⟩
  · intro tag tdA htA
    rw [publicTag_all cx.wfA hu] at htA
    cases hf : findTag tag (UnionDef.allTags ua) with
    | none => simp [hf] at htA
    | some t =>
      simp only [hf] at htA
      split at htA
      · rename_i hp
        cases htA
        obtain ⟨hm, hn⟩ := findTag_some hf
        obtain ⟨t', ht', hom, hty⟩ := hknown tdA hm
        rw [hn] at ht'
        refine ⟨t', ?_, ?_⟩
        · rw [publicTag_all cx.wfB hub, ht']
          have : isPublicTag t' = true := by simpa [isPublicTag, ← hom] using hp
          simp [this]
        · rw [hcaA, ← hn]; exact hty
      · cases htA
  · intro tag tdB htA htB
    rw [hcaA]
    rcases hfresh with h | h
    · exact h
    · exfalso
      rw [publicTag_all cx.wfB hub] at htB
      cases hf : findTag tag (UnionDef.allTags ub) with
      | none => simp [hf] at htB
      | some t' =>
        simp only [hf] at htB
        split at htB
        · rename_i hp
          cases htB
          obtain ⟨hm, hn⟩ := findTag_some hf
          have := h tdB hm
          rw [hn] at this
          obtain ⟨t, ht⟩ := Option.isSome_iff_exists.mp this
          obtain ⟨hmA, hnA⟩ := findTag_some ht
          obtain ⟨t'', ht'', hom, _⟩ := hknown t hmA
          rw [hnA, hf] at ht''
          cases ht''
          rw [publicTag_all cx.wfA hu, ht] at htA
          have : isPublicTag t = true := by simpa [isPublicTag, hom] using hp
          simp [this] at htA
        · cases htB

/-- the subtype clause of `structSub`; an entry is `(tag path, class, is itself a tree)` -/
structure SubsRel (ρ : Rho) (sa sb : StructDef) : Prop where
  catchAll : sa.catchAll = sb.catchAll
  known : ∀ e ∈ sa.subtypes.getD [], ∃ e', findSub e.1 (sb.subtypes.getD []) = some e' ∧ ρ.rel e.2.1 e'.2.1 = true ∧ e.2.2 = e'.2.2
  fresh : sa.catchAll = true ∨ ∀ e' ∈ sb.subtypes.getD [], (findSub e'.1 (sa.subtypes.getD [])).isSome = true

theorem subsRel {ρ : Rho} {A B : Env} {a b : String} (h : structSub ρ A B a b = true) {sa sb : StructDef}
    (hsa : A.struct? a = some sa) (hsb : B.struct? b = some sb) (hta : sa.subtypes.isSome = true) :
    sb.subtypes.isSome = true ∧ SubsRel ρ sa sb := by
  obtain ⟨sb', hsb', -, -, h3⟩ := (structSub_iff hsa).1 h
  cases hsb.symm.trans hsb'
  cases hxa : sa.subtypes with
  | none => simp [hxa] at hta
  | some xa =>
    cases hxb : sb.subtypes with
    | none => simp [hxa, hxb] at h3
    | some xb =>
      simp only [hxa, hxb, Bool.and_eq_true, beq_iff_eq, List.all_eq_true, Bool.or_eq_true] at h3
      refine ⟨rfl, h3.1.1, ?_, ?_⟩
      · intro e he
        rw [hxa] at he
        rw [hxb]
        simp only [Option.getD_some] at he ⊢
        have := h3.1.2 e he
        cases hf : findSub e.1 xb with
        | none => simp [hf] at this
        | some e' =>
          simp only [hf, Bool.and_eq_true, beq_iff_eq] at this
          exact ⟨e', rfl, this.1, this.2⟩
      · rw [hxa, hxb]
        simp only [Option.getD_some]
        exact h3.2

theorem findSub_some {tags : List String} {xs : List SubEntry} {e : SubEntry} (h : findSub tags xs = some e) :
    e ∈ xs ∧ e.1 = tags := by
  unfold findSub at h
  exact ⟨List.mem_of_find?_eq_some h, by simpa using List.find?_some h⟩

theorem findSub_none {tags : List String} {xs : List SubEntry} (h : findSub tags xs = none) :
    ∀ e ∈ xs, e.1 ≠ tags := by
  unfold findSub at h
  intro e he
  have := List.find?_eq_none.mp h e he
  simpa using this

/-- the `match` is the body `treeClassA` and `treeClassB` share, `o` being `ρ.toA c` / `ρ.toB c` -/
theorem structSubclass_treeClass {env : Env} (hwf : envWF env = true) {root : String} {s : StructDef}
    (hs : env.struct? root = some s) (o : Option String) :
    env.structSubclass (match o with
      | some a => if a == root || (leafTag? env root a).isSome then a else root
      | none => root) root = true := by
  cases o with
  | none => exact structSubclass_self hwf hs
  | some a =>
    simp only []
    split
    · rename_i h
      rw [Bool.or_eq_true, beq_iff_eq] at h
      rcases h with rfl | h
      · exact structSubclass_self hwf hs
      · obtain ⟨tag, ht⟩ := Option.isSome_iff_exists.mp h
        exact structSubclass_leaf hwf ht
    · exact structSubclass_self hwf hs

theorem structSubclass_treeClassA {ρ : Rho} {A : Env} (hwf : envWF A = true) {root c : String} {s : StructDef}
    (hs : A.struct? root = some s) : A.structSubclass (treeClassA ρ A root c) root = true :=
  structSubclass_treeClass hwf hs (ρ.toA c)

theorem structSubclass_treeClassB {ρ : Rho} {B : Env} (hwf : envWF B = true) {root c : String} {s : StructDef}
    (hs : B.struct? root = some s) : B.structSubclass (treeClassB ρ B root c) root = true :=
  structSubclass_treeClass hwf hs (ρ.toB c)

theorem treeClassA_root {ρ : Rho} (hwf : ρ.wf = true) (A : Env) {a b : String} (hr : ρ.rel a b = true) :
    treeClassA ρ A a b = a := by
  simp [treeClassA, Rho.toA_of_rel hwf hr]

theorem treeClassB_root {ρ : Rho} (hwf : ρ.wf = true) (B : Env) {a b : String} (hr : ρ.rel a b = true) :
    treeClassB ρ B b a = b := by
  simp [treeClassB, Rho.toB_of_rel hwf hr]

theorem treeClassA_leaf {ρ : Rho} {A : Env} (hρ : ρ.wf = true) (hwf : envWF A = true) {root tag scA scB : String}
    {s : StructDef} (hs : A.struct? root = some s) (he : ([tag], scA, false) ∈ s.subtypes.getD [])
    (hr : ρ.rel scA scB = true) : treeClassA ρ A root scB = scA := by
  unfold treeClassA
  simp [Rho.toA_of_rel hρ hr, leafTag_of_entry hwf hs he]

theorem treeClassB_leaf {ρ : Rho} {B : Env} (hρ : ρ.wf = true) (hwf : envWF B = true) {root tag scA scB : String}
    {s : StructDef} (hs : B.struct? root = some s) (he : ([tag], scB, false) ∈ s.subtypes.getD [])
    (hr : ρ.rel scA scB = true) : treeClassB ρ B root scA = scB := by
  unfold treeClassB
  simp [Rho.toB_of_rel hρ hr, leafTag_of_entry hwf hs he]

theorem treeClassA_fresh {ρ : Rho} {A B : Env} (cx : Ctx ρ A B) {root rootB tag scB : String} {sa sb : StructDef}
    (hsa : A.struct? root = some sa) (hsb : B.struct? rootB = some sb) (hrel : SubsRel ρ sa sb)
    (heB : ([tag], scB, false) ∈ sb.subtypes.getD []) (hnone : findSub [tag] (sa.subtypes.getD []) = none) :
    treeClassA ρ A root scB = root := by
  unfold treeClassA
  cases hto : ρ.toA scB with
  | none => rfl
  | some a' =>
    simp only []
    by_cases h1 : a' = root
    · simp [h1]
    · have : (leafTag? A root a').isSome = false := by
        cases hl : leafTag? A root a' with
        | none => rfl
        | some t' =>
          exfalso
          obtain ⟨s', hs', he'⟩ := leafTag_inv hl
          rw [hsa] at hs'; cases hs'
          obtain ⟨e'', hf'', hr'', _⟩ := hrel.known _ he'
          obtain ⟨hm'', ht''⟩ := findSub_some hf''
          have hrel' := Rho.rel_of_toA hto
          have hρ := compat_wf cx.compat
          have hcls : e''.2.1 = scB := (Rho.fst_eq_iff_of_wf hρ (Rho.rel_iff.mp hr'') (Rho.rel_iff.mp hrel')).mp rfl
          have heq := subs_class_inj (envWF_struct cx.wfB hsb) hm'' heB (by simpa using hcls)
          rw [heq] at ht''
          simp only at ht''
          -- so A lists the tag after all
          have := findSub_none hnone _ he'
          exact this ht''.symm
      simp [h1, this]

end StoneVerif.Rt.Compat
