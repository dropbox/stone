import StoneVerif.Model.Fmt
/-! Lemmas about the `str.format` subset: escaped text and replacement fields inside a longer buffer. -/
namespace StoneVerif.Fmt

theorem pyFormat_escape_append (named) (pos) (s rest : List Char) :
    pyFormat named pos (escape s ++ rest) = (pyFormat named pos rest).map (s ++ ·) := by
  fun_induction escape s with
  | case1 => simp
  | case2 cs ih => simp [pyFormat, ih, Option.map_map, Function.comp_def]
  | case3 cs ih => simp [pyFormat, ih, Option.map_map, Function.comp_def]
  | case4 c cs h1 h2 ih =>
    rw [List.cons_append, pyFormat]
    · simp [ih, Option.map_map, Function.comp_def]
    all_goals simp_all

theorem validName_no_brace (n : List Char) (h : validName n = true) : ∀ c ∈ n, c ≠ '{' ∧ c ≠ '}' := by
  intro c hc
  cases n with
  | nil => simp at hc
  | cons d ds =>
    simp [validName] at h
    simp at hc
    rcases hc with rfl | hc
    · rcases h.1 with h1 | h1
      · constructor <;> (intro e; subst e; revert h1; decide)
      · subst h1; decide
    · have := h.2 c hc
      simp [validNameChar] at this
      rcases this with h1 | h1
      · constructor <;> (intro e; subst e; revert h1; decide)
      · subst h1; decide

theorem takeName_append (acc n rest : List Char) (h : ∀ c ∈ n, c ≠ '{' ∧ c ≠ '}') :
    takeName acc (n ++ '}' :: rest) = some (acc.reverse ++ n, rest) := by
  induction n generalizing acc with
  | nil => simp [takeName]
  | cons c cs ih =>
    have hc := h c (by simp)
    simp only [List.cons_append]
    rw [takeName]
    · rw [ih (c :: acc) (fun d hd => h d (by simp [hd]))]; simp
    · exact hc.2
    · exact hc.1

theorem pyFormat_field_append (named) (pos) (n rest : List Char) (h : validName n = true) :
    pyFormat named pos ('{' :: n ++ '}' :: rest) =
      if n = [] then
        match pos with
        | v :: pos' => (pyFormat named pos' rest).map (v ++ ·)
        | [] => none
      else
        match lookupNamed named n with
        | some v => (pyFormat named pos rest).map (v ++ ·)
        | none => none := by
  have hb := validName_no_brace n h
  have ht := takeName_append [] n rest hb
  simp only [List.reverse_nil, List.nil_append] at ht
  rw [List.cons_append, pyFormat]
  · split
    · next n' rest' heq =>
      rw [ht] at heq
      obtain ⟨rfl, rfl⟩ := Prod.mk.inj (Option.some.inj heq)
      split
      · cases pos <;> rfl
      · cases lookupNamed named n <;> rfl
    · next heq => rw [ht] at heq; cases heq
  · intro cs' e
    cases n with
    | nil => cases e
    | cons c cs => exact (hb c (by simp)).1 (List.cons.inj e).1

theorem pyFormat_renderSegs (named) (pos) (segs : List Seg)
    (h : ∀ n, Seg.field n ∈ segs → validName n = true) :
    pyFormat named pos (renderSegs segs) = expand named pos segs := by
  induction segs generalizing pos with
  | nil => simp [renderSegs, expand, pyFormat]
  | cons s rest ih =>
    have hrest : ∀ n, Seg.field n ∈ rest → validName n = true := fun n hn => h n (by simp [hn])
    cases s with
    | lit t =>
      simp only [renderSegs, List.map_cons, List.flatten_cons, encodeSeg, expand]
      rw [pyFormat_escape_append]
      have := ih pos hrest
      simp only [renderSegs] at this
      rw [this]
    | field n =>
      have hv := h n (by simp)
      simp only [renderSegs, List.map_cons, List.flatten_cons, encodeSeg, expand]
      have e : ('{' :: n ++ ['}']) ++ (rest.map encodeSeg).flatten = '{' :: n ++ '}' :: (rest.map encodeSeg).flatten := by simp
      rw [e, pyFormat_field_append named pos n _ hv]
      have ih' := fun p => ih p hrest
      simp only [renderSegs] at ih'
      by_cases hn : n = []
      · simp only [hn, if_true]
        cases pos with
        | nil => rfl
        | cons v p => simp [ih']
      · simp only [hn, if_false]
        cases lookupNamed named n <;> simp [ih']

end StoneVerif.Fmt
