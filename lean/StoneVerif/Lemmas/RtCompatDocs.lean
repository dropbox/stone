import StoneVerif.Lemmas.RtCompat
import StoneVerif.Lemmas.RtModelDecode
/-!
The three predicates on documents in C07's statements, unfolded at each type and kind of document: `knownDoc A t j` (the
document holds nothing spec `A` does not know), `tightDoc A t j` (it is in the form `A`'s
encoder writes), `nvrDoc ρ A B t j` (it uses no tag that is Void in `A` and non-nullable in `B`).
-/
namespace StoneVerif.Rt.Compat

theorem knownMembers_iff (A : Env) (tbl : List (String × PTy)) : ∀ kvs : List (String × JVal),
    knownMembers A tbl kvs = true ↔ ∀ kx ∈ kvs, (match tbl.find? (·.1 == kx.1) with
      | some (_, ft) => knownDoc A ft kx.2
      | none => kx.1.startsWith ".tag") = true
  | [] => by simp [knownMembers]
  | (k, x) :: rest => by
    simp only [knownMembers, Bool.and_eq_true, List.forall_mem_cons, knownMembers_iff A tbl rest]
    exact Iff.rfl

theorem knownDoc_prim (A : Env) {t : PTy} (hp : isPrimTy t = true) (hv : isVoidT t = false) (j : JVal) :
    knownDoc A t j = true := by
  cases t <;> simp only [isPrimTy, Bool.false_eq_true] at hp <;> simp only [isVoidT, Bool.true_eq_false] at hv <;>
    (unfold knownDoc; cases j <;> rfl)

theorem knownDoc_null (A : Env) (t : PTy) : knownDoc A t .null = true := by
  unfold knownDoc
  split <;> rfl

theorem knownDoc_void (A : Env) (fl : Flags) (j : JVal) : knownDoc A (.void fl) j = isNullJ j := by
  unfold knownDoc; cases j <;> rfl

theorem knownDoc_list_arr (A : Env) (fl : Flags) (item : PTy) (a b : Option Nat) (xs : List JVal) :
    knownDoc A (.list fl item a b) (.arr xs) = knownList A item xs := by
  unfold knownDoc; rfl

theorem knownDoc_map_obj (A : Env) (fl : Flags) (kt vt : PTy) (kvs : List (String × JVal)) :
    knownDoc A (.map fl kt vt) (.obj kvs) = knownVals A vt kvs := by
  unfold knownDoc; rfl

theorem knownDoc_struct_obj (A : Env) (fl : Flags) (c : String) (kvs : List (String × JVal)) :
    knownDoc A (.struct fl c) (.obj kvs) = knownMembers A (structTable A c) kvs := by
  unfold knownDoc; rfl

theorem knownDoc_tree_obj (A : Env) (fl : Flags) (c : String) (kvs : List (String × JVal)) {tag : String} {s : StructDef}
    (ht : jsonLookup ".tag" kvs = some (.str tag)) (hs : A.struct? c = some s) :
    knownDoc A (.tree fl c) (.obj kvs) =
      match findSub [tag] (s.subtypes.getD []) with
      | some (_, sc, false) => knownMembers A (structTable A sc) kvs
      | _ => false := by
  unfold knownDoc
  simp only [isVoidT, Bool.false_eq_true, if_false, ht, hs]
  rfl

theorem knownDoc_union_str (A : Env) (fl : Flags) (c tag : String) :
    knownDoc A (.union fl c) (.str tag) = (publicTag? A c tag).isSome := by
  unfold knownDoc; rfl

theorem knownDoc_union_unknown (A : Env) (fl : Flags) (c : String) {kvs : List (String × JVal)} {tag : String}
    (hk : jsonLookup ".tag" kvs = some (.str tag)) (ht : publicTag? A c tag = none) :
    knownDoc A (.union fl c) (.obj kvs) = false := by
  unfold knownDoc
  simp only [isVoidT_union, Bool.false_eq_true, if_false, hk, ht]

section
variable (A : Env) (fl : Flags) (c : String) {kvs : List (String × JVal)} {tag : String} {td : TagDef}
  (hk : jsonLookup ".tag" kvs = some (.str tag)) (ht : publicTag? A c tag = some td)
include hk ht

theorem knownDoc_union_void (hv : isVoidT td.ty = true) :
    knownDoc A (.union fl c) (.obj kvs) =
      kvs.all fun kx => kx.1 == ".tag" || (kx.1 == tag && (match kx.2 with | .null => true | _ => false)) := by
  unfold knownDoc
  simp only [isVoidT_union, Bool.false_eq_true, if_false, hk, ht, hv, if_true]
  rfl

theorem knownDoc_union_struct {sfl : Flags} {sc : String}
    (hq : td.ty = .struct sfl sc) :
    knownDoc A (.union fl c) (.obj kvs) = knownMembers A (structTable A sc) kvs := by
  have hv : isVoidT td.ty = false := by rw [hq]; rfl
  unfold knownDoc
  simp only [isVoidT_union, Bool.false_eq_true, if_false, hk, ht, hv]
  rw [hq]

theorem knownDoc_union_nested (hv : isVoidT td.ty = false) (hp : isPlainStruct td.ty = false) :
    knownDoc A (.union fl c) (.obj kvs) = knownMembers A [(tag, td.ty.withFlags {})] kvs := by
  unfold knownDoc
  simp only [isVoidT_union, Bool.false_eq_true, if_false, hk, ht, hv]
  cases hq : td.ty <;> first | rfl | (rw [hq] at hp; cases hp)

end

theorem tightMembers_iff (A : Env) (tbl : List (String × PTy)) : ∀ kvs : List (String × JVal),
    tightMembers A tbl kvs = true ↔ ∀ kx ∈ kvs, (match tbl.find? (·.1 == kx.1) with
      | some (_, ft) => tightDoc A ft kx.2
      | none => kx.1 == ".tag") = true
  | [] => by simp [tightMembers]
  | (k, x) :: rest => by
    simp only [tightMembers, Bool.and_eq_true, List.forall_mem_cons, tightMembers_iff A tbl rest]
    exact Iff.rfl

theorem tightMembers_key (A : Env) (tbl : List (String × PTy)) (kvs : List (String × JVal))
    (h : tightMembers A tbl kvs = true) (k : String) (x : JVal) (hm : (k, x) ∈ kvs) :
    (tbl.find? (·.1 == k)).isSome = true ∨ k = ".tag" := by
  have h1 := (tightMembers_iff A tbl kvs).1 h (k, x) hm
  cases hf : tbl.find? (·.1 == k) with
  | some p => exact .inl rfl
  | none => simp only [hf, beq_iff_eq] at h1; exact .inr h1

theorem tightDoc_null (A : Env) (t : PTy) : tightDoc A t .null = true := by
  unfold tightDoc
  split <;> rfl

theorem tightDoc_withFlags (A : Env) (t : PTy) (fl : Flags) (j : JVal) :
    tightDoc A (t.withFlags fl) j = tightDoc A t j := by
  cases t <;> (unfold tightDoc; rfl)

theorem tightDoc_prim (A : Env) {t : PTy} (hp : isPrimTy t = true) (hv : isVoidT t = false) (j : JVal) :
    tightDoc A t j = true := by
  cases t <;> simp only [isPrimTy, Bool.false_eq_true] at hp <;> simp only [isVoidT, Bool.true_eq_false] at hv <;>
    (unfold tightDoc; cases j <;> rfl)

theorem tightDoc_void (A : Env) (fl : Flags) (j : JVal) : tightDoc A (.void fl) j = isNullJ j := by
  unfold tightDoc; cases j <;> rfl

theorem tightDoc_list_arr (A : Env) (fl : Flags) (item : PTy) (a b : Option Nat) (xs : List JVal) :
    tightDoc A (.list fl item a b) (.arr xs) = tightList A item xs := by
  unfold tightDoc; rfl

theorem tightDoc_map_obj (A : Env) (fl : Flags) (kt vt : PTy) (kvs : List (String × JVal)) :
    tightDoc A (.map fl kt vt) (.obj kvs) = tightVals A vt kvs := by
  unfold tightDoc; rfl

theorem tightDoc_struct_obj (A : Env) (fl : Flags) (c : String) (kvs : List (String × JVal)) :
    tightDoc A (.struct fl c) (.obj kvs) = tightMembers A (structTable A c) kvs := by
  unfold tightDoc; rfl

theorem tightDoc_tree_obj (A : Env) (fl : Flags) (c : String) (kvs : List (String × JVal)) {tag : String} {s : StructDef}
    (ht : jsonLookup ".tag" kvs = some (.str tag)) (hs : A.struct? c = some s) :
    tightDoc A (.tree fl c) (.obj kvs) =
      match findSub [tag] (s.subtypes.getD []) with
      | some (_, sc, false) => tightMembers A (structTable A sc) kvs
      | _ => false := by
  unfold tightDoc
  simp only [isVoidT, Bool.false_eq_true, if_false, ht, hs]
  rfl

theorem tightDoc_union_str (A : Env) (fl : Flags) (c tag : String) :
    tightDoc A (.union fl c) (.str tag) = (publicTag? A c tag).isSome := by
  unfold tightDoc; rfl

theorem tightDoc_union_unknown (A : Env) (fl : Flags) (c : String) {kvs : List (String × JVal)} {tag : String}
    (hk : jsonLookup ".tag" kvs = some (.str tag)) (ht : publicTag? A c tag = none) :
    tightDoc A (.union fl c) (.obj kvs) = false := by
  unfold tightDoc
  simp only [isVoidT_union, Bool.false_eq_true, if_false, hk, ht]

section
variable (A : Env) (fl : Flags) (c : String) {kvs : List (String × JVal)} {tag : String} {td : TagDef}
  (hk : jsonLookup ".tag" kvs = some (.str tag)) (ht : publicTag? A c tag = some td)
include hk ht

theorem tightDoc_union_void (hv : isVoidT td.ty = true) :
    tightDoc A (.union fl c) (.obj kvs) = (kvs.length == 1) := by
  unfold tightDoc
  simp only [isVoidT_union, Bool.false_eq_true, if_false, hk, ht, hv, if_true]

theorem tightDoc_union_struct {sfl : Flags} {sc : String}
    (hq : td.ty = .struct sfl sc) :
    tightDoc A (.union fl c) (.obj kvs) = tightMembers A (structTable A sc) kvs := by
  have hv : isVoidT td.ty = false := by rw [hq]; rfl
  unfold tightDoc
  simp only [isVoidT_union, Bool.false_eq_true, if_false, hk, ht, hv]
  rw [hq]

theorem tightDoc_union_nested (hv : isVoidT td.ty = false) (hp : isPlainStruct td.ty = false) :
    tightDoc A (.union fl c) (.obj kvs) = tightMembers A [(tag, td.ty.withFlags {})] kvs := by
  unfold tightDoc
  simp only [isVoidT_union, Bool.false_eq_true, if_false, hk, ht, hv]
  cases hq : td.ty <;> first | rfl | (rw [hq] at hp; cases hp)

end

theorem nvrMembers_iff (ρ : Rho) (A B : Env) (tbl : List (String × PTy)) : ∀ kvs : List (String × JVal),
    nvrMembers ρ A B tbl kvs = true ↔ ∀ kx ∈ kvs, (match tbl.find? (·.1 == kx.1) with
      | some (_, ft) => nvrDoc ρ A B ft kx.2
      | none => true) = true
  | [] => by simp [nvrMembers]
  | (k, x) :: rest => by
    simp only [nvrMembers, Bool.and_eq_true, List.forall_mem_cons, nvrMembers_iff ρ A B tbl rest]
    exact Iff.rfl

theorem nvrDoc_withFlags (ρ : Rho) (A B : Env) (t : PTy) (fl : Flags) (j : JVal) :
    nvrDoc ρ A B (t.withFlags fl) j = nvrDoc ρ A B t j := by
  cases t <;> (unfold nvrDoc; rfl)

theorem nvrDoc_prim (ρ : Rho) (A B : Env) {t : PTy} (hp : isPrimTy t = true) (j : JVal) : nvrDoc ρ A B t j = true := by
  cases t <;> simp only [isPrimTy, Bool.false_eq_true] at hp <;> (unfold nvrDoc; cases j <;> rfl)

theorem nvrDoc_list_arr (ρ : Rho) (A B : Env) (fl : Flags) (item : PTy) (a b : Option Nat) (xs : List JVal) :
    nvrDoc ρ A B (.list fl item a b) (.arr xs) = nvrList ρ A B item xs := by
  unfold nvrDoc; rfl

theorem nvrDoc_map_obj (ρ : Rho) (A B : Env) (fl : Flags) (kt vt : PTy) (kvs : List (String × JVal)) :
    nvrDoc ρ A B (.map fl kt vt) (.obj kvs) = nvrVals ρ A B vt kvs := by
  unfold nvrDoc; rfl

theorem nvrDoc_struct_obj (ρ : Rho) (A B : Env) (fl : Flags) (c : String) (kvs : List (String × JVal)) :
    nvrDoc ρ A B (.struct fl c) (.obj kvs) = nvrMembers ρ A B (structTable A c) kvs := by
  unfold nvrDoc; rfl

theorem nvrDoc_tree_obj (ρ : Rho) (A B : Env) (fl : Flags) (c : String) (kvs : List (String × JVal)) {tag : String} {s : StructDef}
    (ht : jsonLookup ".tag" kvs = some (.str tag)) (hs : A.struct? c = some s) :
    nvrDoc ρ A B (.tree fl c) (.obj kvs) =
      match findSub [tag] (s.subtypes.getD []) with
      | some (_, sc, false) => nvrMembers ρ A B (structTable A sc) kvs
      | _ => true := by
  unfold nvrDoc
  simp only [ht, hs]
  rfl

theorem nvrDoc_union_str (ρ : Rho) (A B : Env) (fl : Flags) (c tag : String) :
    nvrDoc ρ A B (.union fl c) (.str tag) = !voidToRequired ρ A B c tag := by
  unfold nvrDoc; rfl

section
variable (ρ : Rho) (A B : Env) (fl : Flags) (c : String) {kvs : List (String × JVal)} {tag : String} {td : TagDef}
  (hk : jsonLookup ".tag" kvs = some (.str tag)) (ht : publicTag? A c tag = some td)
include hk ht

theorem nvrDoc_union_void (hv : isVoidT td.ty = true) :
    nvrDoc ρ A B (.union fl c) (.obj kvs) = !voidToRequired ρ A B c tag := by
  unfold nvrDoc
  simp only [hk, ht, hv, if_true, Bool.and_true]

theorem nvrDoc_union_struct {sfl : Flags} {sc : String}
    (hq : td.ty = .struct sfl sc) :
    nvrDoc ρ A B (.union fl c) (.obj kvs) = (!voidToRequired ρ A B c tag && nvrMembers ρ A B (structTable A sc) kvs) := by
  have hv : isVoidT td.ty = false := by rw [hq]; rfl
  unfold nvrDoc
  simp only [hk, ht, hv, Bool.false_eq_true, if_false]
  rw [hq]

theorem nvrDoc_union_nested (hv : isVoidT td.ty = false) (hp : isPlainStruct td.ty = false) :
    nvrDoc ρ A B (.union fl c) (.obj kvs) =
      (!voidToRequired ρ A B c tag && nvrMembers ρ A B [(tag, td.ty.withFlags {})] kvs) := by
  unfold nvrDoc
  simp only [hk, ht, hv, Bool.false_eq_true, if_false]
  cases hq : td.ty <;> first | rfl | (rw [hq] at hp; cases hp)

end

end StoneVerif.Rt.Compat
