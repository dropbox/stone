import StoneVerif.Lemmas.RtCompatValidate
import StoneVerif.Lemmas.RtCompatReadings
import StoneVerif.Lemmas.RtCompatDocs
/-!
The backward simulation: a document in the older spec's encoder form (`tightDoc`) that the older spec's decoder accepts, and
that uses no tag that is Void in A and non-nullable in B (`nvrDoc`), is accepted by the newer spec's decoder (either mode) as
the same value seen under the newer spec — common fields decoded pairwise, new fields finding no member and staying unset.
`decode_lift` is the induction over the document behind `backward_compat`.
-/
namespace StoneVerif.Rt.Compat

def ChildRelB (ρ : Rho) (B : Env) (cA cB : List (String × R PyVal)) (name : String) (tB : PTy) : Prop :=
  match childLookup name cA with
  | some (.ok x) => childLookup name cB = some (.ok (lift ρ B tB x))
  | some (.error _) => True
  | none => childLookup name cB = none

theorem fieldStep_lift (E : Ext) {ρ : Rho} {A B : Env} (cx : Ctx ρ A B) {f g : FieldDef} (hsub : fieldSub ρ f g = true)
    (hw : tyWF A f.ty = true) {cA cB : List (String × R PyVal)} (hch : ChildRelB ρ B cA cB g.name g.ty)
    (o : Option PyVal) (h : fieldStep E A cA f = .ok o) :
    fieldStep E B cB g = .ok (o.map (lift ρ B g.ty)) := by
  obtain ⟨hty, _, hnul, hud, _⟩ := fieldSub_parts hsub
  unfold ChildRelB at hch
  rw [← fieldSub_name hsub] at hch
  exact fieldStep_transport (fieldSub_name hsub) hnul hud (isNoneV_lift ρ B g.ty) (validateTypeOnly_lift cx hty hw)
    (validate_lift E cx (.of_eq_true hty) hw) (hasDefault_sub cx.compat cx.wfB hty hw)
    (lift_getDefault (compat_wf cx.compat) hty) hch o h

theorem fieldStep_new (E : Ext) {B : Env} {g : FieldDef} (hnew : newFieldOk B g = true)
    {cB : List (String × R PyVal)} (hc : childLookup g.name cB = none) :
    fieldStep E B cB g = .ok none := by
  unfold fieldStep
  simp only [hc]
  simp only [newFieldOk, Bool.or_eq_true, Bool.and_eq_true, Bool.not_eq_true'] at hnew
  -- the two clauses of `newFieldOk`: the default `None` of a nullable attribute is stored as "unset"; a validator without a
  -- default is skipped
  rcases hnew with ⟨h1, h2⟩ | ⟨_, h2⟩
  · have hd : hasDefault B g.ty = true := by simp [hasDefault, h2]
    have hg : getDefault g.ty = .none := by simp [getDefault, h2]
    simp [hd, hg, storeVal, h1, isNoneV]
  · simp [h2]

theorem tightMembers_strict_ok (A B : Env) (a b : String)
    (hnames : ∀ n, n ∈ (publicFields A a).map (·.name) → n ∈ (publicFields B b).map (·.name))
    (kvs : List (String × JVal)) (h : tightMembers A (structTable A a) kvs = true) :
    kvs.any (fun kx => !((publicFields B b).map (·.name)).contains kx.1 && !kx.1.startsWith ".tag") = false := by
  refine List.any_eq_false.2 fun kx hm => ?_
  rcases tightMembers_key A _ kvs h kx.1 kx.2 hm with hs | ht
  · rw [structTable, table_contains, List.contains_eq_mem, decide_eq_true_eq] at hs
    simp [hnames _ hs]
  · simp [ht]

theorem finishStruct_lift (E : Ext) {ρ : Rho} {A B : Env} (cx : Ctx ρ A B) {a b : String} {sa sb : StructDef}
    (hsa : A.struct? a = some sa) (hsb : B.struct? b = some sb)
    (hrel : FieldsRel ρ B (publicFields A a) (publicFields B b))
    (kvs : List (String × JVal)) {cA cB : List (String × R PyVal)}
    (hch : ∀ f ∈ publicFields A a, ∀ g ∈ publicFields B b, fieldSub ρ f g = true → ChildRelB ρ B cA cB g.name g.ty)
    (hnewc : ∀ g ∈ publicFields B b, (∀ f ∈ publicFields A a, f.name ≠ g.name) → childLookup g.name cB = none)
    (sA sB : Bool) (w : PyVal)
    (hk : tightMembers A (structTable A a) kvs = true)
    (h : finishStruct E A [] sA a kvs cA = .ok w) :
    ∃ slotsA, w = .struct a slotsA ∧
      finishStruct E B [] sB b kvs cB =
        .ok (.struct b (orderSlots (publicFields B b) (liftSlots ρ B (publicFields B b) slotsA))) := by
  have hnames : ∀ n, n ∈ (publicFields A a).map (·.name) → n ∈ (publicFields B b).map (·.name) := by
    intro n hn
    obtain ⟨f, hf, rfl⟩ := List.mem_map.mp hn
    obtain ⟨g, hg, hsub⟩ := hrel.common f hf
    exact List.mem_map.mpr ⟨g, hg, (fieldSub_name hsub).symm⟩
  refine finishStruct_transport E cx.wfA cx.wfB hsa hsb (lookupSlot_liftSlots ρ B _) kvs sA sB w ?_ ?_
    (fun slots hall => fieldsOk_lift hrel hrel.nodupB (fun g' hg' => List.mem_map.mpr ⟨g', hg', rfl⟩) slots hall) h
  · rw [tightMembers_strict_ok A B a b hnames kvs hk]; simp
  · intro slotsA hrun g hg
    rcases fieldsRel_partner hrel hg with ⟨f, hf, hsub⟩ | ⟨hno, hnew⟩
    · have := fieldStep_lift E cx hsub (publicFields_tyWF cx.wfA hf) (hch f hf g hg hsub) _
        (runFields_steps E A cA _ slotsA hrun ((nodupS_iff _).1 hrel.nodupA) f hf)
      rw [← fieldSub_name hsub]; exact this
    · have hnone : lookupSlot g.name slotsA = none := by
        apply lookupSlot_runFields_of_not_mem E A cA g.name _ slotsA hrun
        intro hm
        obtain ⟨f, hf, hn⟩ := List.mem_map.mp hm
        exact hno f hf hn
      rw [hnone]
      exact fieldStep_new E hnew (hnewc g hg hno)

def MembersIHB (E : Ext) (ρ : Rho) (A B : Env) (sA sB : Bool) (kvs : List (String × JVal)) : Prop :=
  ∀ (tblA tblB : List (String × PTy)) (k : String) (ftA ftB : PTy),
    tightMembers A tblA kvs = true → nvrMembers ρ A B tblA kvs = true →
    tblA.find? (·.1 == k) = some (k, ftA) → tblB.find? (·.1 == k) = some (k, ftB) →
    tySub ρ ftA ftB = true → tyWF A ftA = true →
    ChildRelB ρ B (decodeMembers E A [] sA tblA kvs) (decodeMembers E B [] sB tblB kvs) k ftB

theorem children_struct_lift {E : Ext} {ρ : Rho} {A B : Env} (cx : Ctx ρ A B) {a b : String} {sA sB : Bool}
    {kvs : List (String × JVal)} (hIH : MembersIHB E ρ A B sA sB kvs)
    (hk : tightMembers A (structTable A a) kvs = true) (hn : nvrMembers ρ A B (structTable A a) kvs = true) :
    (∀ f ∈ publicFields A a, ∀ g ∈ publicFields B b, fieldSub ρ f g = true →
      ChildRelB ρ B (decodeMembers E A [] sA (structTable A a) kvs) (decodeMembers E B [] sB (structTable B b) kvs) g.name g.ty) ∧
    (∀ g ∈ publicFields B b, (∀ f ∈ publicFields A a, f.name ≠ g.name) →
      childLookup g.name (decodeMembers E B [] sB (structTable B b) kvs) = none) := by
  constructor
  · intro f hf g hg hsub
    have h1 := structTable_find cx.wfA hf
    have h2 := structTable_find cx.wfB hg
    rw [fieldSub_name hsub] at h1
    exact hIH _ _ g.name f.ty g.ty hk hn h1 h2 (fieldSub_parts hsub).1 (publicFields_tyWF cx.wfA hf)
  · intro g hg hno
    apply childLookup_none_of_absent
    intro x hx
    rcases tightMembers_key A _ kvs hk g.name x hx with h1 | h1
    · obtain ⟨p, hp⟩ := Option.isSome_iff_exists.mp h1
      have hm := List.mem_of_find?_eq_some hp
      have hpn : p.1 = g.name := by simpa using List.find?_some hp
      unfold structTable at hm
      obtain ⟨f, hf, hfp⟩ := List.mem_map.mp hm
      exact hno f hf (by rw [← hpn, ← hfp])
    · exact publicFields_ne_tag cx.wfB _ _ hg h1

theorem decode_struct_lift (E : Ext) {ρ : Rho} {A B : Env} (cx : Ctx ρ A B) {f g : Flags} {c c' : String}
    (hr : ρ.rel c c' = true) {sa : StructDef} (hsa : A.struct? c = some sa) (kvs : List (String × JVal)) (sA sB : Bool)
    (w : PyVal) (hIH : MembersIHB E ρ A B sA sB kvs)
    (hk : tightDoc A (.struct f c) (.obj kvs) = true) (hn : nvrDoc ρ A B (.struct f c) (.obj kvs) = true)
    (h : decode E A [] sA (.struct f c) (.obj kvs) = .ok w) :
    decode E B [] sB (.struct g c') (.obj kvs) = .ok (lift ρ B (.struct g c') w) := by
  obtain ⟨sb, hsb⟩ := struct_related cx.compat hr hsa
  have hrel := fieldsRel_public cx.compat cx.wfA cx.wfB hr hsa
  rw [tightDoc_struct_obj] at hk
  rw [nvrDoc_struct_obj] at hn
  rw [decode_struct_obj_structTable E sA f hsa] at h
  rw [decode_struct_obj_structTable E sB g hsb]
  obtain ⟨hc1, hc2⟩ := children_struct_lift (b := c') (sA := sA) (sB := sB) cx hIH hk hn
  obtain ⟨slotsA, hw, hB⟩ := finishStruct_lift E cx hsa hsb hrel kvs hc1 hc2 sA sB w hk h
  rw [hB, hw, lift_struct_struct]

theorem decode_tree_lift (E : Ext) {ρ : Rho} {A B : Env} (cx : Ctx ρ A B) {f g : Flags} {c c' : String}
    (hr : ρ.rel c c' = true) {sa : StructDef} (hsa : A.struct? c = some sa) (hta : sa.subtypes.isSome = true)
    (kvs : List (String × JVal)) (sA sB : Bool) (w : PyVal) (hIH : MembersIHB E ρ A B sA sB kvs)
    (hk : tightDoc A (.tree f c) (.obj kvs) = true) (hn : nvrDoc ρ A B (.tree f c) (.obj kvs) = true)
    (h : decode E A [] sA (.tree f c) (.obj kvs) = .ok w) :
    decode E B [] sB (.tree g c') (.obj kvs) = .ok (lift ρ B (.tree g c') w) := by
  obtain ⟨sb, hsb⟩ := struct_related cx.compat hr hsa
  obtain ⟨_, hsubs⟩ := subsRel (compat_struct cx.compat hr hsa) hsa hsb hta
  have hρ := compat_wf cx.compat
  obtain ⟨tag, ht⟩ := decode_tree_tag h
  rw [decode_tree_obj E A sA f c kvs ht hsa] at h
  rw [decode_tree_obj E B sB g c' kvs ht hsb]
  rw [tightDoc_tree_obj A f c kvs ht hsa] at hk
  rw [nvrDoc_tree_obj ρ A B f c kvs ht hsa] at hn
  cases hfA : findSub [tag] (sa.subtypes.getD []) with
  | none => simp [hfA] at hk
  | some eA =>
    obtain ⟨tagsA, scA, trA⟩ := eA
    obtain ⟨hmA, htA⟩ := findSub_some hfA
    simp only at htA
    subst htA
    cases trA with
    | true => simp [hfA] at hk
    | false =>
      simp only [hfA] at hk hn h
      simp only [Bool.false_eq_true, if_false] at h
      obtain ⟨e', hf', hr', htr'⟩ := hsubs.known _ hmA
      simp only at hf' hr' htr'
      obtain ⟨tagsB, scB, trB⟩ := e'
      simp only at hr' htr'
      subst htr'
      obtain ⟨hmB, htB⟩ := findSub_some hf'
      simp only at htB
      subst htB
      obtain ⟨_, dA, hdA⟩ := structSubclass_entry cx.wfA hsa hmA
      obtain ⟨_, dB, hdB⟩ := structSubclass_entry cx.wfB hsb hmB
      simp only at hdA hdB
      have hrel := fieldsRel_public cx.compat cx.wfA cx.wfB hr' hdA
      obtain ⟨hc1, hc2⟩ := children_struct_lift (b := scB) (sA := sA) (sB := sB) cx hIH hk hn
      obtain ⟨slotsA, hw, hB⟩ := finishStruct_lift E cx hdA hdB hrel kvs hc1 hc2 sA sB w hk h
      simp only [hf', Bool.false_eq_true, if_false, hB, hw, lift_tree_struct,
        treeClassB_leaf hρ cx.wfB hsb hmB hr']

theorem mkUnion_lift (E : Ext) {ρ : Rho} {A B : Env} (cx : Ctx ρ A B) {a b tag : String} {ua ub : UnionDef} {tdA tdB : TagDef}
    (hua : A.union? a = some ua) (hub : B.union? b = some ub)
    (htA : publicTag? A a tag = some tdA) (htB : publicTag? B b tag = some tdB)
    (hty : tySub ρ tdA.ty tdB.ty = true) (x w : PyVal) (h : mkUnion E A a tag x = .ok w) :
    w = .union a tag x ∧ mkUnion E B b tag (lift ρ B tdB.ty x) = .ok (.union b tag (lift ρ B tdB.ty x)) :=
  have hw := publicTag_tyWF cx.wfA htA
  mkUnion_transport hua hub (ctorValidator_of_public cx.wfA hua htA) (ctorValidator_of_public cx.wfB hub htB)
    (tySub_nullable hty) (tySub_isVoid hty) (tySub_isUserTyC08 hty) (isNoneV_lift ρ B tdB.ty)
    (validateTypeOnly_lift cx hty hw) (validate_lift E cx (.of_eq_true hty) hw) x w h

theorem not_voidToRequired {ρ : Rho} {A B : Env} (hρ : ρ.wf = true) {c c' tag : String} (hr : ρ.rel c c' = true)
    {tdA tdB : TagDef} (htA : publicTag? A c tag = some tdA) (htB : publicTag? B c' tag = some tdB)
    (hv : isVoidT tdA.ty = true) (h : (!voidToRequired ρ A B c tag) = true) :
    (isVoidT tdB.ty || tdB.ty.flags.nullable) = true := by
  simp only [voidToRequired, htA, hv, Rho.toB_of_rel hρ hr, Option.bind_some, htB, Bool.true_and, Bool.not_not] at h
  exact h

theorem decode_union_lift (E : Ext) {ρ : Rho} {A B : Env} (cx : Ctx ρ A B) {f g : Flags} {c c' : String}
    (hr : ρ.rel c c' = true) {ua : UnionDef} (hua : A.union? c = some ua) (j : JVal) (sA sB : Bool) (w : PyVal)
    (hnn : (f.nullable && isNullJ j) = false)
    (hIH : ∀ kvs, j = .obj kvs → MembersIHB E ρ A B sA sB kvs)
    (hk : tightDoc A (.union f c) j = true) (hn : nvrDoc ρ A B (.union f c) j = true)
    (h : decode E A [] sA (.union f c) j = .ok w) :
    decode E B [] sB (.union g c') j = .ok (lift ρ B (.union g c') w) := by
  obtain ⟨ub, hub, hcaEq, -⟩ := (unionSub_iff hua).1 (compat_union cx.compat hr hua)
  have hT := tagsRel cx hr hua
  have hρ := compat_wf cx.compat
  apply UnionOk.decode_eq cx.wfB hub g
  cases UnionOk.of_decode cx.wfA hua hnn h with
  | @fallback j tag ca hj ht =>
    -- a tight document names no tag A does not know
    exfalso
    rcases docTag_cases hj with rfl | ⟨kvs, rfl, hk'⟩
    · simp [tightDoc_union_str, ht] at hk
    · simp [tightDoc_union_unknown A f c hk' ht] at hk
  | @symbol tag tdA htA hvn hnc =>
    obtain ⟨tdB, htB, hty⟩ := hT.known tag tdA htA
    rw [nvrDoc_union_str] at hn
    rw [lift_union_none ρ B g c htB]
    refine .symbol htB ?_ (hcaEq ▸ hnc)
    rcases hty with hty | ⟨hvoid, _⟩
    · rw [← tySub_isVoid hty, ← tySub_nullable hty]; exact hvn
    · exact not_voidToRequired hρ hr htA htB hvoid hn
  | @void kvs tag tdA ht htA hnc hvA hs =>
    -- Void in A: the bare tag object (`tightDoc`: beside `tag: null` B would decode a member);
    -- B reads it as Void, or as an absent nullable member
    obtain ⟨tdB, htB, hty⟩ := hT.known tag tdA htA
    rw [tightDoc_union_void A f c ht htA hvA] at hk
    rw [nvrDoc_union_void ρ A B f c ht htA hvA] at hn
    cases only_tag ht hk
    rw [lift_union_none ρ B g c htB]
    have hncB : (some tag == ub.catchAll) = false := hcaEq ▸ hnc
    have hne := publicTag_ne_dotTag cx.wfB htB
    have hne' : (".tag" == tag) = false := by simpa using fun h => hne h.symm
    have hBok : (isVoidT tdB.ty || tdB.ty.flags.nullable) = true := by
      rcases hty with hty | ⟨hvoid, _⟩
      · rw [← tySub_isVoid hty, hvA]; rfl
      · exact not_voidToRequired hρ hr htA htB hvoid hn
    cases hvB : isVoidT tdB.ty with
    | true => exact .void ht htB hncB hvB (by simp [voidExtra, jsonLookup, hne'])
    | false =>
      have hnl : tdB.ty.flags.nullable = true := by simpa [hvB] using hBok
      cases hp : isPlainStruct tdB.ty with
      | true =>
        obtain ⟨gB, scB, hqB⟩ := isPlainStruct_iff.1 hp
        exact .bare htB hncB hqB (by simpa [hqB, PTy.flags] using hnl)
      | false =>
        refine .nested ht htB hncB hvB hp (v := .none) ?_ (by simp) (mkUnion_none_public cx.wfB hub htB (by rw [hnl, Bool.or_true]))
        simp [decodeMembers, childLookup, payloadOf, jsonLookup, hne', hnl, hne]
  | @bare tag tdA fA scA htA hnc hqA hnA =>
    obtain ⟨tdB, htB, hty⟩ := hT.known tag tdA htA
    have hty := hty.resolve_right fun hv => by rw [hqA] at hv; cases hv.1
    have hnl := tySub_nullable hty
    rw [hqA] at hty
    obtain ⟨gB, scB, hqB, hty⟩ := tySub_struct_left hty
    rw [lift_union_none ρ B g c htB]
    exact .bare htB (hcaEq ▸ hnc) hqB (hty.1 ▸ hnA)
  | @struct kvs tag tdA fA scA v w ht htA hnc hqA hl hfin hmk =>
    obtain ⟨tdB, htB, hty⟩ := hT.known tag tdA htA
    have htySub := hty.resolve_right fun hv => by rw [hqA] at hv; cases hv.1
    have hwA := publicTag_tyWF cx.wfA htA
    have hty := htySub
    rw [hqA] at hty
    obtain ⟨gB, scB, hqB, hty⟩ := tySub_struct_left hty
    rw [tightDoc_union_struct A f c ht htA hqA] at hk
    rw [nvrDoc_union_struct ρ A B f c ht htA hqA] at hn
    simp only [Bool.and_eq_true] at hn
    obtain ⟨sa', hsa', -⟩ : ∃ sa', A.struct? scA = some sa' ∧ sa'.subtypes.isNone = true := tyWF_struct (hqA ▸ hwA)
    obtain ⟨sb', hsb'⟩ := struct_related cx.compat hty.2 hsa'
    have hrel := fieldsRel_public cx.compat cx.wfA cx.wfB hty.2 hsa'
    obtain ⟨hc1, hc2⟩ := children_struct_lift (b := scB) (sA := sA) (sB := sB) cx (hIH kvs rfl) hk hn.2
    obtain ⟨slotsA, hvw, hB⟩ := finishStruct_lift E cx hsa' hsb' hrel kvs hc1 hc2 sA sB v hk hfin
    obtain ⟨hw, hmk⟩ := mkUnion_lift E cx hua hub htA htB htySub v w hmk
    rw [hw, lift_union_known ρ B g c _ htB, hqB, if_neg (by simp [isVoidT])]
    rw [hqB, hvw, lift_struct_struct] at hmk
    rw [hvw, lift_struct_struct]
    exact .struct ht htB (hcaEq ▸ hnc) hqB (hty.1 ▸ hl) hB hmk
  | @nested kvs tag tdA v w ht htA hnc hvA hp hpl hany hmk =>
    obtain ⟨tdB, htB, hty⟩ := hT.known tag tdA htA
    have hty := hty.resolve_right fun hv => by rw [hvA] at hv; cases hv.1
    have hnl := tySub_nullable hty
    have hvB : isVoidT tdB.ty = false := by rw [← tySub_isVoid hty]; exact hvA
    have hwA := publicTag_tyWF cx.wfA htA
    have hpB : isPlainStruct tdB.ty = false := tySub_isPlainStruct hty ▸ hp
    rw [tightDoc_union_nested A f c ht htA hvA hp] at hk
    rw [nvrDoc_union_nested ρ A B f c ht htA hvA hp] at hn
    simp only [Bool.and_eq_true] at hn
    have hcr := hIH kvs rfl [(tag, tdA.ty.withFlags {})] [(tag, tdB.ty.withFlags {})] tag
      (tdA.ty.withFlags {}) (tdB.ty.withFlags {}) hk hn.2 (by simp) (by simp) (tySub_withFlags hty)
      (tyWF_withFlags_empty hwA)
    unfold ChildRelB at hcr
    have hplB := payloadOf_rel (lift_none ρ B (tdB.ty.withFlags {})) hcr _ _ hpl
    rw [lift_withFlags, hnl] at hplB
    obtain ⟨hw, hmk⟩ := mkUnion_lift E cx hua hub htA htB hty v w hmk
    rw [hw, lift_union_known ρ B g c _ htB, if_neg (by simp [hvB])]
    exact .nested ht htB (hcaEq ▸ hnc) hvB hpB hplB hany hmk

theorem msf_lift (E : Ext) (A B : Env) {ρ : Rho} {tA tB : PTy} (h : tySub ρ tA tB = true) (hp : isPrimTy tA = true)
    (sA sB : Bool) (j : JVal) (w : PyVal) (hk : tightDoc A tA j = true)
    (hd : makeStoneFriendly E A [] sA false tA j = .ok w) :
    makeStoneFriendly E B [] sB false tB j = .ok w := by
  cases TySub.of_eq_true h with
  | list | map | struct | tree | union => cases hp
  | prim =>
    by_cases hv : isVoidT tA = true
    · obtain ⟨fl, rfl⟩ : ∃ fl, tA = .void fl := by cases tA <;> first | exact ⟨_, rfl⟩ | cases hv
      -- the document is `null` (`tightDoc`), which passes whatever the mode
      rw [tightDoc_void] at hk
      rw [PTy.withFlags, makeStoneFriendly_void, hk, Bool.not_true, Bool.and_false, if_neg Bool.false_ne_true]
      rw [makeStoneFriendly_void, hk, Bool.not_true, Bool.and_false, if_neg Bool.false_ne_true] at hd
      exact hd
    · rw [← msf_prim_indep E A B sA sB hp (by simpa using hv)]; exact hd

def DecodeLiftAt (E : Ext) (ρ : Rho) (A B : Env) (j : JVal) : Prop :=
  ∀ (tA tB : PTy) (sA sB : Bool) (w : PyVal), tySub ρ tA tB = true → tyWF A tA = true →
    tightDoc A tA j = true → nvrDoc ρ A B tA j = true →
    decode E A [] sA tA j = .ok w → decode E B [] sB tB j = .ok (lift ρ B tB w)

theorem decodeList_lift_of_elems {E : Ext} {ρ : Rho} {A B : Env} : ∀ {xs : List JVal}, (∀ x ∈ xs, DecodeLiftAt E ρ A B x) →
    ∀ (tA tB : PTy) (sA sB : Bool) (ys : List PyVal), tySub ρ tA tB = true → tyWF A tA = true →
      tightList A tA xs = true → nvrList ρ A B tA xs = true →
      decodeList E A [] sA tA xs = .ok ys → decodeList E B [] sB tB xs = .ok (liftList ρ B tB ys)
  | [], _, _, _, _, _, _, _, _, _, _, hd => by cases hd; rfl
  | x :: xs, ih, tA, tB, sA, sB, ys, h, hw, hk, hn, hd => by
    simp only [tightList, Bool.and_eq_true] at hk
    simp only [nvrList, Bool.and_eq_true] at hn
    obtain ⟨y, ys', h1, h2, rfl⟩ := decodeList_cons_ok hd
    exact decodeList_cons_of (ih x List.mem_cons_self tA tB sA sB y h hw hk.1 hn.1 h1)
      (decodeList_lift_of_elems (fun x' hx' => ih x' (List.mem_cons_of_mem _ hx')) tA tB sA sB ys' h hw hk.2 hn.2 h2)

theorem decodeMap_lift_of_elems {E : Ext} {ρ : Rho} {A B : Env} : ∀ {kvs : List (String × JVal)},
    (∀ p ∈ kvs, DecodeLiftAt E ρ A B p.2) →
    ∀ (tA tB : PTy) (sA sB : Bool) (ys : List (PyVal × PyVal)), tySub ρ tA tB = true →
      tyWF A tA = true → tightVals A tA kvs = true → nvrVals ρ A B tA kvs = true →
      decodeMap E A [] sA tA kvs = .ok ys → decodeMap E B [] sB tB kvs = .ok (liftDict ρ B tB ys)
  | [], _, _, _, _, _, _, _, _, _, _, hd => by cases hd; rfl
  | (k, x) :: rest, ih, tA, tB, sA, sB, ys, h, hw, hk, hn, hd => by
    simp only [tightVals, Bool.and_eq_true] at hk
    simp only [nvrVals, Bool.and_eq_true] at hn
    obtain ⟨y, ys', h1, h2, rfl⟩ := decodeMap_cons_ok hd
    exact decodeMap_cons_of (ih (k, x) List.mem_cons_self tA tB sA sB y h hw hk.1 hn.1 h1)
      (decodeMap_lift_of_elems (fun p hp => ih p (List.mem_cons_of_mem _ hp)) tA tB sA sB ys' h hw hk.2 hn.2 h2)

theorem members_lift_of_elems {E : Ext} {ρ : Rho} {A B : Env} {kvs : List (String × JVal)}
    (ih : ∀ p ∈ kvs, DecodeLiftAt E ρ A B p.2) (sA sB : Bool) : MembersIHB E ρ A B sA sB kvs := by
  intro tblA tblB k ftA ftB hkm hnm hfa hfb hty hw
  unfold ChildRelB
  rw [childLookup_decodeMembers, childLookup_decodeMembers, hfa, hfb]
  cases hx : jsonLookup k kvs with
  | none => rfl
  | some x =>
    have hm := mem_of_jsonLookup hx
    cases hdx : decode E A [] sA ftA x with
    | error e => simp only [Option.bind_some, Option.map_some, hdx]
    | ok v =>
      have hkx : tightDoc A ftA x = true := by
        have := (tightMembers_iff A tblA kvs).1 hkm (k, x) hm
        simpa only [hfa] using this
      have hnx : nvrDoc ρ A B ftA x = true := by
        have := (nvrMembers_iff ρ A B tblA kvs).1 hnm (k, x) hm
        simpa only [hfa] using this
      simp only [Option.bind_some, Option.map_some, hdx, ih (k, x) hm ftA ftB sA sB v hty hw hkx hnx hdx]

theorem decode_lift (E : Ext) {ρ : Rho} {A B : Env} (cx : Ctx ρ A B) (j : JVal) : DecodeLiftAt E ρ A B j := by
  induction j using JVal.children_induction with | _ j harr hobj
  intro tA tB sA sB w h hw hk hn hd
  have hnl := tySub_nullable h
  by_cases hnull : (tA.flags.nullable && isNullJ j) = true
  · rw [Bool.and_eq_true] at hnull
    rw [eq_null_of_isNullJ hnull.2, decode_nullable_null E A [] sA hnull.1] at hd
    cases hd
    rw [eq_null_of_isNullJ hnull.2, decode_nullable_null E B [] sB (hnl ▸ hnull.1), lift_none]
  · simp only [Bool.not_eq_true] at hnull
    have hmem := fun kvs (hj : j = .obj kvs) => members_lift_of_elems (hobj kvs hj) sA sB
    cases TySub.of_eq_true h with
    | @prim _ g hp =>
      have hpb : isPrimTy (tA.withFlags g) = true := by rw [isPrimTy_withFlags]; exact hp
      rw [decode_prim E A [] sA hp, hnull, if_neg Bool.false_ne_true] at hd
      rw [decode_prim E B [] sB hpb, ← hnl, hnull, if_neg Bool.false_ne_true,
        msf_lift E A B h hp sA sB j w hk hd, lift_prim ρ B hpb]
    | @list f g ia ib lo hi _ hi' =>
      obtain ⟨xs, ys, rfl, rfl, hl⟩ := decode_list_ok hd hnull
      rw [tightDoc_list_arr] at hk
      rw [nvrDoc_list_arr] at hn
      rw [decode_list_arr, decodeList_lift_of_elems (harr xs rfl) ia ib sA sB ys hi'.eq_true hw hk hn hl, lift_list_list]
      rfl
    | @map f g ka kb va vb _ _ hvt =>
      obtain ⟨kvs, ys, rfl, rfl, hl⟩ := decode_map_ok hd hnull
      rw [tightDoc_map_obj] at hk
      rw [nvrDoc_map_obj] at hn
      rw [decode_map_obj, decodeMap_lift_of_elems (hobj kvs rfl) va vb sA sB ys hvt.eq_true (tyWF_map hw).2.2 hk hn hl,
        lift_map_dict]
      rfl
    | @struct f g c c' _ hr =>
      obtain ⟨sa, hsa, -⟩ := tyWF_struct hw
      rcases decode_struct_shape hd with rfl | ⟨kvs, rfl⟩
      · simp only [PTy.flags, isNullJ, Bool.and_true] at hnull hnl
        rw [decode_struct_null, hnull] at hd
        rw [decode_struct_null, ← hnl, hnull]
        simp only [Bool.false_eq_true, if_false] at hd ⊢
        rw [← hasDefault_sub cx.compat cx.wfB (TySub.struct (f := {}) (g := {}) rfl hr).eq_true hw]
        split at hd
        · rename_i hdf
          cases hd
          simp only [hdf, if_true, lift_struct_struct, liftSlots, orderSlots_nil]
        · cases hd
      · exact decode_struct_lift E cx hr hsa kvs sA sB w (hmem kvs rfl) hk hn hd
    | @tree f g c c' _ hr =>
      obtain ⟨sa, hsa, hta⟩ := tyWF_tree hw
      obtain ⟨kvs, rfl⟩ := decode_tree_shape hd hnull
      exact decode_tree_lift E cx hr hsa hta kvs sA sB w (hmem kvs rfl) hk hn hd
    | @union f g c c' _ hr =>
      obtain ⟨ua, hua⟩ := tyWF_union hw
      exact decode_union_lift E cx hr hua j sA sB w hnull hmem hk hn hd

theorem decodeList_lift (E : Ext) {ρ : Rho} {A B : Env} (cx : Ctx ρ A B) :
    ∀ (xs : List JVal) (tA tB : PTy) (sA sB : Bool) (ys : List PyVal), tySub ρ tA tB = true → tyWF A tA = true →
      tightList A tA xs = true → nvrList ρ A B tA xs = true →
      decodeList E A [] sA tA xs = .ok ys → decodeList E B [] sB tB xs = .ok (liftList ρ B tB ys) :=
  fun _ => decodeList_lift_of_elems fun x _ => decode_lift E cx x

theorem decodeMap_lift (E : Ext) {ρ : Rho} {A B : Env} (cx : Ctx ρ A B) :
    ∀ (kvs : List (String × JVal)) (tA tB : PTy) (sA sB : Bool) (ys : List (PyVal × PyVal)), tySub ρ tA tB = true →
      tyWF A tA = true → tightVals A tA kvs = true → nvrVals ρ A B tA kvs = true →
      decodeMap E A [] sA tA kvs = .ok ys → decodeMap E B [] sB tB kvs = .ok (liftDict ρ B tB ys) :=
  fun _ => decodeMap_lift_of_elems fun p _ => decode_lift E cx p.2

theorem members_lift (E : Ext) {ρ : Rho} {A B : Env} (cx : Ctx ρ A B) :
    ∀ (kvs : List (String × JVal)) (sA sB : Bool), MembersIHB E ρ A B sA sB kvs :=
  fun _ => members_lift_of_elems fun p _ => decode_lift E cx p.2

end StoneVerif.Rt.Compat
