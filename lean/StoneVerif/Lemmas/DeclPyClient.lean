import StoneVerif.Model.DeclPyClient
import StoneVerif.Lemmas.ListFacts
/-!
Lemmas for C14: the code's view of aliases (`stripFirst`) against the specification's (`specUnalias`, `specNullable`),
call binding, the stages of a generated method body, method names. Declared in `StoneVerif.C14`, whose statements use
`mainName`; `specParam` serves the proofs only.
-/
namespace StoneVerif.C14
open StoneVerif.DeclPyClient

/-- `lookup` takes the first match: rows with the key of `a` must carry its value (`inj`) -/
theorem lookup_zip_map {α : Type} (L : List α) (k : α → Name) (g : α → Val) (a : α) (ha : a ∈ L)
    (inj : ∀ b ∈ L, k b = k a → g b = g a) :
    lookup ((L.map k).zip (L.map g)) (k a) = some (g a) := by
  induction L with
  | nil => cases ha
  | cons b L ih =>
    simp only [List.map_cons, List.zip_cons_cons, lookup]
    by_cases hk : k b = k a
    · simp [hk, inj b (by simp) hk]
    · have hne : (k b == k a) = false := by simpa using hk
      rw [hne]
      have : a ∈ L := by
        cases ha with
        | head => exact absurd rfl hk
        | tail _ h => exact h
      simpa using ih this (fun c hc => inj c (List.mem_cons_of_mem _ hc))

theorem lookup_some_of_mem_keys : ∀ (σ : List (Name × Val)) (n : Name), n ∈ σ.map (·.1) → ∃ v, lookup σ n = some v
  | (k, v) :: σ, n, h => by
    simp only [lookup]
    split
    · exact ⟨v, rfl⟩
    · rename_i hk
      exact lookup_some_of_mem_keys σ n ((List.mem_cons.mp h).resolve_left fun e => hk (by simp [e]))

/-- `stripFirst t` and `specUnalias t` agree down to the first `Nullable` / `List`: what does not look below cannot tell
them apart -/
theorem strip_head_congr {α : Sort _} (p : Ty → α) (hn : ∀ x y, p (.nullable x) = p (.nullable y))
    (hl : ∀ x y, p (.list x) = p (.list y)) (t : Ty) : p (stripFirst t) = p (specUnalias t) := by
  have spine : ∀ t, p (spineResolve t) = p (specUnalias t) := fun t => by
    induction t with
    | alias _ _ t ih => exact ih
    | nullable t _ => exact hn _ _
    | list t _ => exact hl _ _
    | _ => rfl
  cases t with
  | alias _ _ t => exact spine t
  | nullable t => exact hn _ _
  | list t => exact hl _ _
  | _ => rfl

theorem strip_eq_iff {t s : Ty} (hn : ∀ x, s ≠ .nullable x) (hl : ∀ x, s ≠ .list x) :
    stripFirst t = s ↔ specUnalias t = s :=
  Eq.to_iff (strip_head_congr (· = s) (fun x y => propext ⟨fun h => absurd h.symm (hn x), fun h => absurd h.symm (hn y)⟩)
    (fun x y => propext ⟨fun h => absurd h.symm (hl x), fun h => absurd h.symm (hl y)⟩) t)

theorem unalias_of_strip {t s : Ty} (h : stripFirst t = s) (hn : ∀ x, s ≠ .nullable x := by nofun)
    (hl : ∀ x, s ≠ .list x := by nofun) : specUnalias t = s :=
  (strip_eq_iff hn hl).1 h

theorem strip_isVoid (t : Ty) : (stripFirst t).isVoid = (specUnalias t).isVoid :=
  strip_head_congr Ty.isVoid (fun _ _ => rfl) (fun _ _ => rfl) t

theorem specNullable_eq (t : Ty) : specNullable t = (specUnalias t).isNullable := by
  induction t with
  | alias _ _ t ih => exact ih
  | _ => rfl

theorem strip_isNullable (t : Ty) : (stripFirst t).isNullable = specNullable t :=
  (strip_head_congr Ty.isNullable (fun _ _ => rfl) (fun _ _ => rfl) t).trans (specNullable_eq t).symm

theorem isRequired_strip (f : Field) : isRequired stripFirst f = specRequired f := by
  simp [isRequired, specRequired, strip_isNullable]

def specParam (f : Field) : Param :=
  if specRequired f then ⟨f.name, none⟩ else ⟨f.name, some (specDefault f)⟩

theorem unwrapAliases_eq_specUnalias (t : Ty) : unwrapAliases t = specUnalias t := by
  induction t with
  | alias _ _ t ih => simpa [unwrapAliases, specUnalias] using ih
  | _ => rfl

theorem fieldParam_spec (f : Field)
    (hwt : ∀ u tag, f.dflt = some (.tag u tag) →
      ∃ uns uname, specUnalias f.ty = .union uns uname ∧ specUnalias u = .union uns uname) :
    fieldParam f = .ok (specParam f) := by
  unfold fieldParam specParam specRequired specDefault
  simp only [strip_isNullable]
  cases hn : specNullable f.ty with
  | true =>
    cases hd : f.dflt with
    | none => simp
    | some d => cases d <;> simp
  | false =>
    cases hd : f.dflt with
    | none => simp
    | some d =>
      cases d with
      | tag u tag =>
        obtain ⟨uns, uname, hf, hu⟩ := hwt u tag hd
        have := (strip_eq_iff (by nofun) (by nofun)).2 hf
        simp [genPythonValue, this, Ty.userNs, unwrapAliases_eq_specUnalias, hu, hf, bind, Except.bind, pure, Except.pure]
      | bool _ | int _ | float _ | str _ => simp [genPythonValue, bind, Except.bind, pure, Except.pure]

theorem wellTyped_field {api : Api} {r : Ref} (h : defaultsWellTyped api r = true) {f : Field} (hf : f ∈ declFields api r) :
    ∀ u tag, f.dflt = some (.tag u tag) →
      ∃ uns uname, specUnalias f.ty = .union uns uname ∧ specUnalias u = .union uns uname := by
  intro u tag hd
  have := (List.all_eq_true.mp h) f hf
  simp only [hd, Bool.and_eq_true, beq_iff_eq] at this
  obtain ⟨hu, he⟩ := this
  cases hft : specUnalias f.ty with
  | union uns uname => exact ⟨uns, uname, rfl, by rw [he, hft]⟩
  | _ => rw [hft] at hu; cases hu

theorem mem_allFields {view : Ty → Ty} {api : Api} {r : Ref} {f : Field} :
    f ∈ allFields view api r ↔ f ∈ declFields api r := by
  unfold allFields
  simp only [List.mem_append, List.mem_filter]
  constructor
  · rintro (⟨h, _⟩ | ⟨h, _⟩) <;> exact h
  · intro h
    cases hq : isRequired view f
    · exact .inr ⟨h, by simp⟩
    · exact .inl ⟨h, rfl⟩

theorem bindGo_keys (ps : List BParam) (vs : List Val) (kw σ : List (Name × Val))
    (h : bindGo ps vs kw = .ok σ) : σ.map (·.1) = ps.map (·.1) := by
  fun_induction bindGo ps vs kw generalizing σ
  case case1 => cases h; rfl
  case case2 | case3 | case7 => cases h
  case case4 ih | case5 ih | case6 ih =>
    obtain ⟨σ', hr, rfl⟩ := except_map_ok h
    rw [List.map_cons, List.map_cons, ih σ' hr]

theorem bindArgs_keys (ps : List BParam) (c : Call) (σ : List (Name × Val)) (h : bindArgs ps c = .ok σ) :
    σ.map (·.1) = ps.map (·.1) := by
  unfold bindArgs at h
  split at h
  · cases h
  · split at h
    · cases h
    · exact bindGo_keys _ _ _ _ h

theorem resolveGlobal_ok {cm : ClientModule} {m : Method} {n : Name} (h : hygienic cm m = true)
    (hn : n ∈ globalsUsed m) : resolveGlobal cm m n = .ok () := by
  have := (List.all_eq_true.mp h) n hn
  simp only [Bool.and_eq_true, Bool.not_eq_true', List.contains_eq_mem, decide_eq_false_iff_not, decide_eq_true_eq] at this
  simp [resolveGlobal, this.1, this.2]

theorem lookupLocal_of_key {σ : List (Name × Val)} {n : Name} (h : n ∈ σ.map (·.1)) :
    ∃ v, lookup σ n = some v ∧ lookupLocal σ n = .ok v := by
  obtain ⟨v, hv⟩ := lookup_some_of_mem_keys σ n h
  exact ⟨v, hv, by simp [lookupLocal, hv]⟩

def getV (σ : List (Name × Val)) (n : Name) : Val := (lookup σ n).getD .none

theorem mapM_lookupLocal {σ : List (Name × Val)} (args : List Name) (h : ∀ n ∈ args, n ∈ σ.map (·.1)) :
    args.mapM (lookupLocal σ) = .ok (args.map (getV σ)) := by
  apply mapM_ok_of_forall
  intro n hn
  obtain ⟨v, hv, hl⟩ := lookupLocal_of_key (h n hn)
  simp [hl, getV, hv]

theorem allFields_views_agree (api : Api) (r : Ref) (h : noNullableAlias api r = true) :
    allFields stripFirst api r = structCtorFields api r := by
  unfold structCtorFields allFields
  have key : ∀ f ∈ declFields api r, isRequired stripFirst f = isRequired id f := by
    intro f hf
    have := (List.all_eq_true.mp h) f hf
    simp only [beq_iff_eq] at this
    simp [isRequired, this]
  congr 1
  · exact List.filter_congr key
  · exact List.filter_congr (fun f hf => by rw [key f hf])

theorem ctorApply_direct (api : Api) (ty : Ref) (σ : List (Name × Val))
    (hna : noNullableAlias api ty = true)
    (hinj : ∀ f ∈ declFields api ty, ∀ f' ∈ declFields api ty, fmtVarR f'.name = fmtVarR f.name → f'.name = f.name)
    (hkeys : ∀ f ∈ declFields api ty, f.name ∈ σ.map (·.1)) :
    ctorApply api ty (typesClassOf ty).1 (typesClassOf ty).2 (((allFields stripFirst api ty).map (·.name)).map (getV σ))
      = .ok (structDirect api ty σ) := by
  unfold ctorApply structCtorParams
  rw [← allFields_views_agree api ty hna]
  generalize hL : allFields stripFirst api ty = L
  have hmem : ∀ f, f ∈ declFields api ty → f ∈ L := fun f hf => hL ▸ mem_allFields.mpr hf
  have hmem' : ∀ f, f ∈ L → f ∈ declFields api ty := fun f hf => mem_allFields.mp (hL ▸ hf)
  simp only [List.length_map, Nat.lt_irrefl, gt_iff_lt, ↓reduceIte, Nat.sub_self, List.replicate_zero, List.append_nil,
    List.map_map]
  unfold structDirect
  congr 2
  apply filterMap_congr_mem
  intro f hf
  have h1 := lookup_zip_map L (fun f => fmtVarR f.name) ((getV σ) ∘ (fun f => f.name)) f (hmem f hf)
    (fun b hb hk => by
      have := hinj f hf b (hmem' b hb) hk
      simp [this])
  simp only [Function.comp] at h1 ⊢
  rw [h1]
  obtain ⟨v, hv⟩ := lookup_some_of_mem_keys σ f.name (hkeys f hf)
  simp [getV, hv]

theorem fieldParam_name {f : Field} {p : Param} (h : fieldParam f = .ok p) : p.name = f.name := by
  simp only [fieldParam] at h
  split at h
  · cases h; rfl
  · split at h
    · rename_i d _
      cases hg : genPythonValue f.name (stripFirst f.ty).userNs d <;> rw [hg] at h <;> cases h
      rfl
    · cases h; rfl

theorem mem_globalsUsed {m : Method} {n : Name} : n ∈ globalsUsed m ↔
    (m.deprecated = true ∧ n = "warnings".toList) ∨ (∃ cls ty args, m.argBuild = .ctor n cls ty args) ∨
      n = m.routeMod := by
  unfold globalsUsed
  simp only [List.mem_append, List.mem_singleton]
  constructor
  · rintro ((h | h) | h)
    · split at h
      · exact .inl ⟨‹_›, List.mem_singleton.mp h⟩
      · cases h
    · split at h
      · rename_i hb
        exact .inr (.inl ⟨_, _, _, by rw [hb, List.mem_singleton.mp h]⟩)
      · cases h
    · exact .inr (.inr h)
  · rintro (⟨hd, rfl⟩ | ⟨cls, ty, args, hb⟩ | rfl)
    · rw [hd]; exact .inl (.inl (.head _))
    · rw [hb]; exact .inl (.inr (.head _))
    · exact .inr rfl

theorem warnStep_ok {cm : ClientModule} {m : Method} (hyg : hygienic cm m = true) : warnStep cm m = .ok () := by
  unfold warnStep
  cases hd : m.deprecated
  · rfl
  · simp only [↓reduceIte]
    exact resolveGlobal_ok hyg (mem_globalsUsed.mpr (.inl ⟨hd, rfl⟩))

theorem runMethod_steps (api : Api) (cm : ClientModule) (m : Method) (σ : List (Name × Val)) (obj : ArgObj) (b : Option Val)
    (hyg : hygienic cm m = true) (htf : m.toFile = false)
    (harg : buildArg api cm m σ = .ok obj) (hbody : bodyArg m σ = .ok b) :
    runMethod api cm m σ = .ok
      { requests := [{ route := (m.routeMod, m.routeVar), ns := m.nsLit, arg := obj, body := b }]
        warned := m.deprecated, saved := none, ret := if m.resultVoid then .none else .result } := by
  have hroute := resolveGlobal_ok hyg (mem_globalsUsed.mpr (.inr (.inr rfl)))
  have hsaved : savedArg m σ = .ok none := by simp [savedArg, htf]
  simp only [runMethod, warnStep_ok hyg, harg, hroute, hbody, hsaved, htf, Bool.false_eq_true, ↓reduceIte]

/-- importing the module has checked every `def`: loading one of them again only evaluates its defaults -/
theorem loadMethod_of_loads {api : Api} {cm : ClientModule} {m : Method} (hl : loadModule api cm = .ok ())
    (hm : m ∈ cm.methods) : loadMethod api cm m = m.params.mapM (evalParam api cm) := by
  unfold loadModule at hl
  split at hl
  · rename_i m' hf
    obtain ⟨ps, hps, -⟩ := except_map_ok hl
    have hbad := List.find?_some hf
    unfold loadMethod at hps
    split at hps
    · cases hps
    · split at hps
      · cases hps
      · rename_i h1 h2
        simp only [h1, h2, Bool.or_self, Bool.false_eq_true] at hbad
  · rename_i hf
    have hgood := List.find?_eq_none.mp hf m hm
    simp only [Bool.or_eq_true, not_or] at hgood
    rw [loadMethod, if_neg hgood.1, if_neg hgood.2]

theorem callMethod_of_loads {api : Api} {cm : ClientModule} {m : Method} (hl : loadModule api cm = .ok ())
    (hm : m ∈ cm.methods) (c : Call) :
    callMethod api cm m c = (m.params.mapM (evalParam api cm) >>= fun ps => bindArgs ps c >>= runMethod api cm m) := by
  unfold callMethod
  rw [hl, loadMethod_of_loads hl hm]
  rfl

theorem classAttr_mem {cm : ClientModule} {n : Name} {m : Method} (h : classAttr cm n = some m) : m ∈ cm.methods :=
  List.mem_reverse.mp (List.mem_of_find?_eq_some h)

theorem isPrefix_append (a x : Name) : isPrefix a (a ++ x) = true := by
  induction a with
  | nil => rfl
  | cons c a ih => simpa [isPrefix] using ih

theorem isPrefix_of_append_eq (a b x y : Name) (h : a ++ x = b ++ y) : isPrefix a b = true ∨ isPrefix b a = true := by
  rcases List.append_eq_append_iff.1 h with ⟨a', rfl, -⟩ | ⟨b', rfl, -⟩
  · exact .inl (isPrefix_append a a')
  · exact .inr (isPrefix_append b b')

def mainName (ns : Namespace) (r : Route) : Name := fmtUnderscores ns.name ++ ['_'] ++ fmtFunc r.name r.version

theorem mkMethod_name (api : Api) (ns : Namespace) (r : Route) (ps : List Param) :
    (mkMethod api ns r false ps).name = mainName ns r := by
  simp [mkMethod, mainName]

theorem routeMethod_ok {api : Api} {ns : Namespace} {r : Route} {tf : Bool} {m : Method}
    (h : routeMethod api ns r tf = .ok m) : ∃ ps, argParamsOf api ns r = .ok ps ∧ m = mkMethod api ns r tf ps :=
  except_map_ok h

theorem routeMethod_name {api : Api} {ns : Namespace} {r : Route} {m : Method}
    (h : routeMethod api ns r false = .ok m) : m.name = mainName ns r := by
  obtain ⟨ps, -, rfl⟩ := routeMethod_ok h
  exact mkMethod_name api ns r ps

theorem conflict_go_false : ∀ (rs : List Route) (seen : List Name), routeNameConflict.go seen rs = false →
    (∀ r ∈ rs, fmtFunc r.name r.version ∉ seen) ∧
    ∀ r1 ∈ rs, ∀ r2 ∈ rs, fmtFunc r1.name r1.version = fmtFunc r2.name r2.version → r1 = r2
  | [], _, _ => ⟨nofun, nofun⟩
  | r :: rs, seen, h => by
    simp only [routeNameConflict.go] at h
    split at h
    · cases h
    · rename_i hns
      obtain ⟨hseen, hinj⟩ := conflict_go_false rs _ h
      have hr : ∀ r' ∈ rs, fmtFunc r'.name r'.version ≠ fmtFunc r.name r.version :=
        fun r' hr' e => hseen r' hr' (e ▸ .head _)
      refine ⟨fun r' hr' => ?_, fun r1 h1 r2 h2 e => ?_⟩
      · rcases List.mem_cons.mp hr' with rfl | hr'
        · simpa using hns
        · exact fun hc => hseen r' hr' (.tail _ hc)
      · rcases List.mem_cons.mp h1 with rfl | h1' <;> rcases List.mem_cons.mp h2 with rfl | h2'
        · rfl
        · exact absurd e.symm (hr r2 h2')
        · exact absurd e (hr r1 h1')
        · exact hinj r1 h1' r2 h2' e

theorem argParamsOf_struct {api : Api} {ns : Namespace} {r : Route} {sns sname : Name}
    (h : stripFirst r.arg = .struct sns sname) :
    argParamsOf api ns r = (allFields stripFirst api (sns, sname)).mapM fieldParam := by
  unfold argParamsOf
  rw [h]

theorem argParamsOf_ok {api : Api} {ns : Namespace} {r : Route} {ps : List Param} (h : argParamsOf api ns r = .ok ps) :
    (∃ sns sname, stripFirst r.arg = .struct sns sname ∧
      (allFields stripFirst api (sns, sname)).mapM fieldParam = .ok ps) ∨
    (∃ uns uname, stripFirst r.arg = .union uns uname ∧ ps = [⟨"arg".toList, none⟩]) ∨
    (stripFirst r.arg = .void ∧ ps = []) := by
  unfold argParamsOf at h
  split at h
  · exact .inl ⟨_, _, ‹_›, h⟩
  · cases h; exact .inr (.inl ⟨_, _, ‹_›, rfl⟩)
  · cases h; exact .inr (.inr ⟨‹_›, rfl⟩)
  · cases h

theorem argBuildOf_ctor {api : Api} {r : Route} {mod cls : Name} {ty : Ref} {args : List Name}
    (h : argBuildOf api r = .ctor mod cls ty args) :
    stripFirst r.arg = .struct ty.1 ty.2 ∧ (mod, cls) = typesClassOf ty ∧
      args = (allFields stripFirst api ty).map (·.name) := by
  unfold argBuildOf at h
  split at h
  · cases h; exact ⟨‹_›, rfl, rfl⟩
  · cases h
  · cases h

theorem mkMethod_params (api : Api) (ns : Namespace) (r : Route) (ps : List Param) :
    (mkMethod api ns r false ps).params = (if r.style = some "upload".toList then [⟨['f'], none⟩] else []) ++ ps := by
  simp only [mkMethod, styleIs, beq_iff_eq, Bool.false_eq_true, ↓reduceIte, List.nil_append]

/-- `_generate_imports` -/
theorem pyClient_imports {api : Api} {cm : ClientModule} (h : pyClient api = .ok cm) {ns : Namespace}
    (hn : ns ∈ api.namespaces) (ht : (ns.hasDataTypes || !ns.routes.isEmpty) = true) :
    fmtNamespace ns.name ∈ moduleGlobals cm := by
  obtain ⟨mss, -, rfl⟩ := except_map_ok h
  exact List.mem_append_right _ (List.mem_map.mpr ⟨ns, List.mem_filter.mpr ⟨hn, ht⟩, rfl⟩)

theorem pyClient_imports_warnings {api : Api} {cm : ClientModule} (h : pyClient api = .ok cm) {ns : Namespace}
    (hn : ns ∈ api.namespaces) {r : Route} (hr : r ∈ ns.routes) (hd : r.deprecated.isSome = true) :
    "warnings".toList ∈ moduleGlobals cm := by
  obtain ⟨mss, -, rfl⟩ := except_map_ok h
  refine List.mem_append_left _ (List.mem_append_right _ ?_)
  rw [if_pos (List.any_eq_true.mpr ⟨ns, hn, List.any_eq_true.mpr ⟨r, hr, hd⟩⟩)]
  exact .head _

theorem routeMethods_ok {api : Api} {ns : Namespace} {r : Route} {l : List Method} (h : routeMethods api ns r = .ok l) :
    ∃ m, routeMethod api ns r false = .ok m ∧
      (l = [m] ∨ ∃ m2, routeMethod api ns r true = .ok m2 ∧ l = [m, m2]) := by
  unfold routeMethods at h
  split at h
  · cases h
  · refine ⟨_, ‹_›, ?_⟩
    split at h
    · split at h
      · cases h
      · cases h; exact .inr ⟨_, ‹_›, rfl⟩
    · cases h; exact .inl rfl

theorem nsMethods_ok {api : Api} {ns : Namespace} {ms : List Method} (h : nsMethods api ns = .ok ms) :
    routeNameConflict ns = false ∧ ∃ lss, ns.routes.mapM (routeMethods api ns) = .ok lss ∧ ms = lss.flatten := by
  unfold nsMethods at h
  split at h
  · cases h
  · exact ⟨Bool.eq_false_iff.mpr ‹_›, except_map_ok h⟩

end StoneVerif.C14
