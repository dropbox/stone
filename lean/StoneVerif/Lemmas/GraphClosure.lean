import StoneVerif.Model.Graph
import StoneVerif.Lemmas.ListFacts
/-! The closure iteration, generic in the successor function. The fuel bound is a pigeonhole: the iterate stays
duplicate-free inside a universe `U` closed under successors, and every round that does not end in a closed set adds an
element (`length_growth`), so `U.length` rounds suffice (`iter_stable`). -/
namespace StoneVerif.Graph

theorem mem_addAll {S xs : List Id} {y : Id} : y ∈ addAll S xs ↔ y ∈ S ∨ y ∈ xs := by
  induction xs generalizing S with
  | nil => simp [addAll]
  | cons x xs ih =>
    simp only [addAll]
    split
    · rename_i h
      have hx : x ∈ S := by simpa using h
      rw [ih, List.mem_cons]
      exact ⟨fun h => h.imp_right .inr, fun h => h.elim .inl fun h => h.elim (fun e => .inl (e ▸ hx)) .inr⟩
    · rw [ih, List.mem_append, List.mem_singleton, List.mem_cons, or_assoc]

theorem nodup_addAll {S xs : List Id} (h : S.Nodup) : (addAll S xs).Nodup := by
  induction xs generalizing S with
  | nil => simpa [addAll]
  | cons x xs ih =>
    simp only [addAll]
    split
    · exact ih h
    · rename_i hx
      exact ih (nodup_snoc h (by simpa using hx))

theorem addAll_eq_self {S xs : List Id} (h : ∀ x ∈ xs, x ∈ S) : addAll S xs = S := by
  induction xs generalizing S with
  | nil => simp [addAll]
  | cons x xs ih =>
    have hx : x ∈ S := h x (List.mem_cons_self ..)
    simp only [addAll, List.contains_iff_mem.2 hx, ↓reduceIte] 
    exact ih (fun y hy => h y (List.mem_cons_of_mem _ hy))

theorem length_le_addAll {S xs : List Id} : S.length ≤ (addAll S xs).length := by
  induction xs generalizing S with
  | nil => simp [addAll]
  | cons x xs ih =>
    simp only [addAll]
    split
    · exact ih
    · have := @ih (S ++ [x])
      simp at this
      omega

theorem length_lt_addAll {S xs : List Id} (h : ∃ x ∈ xs, x ∉ S) : S.length < (addAll S xs).length := by
  induction xs generalizing S with
  | nil => simp at h
  | cons x xs ih =>
    simp only [addAll]
    split
    · rename_i hx
      have hx : x ∈ S := by simpa using hx
      apply ih
      obtain ⟨y, hy, hyS⟩ := h
      rcases List.mem_cons.1 hy with rfl | hy
      · exact absurd hx hyS
      · exact ⟨y, hy, hyS⟩
    · have := @length_le_addAll (S ++ [x]) xs
      simp at this
      omega

def Stable (sc : Id → List Id) (T : Id → Prop) : Prop := ∀ a, T a → ∀ b ∈ sc a, T b

theorem mem_step {sc : Id → List Id} {S : List Id} {y : Id} :
    y ∈ step sc S ↔ y ∈ S ∨ ∃ a ∈ S, y ∈ sc a := by
  simp [step, mem_addAll, List.mem_flatMap]

theorem step_eq_self {sc : Id → List Id} {S : List Id} (h : Stable sc (· ∈ S)) : step sc S = S := by
  apply addAll_eq_self
  intro x hx
  obtain ⟨a, ha, hxa⟩ := List.mem_flatMap.1 hx
  exact h a ha x hxa

theorem iter_eq_self {sc : Id → List Id} {S : List Id} (h : Stable sc (· ∈ S)) (n : Nat) : iter sc n S = S := by
  induction n with
  | zero => rfl
  | succ n ih => simp [iter, step_eq_self h, ih]

theorem iter_contains {sc : Id → List Id} (n : Nat) (S : List Id) : ∀ x ∈ S, x ∈ iter sc n S := by
  induction n generalizing S with
  | zero => intro x hx; exact hx
  | succ n ih =>
    intro x hx
    exact ih (step sc S) x (mem_step.2 (Or.inl hx))

theorem nodup_iter {sc : Id → List Id} (n : Nat) {S : List Id} (h : S.Nodup) : (iter sc n S).Nodup := by
  induction n generalizing S with
  | zero => exact h
  | succ n ih => exact ih (nodup_addAll h)

theorem iter_least {sc : Id → List Id} (T : Id → Prop) (hT : Stable sc T)
    (n : Nat) {S : List Id} (hS : ∀ x ∈ S, T x) : ∀ x ∈ iter sc n S, T x := by
  induction n generalizing S with
  | zero => exact hS
  | succ n ih =>
    apply ih
    intro x hx
    rcases mem_step.1 hx with h | ⟨a, ha, hxa⟩
    · exact hS x h
    · exact hT a (hS a ha) x hxa

theorem iter_succ' {sc : Id → List Id} (n : Nat) (S : List Id) :
    iter sc (n + 1) S = step sc (iter sc n S) := by
  induction n generalizing S with
  | zero => rfl
  | succ n ih => 
    show iter sc (n + 1) (step sc S) = step sc (iter sc (n + 1) S)
    rw [ih (step sc S)]
    rfl

theorem length_lt_step {sc : Id → List Id} {S : List Id} (h : ¬ Stable sc (· ∈ S)) :
    S.length < (step sc S).length :=
  length_lt_addAll <| Classical.byContradiction fun hex => h fun a ha b hb =>
    Classical.byContradiction fun hb' => hex ⟨b, List.mem_flatMap.2 ⟨a, ha, hb⟩, hb'⟩

theorem length_growth {sc : Id → List Id} (n : Nat) (S : List Id) (h : ¬ Stable sc (· ∈ iter sc n S)) :
    S.length + n + 1 ≤ (iter sc (n + 1) S).length := by
  induction n generalizing S with
  | zero =>
    have := length_lt_step (sc := sc) (S := S) h
    simp [iter] at *
    omega
  | succ n ih =>
    have hS : ¬ Stable sc (· ∈ S) := by
      intro hs
      apply h
      rw [iter_eq_self hs]
      exact hs
    have h1 := length_lt_step hS
    have h2 := ih (step sc S) h
    show S.length + (n + 1) + 1 ≤ (iter sc (n + 1) (step sc S)).length
    omega

theorem iter_stable {sc : Id → List Id} (U : List Id) (hU : Stable sc (· ∈ U))
    {S : List Id} (hS : ∀ x ∈ S, x ∈ U) (hnd : S.Nodup) (n : Nat) (hn : U.length ≤ n) :
    Stable sc (· ∈ iter sc n S) := by
  by_cases h : Stable sc (· ∈ iter sc n S)
  · exact h
  · exfalso
    have h1 := length_growth n S h
    have h2 : (iter sc (n + 1) S).Nodup := nodup_iter _ hnd
    have h3 : ∀ x ∈ iter sc (n + 1) S, x ∈ U := iter_least (· ∈ U) hU _ hS
    have h4 := List.Nodup.length_le_of_subset h2 h3
    omega

theorem closureBy_contains (sc : Id → List Id) (n : Nat) (S : List Id) : ∀ s ∈ S, s ∈ closureBy sc n S :=
  fun s hs => iter_contains _ _ s (mem_addAll.2 (Or.inr hs))

theorem closureBy_least {sc : Id → List Id} (T : Id → Prop) (hT : Stable sc T) (n : Nat)
    {S : List Id} (hS : ∀ s ∈ S, T s) : ∀ x ∈ closureBy sc n S, T x :=
  iter_least T hT n fun x hx => (mem_addAll.1 hx).elim (fun h => absurd h List.not_mem_nil) (hS x)

theorem closureBy_stable {sc : Id → List Id} (U : List Id) (hU : Stable sc (· ∈ U)) {S : List Id}
    (hS : ∀ s ∈ S, s ∈ U) {n : Nat} (hn : U.length ≤ n) : Stable sc (· ∈ closureBy sc n S) :=
  iter_stable U hU (fun x hx => (mem_addAll.1 hx).elim (fun h => absurd h List.not_mem_nil) (hS x)) (nodup_addAll List.nodup_nil) n hn

end StoneVerif.Graph
