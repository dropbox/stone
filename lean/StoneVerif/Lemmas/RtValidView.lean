import StoneVerif.Lemmas.RtModel
/-!
What `validB` says, case by case: `ValidLeaf` lists the (type, value) pairs it admits at a value without
sub-values, `ValidView` adds the containers and user types with what it demands of their parts.  Proofs about
valid values go by `cases` on the view.
-/
namespace StoneVerif.Rt

def RoundTrip.isLeaf : PyVal → Bool
  | .list _ | .tuple _ | .dict _ | .struct .. | .union .. => false
  | _ => true

/-- `floatOfInt` / `floatOfBool` are the two that assignment normalises (`normalB` excludes them). -/
inductive ValidLeaf (E : Ext) : PTy → PyVal → Prop
  | unset {t : PTy} : t.flags.nullable = true → ValidLeaf E t .none
  | void (fl : Flags) : ValidLeaf E (.void fl) .none
  | bool (fl : Flags) (b : Bool) : ValidLeaf E (.bool fl) (.bool b)
  | int (fl : Flags) (c : String) {lo hi n : Int} : lo ≤ n → n ≤ hi → ValidLeaf E (.int fl c lo hi) (.int n)
  | intOfBool (fl : Flags) (c : String) {lo hi : Int} {b : Bool} :
    lo ≤ (if b then 1 else 0) → (if b then 1 else 0) ≤ hi → ValidLeaf E (.int fl c lo hi) (.bool b)
  | float (fl : Flags) (c : String) {lo hi : Option FBits} {x : FBits} :
    inRange E lo hi x = true → ValidLeaf E (.float fl c lo hi) (.flt x)
  | floatOfInt (fl : Flags) (c : String) {lo hi : Option FBits} {n : Int} {x : FBits} :
    E.fltOfInt n = some x → inRange E lo hi x = true → ValidLeaf E (.float fl c lo hi) (.int n)
  | floatOfBool (fl : Flags) (c : String) {lo hi : Option FBits} {b : Bool} {x : FBits} :
    E.fltOfInt (if b then 1 else 0) = some x → inRange E lo hi x = true →
    ValidLeaf E (.float fl c lo hi) (.bool b)
  | str (fl : Flags) {minLen maxLen : Option Nat} {pat : Option String} {s : String} :
    leOpt minLen s.length = true → geOpt maxLen s.length = true →
    (∀ p, pat = some p → p = "" ∨ E.patMatch p s = true) → ValidLeaf E (.str fl minLen maxLen pat) (.str s)
  | bytes (fl : Flags) (h : String) : ValidLeaf E (.bytes fl) (.bytes h)
  | ts (fl : Flags) (fmt : String) (id : Nat) : ValidLeaf E (.ts fl fmt) (.ts id true)

inductive ValidView (E : Ext) (env : Env) : PTy → PyVal → Prop
  | leaf {t : PTy} {v : PyVal} : ValidLeaf E t v → ValidView E env t v
  | list (fl : Flags) {item : PTy} {mn mx : Option Nat} {xs : List PyVal} :
    leOpt mn xs.length = true → geOpt mx xs.length = true → validList E env item xs = true →
    ValidView E env (.list fl item mn mx) (.list xs)
  | tuple (fl : Flags) {item : PTy} {mn mx : Option Nat} {xs : List PyVal} :
    leOpt mn xs.length = true → geOpt mx xs.length = true → validList E env item xs = true →
    ValidView E env (.list fl item mn mx) (.tuple xs)
  | dict (fl : Flags) {kt vt : PTy} {kvs : List (PyVal × PyVal)} :
    validDict E env kt vt kvs = true → ValidView E env (.map fl kt vt) (.dict kvs)
  | struct (fl : Flags) {cls c : String} {slots : List (String × PyVal)} :
    env.structSubclass c cls = true → (publicFields env c).all (fun f => attrHas f slots) = true →
    validSlots E env (publicFields env c) slots = true → ValidView E env (.struct fl cls) (.struct c slots)
  | tree (fl : Flags) {cls c tag : String} {slots : List (String × PyVal)} :
    leafTag? env cls c = some tag → env.structSubclass c cls = true →
    (publicFields env c).all (fun f => attrHas f slots) = true →
    validSlots E env (publicFields env c) slots = true → ValidView E env (.tree fl cls) (.struct c slots)
  | union (fl : Flags) {cls c tag : String} {payload : PyVal} {td : TagDef} :
    env.unionSubclass cls c = true → publicTag? env cls tag = some td →
    (if isVoidT td.ty then isNoneV payload else validB E env td.ty payload) = true →
    ValidView E env (.union fl cls) (.union c tag payload)

theorem validPrim_leaf {E : Ext} {t : PTy} {v : PyVal} (h : validPrim E t v = true) : ValidLeaf E t v := by
  unfold validPrim at h
  split at h
  · exact .bool _ _
  · simp only [Bool.and_eq_true, decide_eq_true_eq] at h; exact .int _ _ h.1 h.2
  · simp only [Bool.and_eq_true, decide_eq_true_eq] at h; exact .intOfBool _ _ h.1 h.2
  · exact .float _ _ h
  · split at h
    · exact .floatOfInt _ _ ‹_› h
    · cases h
  · split at h
    · exact .floatOfBool _ _ ‹_› h
    · cases h
  · simp only [Bool.and_eq_true] at h
    refine .str _ h.1.1 h.1.2 fun p hp => ?_
    subst hp
    simpa using h.2
  · exact .bytes _ _
  · subst h; exact .ts _ _ _
  · exact .void _
  · cases h

theorem validB_view {E : Ext} {env : Env} {t : PTy} {v : PyVal} (h : validB E env t v = true) :
    ValidView E env t v := by
  unfold validB at h
  split at h
  · rename_i hn
    simp only [Bool.and_eq_true] at hn
    cases isNoneV_iff.1 hn.2
    exact .leaf (.unset hn.1)
  · split at h
    · split at h
      · simp only [Bool.and_eq_true] at h; exact .list _ h.1.1 h.1.2 h.2
      · simp only [Bool.and_eq_true] at h; exact .tuple _ h.1.1 h.1.2 h.2
      · cases h
    · split at h
      · exact .dict _ h
      · cases h
    · split at h
      · simp only [Bool.and_eq_true] at h; exact .struct _ h.1.1 h.1.2 h.2
      · cases h
    · split at h
      · simp only [Bool.and_eq_true] at h
        obtain ⟨tag, htag⟩ := Option.isSome_iff_exists.mp h.1.1.1
        exact .tree _ htag h.1.1.2 h.1.2 h.2
      · cases h
    · split at h
      · simp only [Bool.and_eq_true] at h
        split at h
        · exact .union _ h.1 ‹_› h.2
        · cases h.2
      · cases h
    · exact .leaf (validPrim_leaf h)

/-- apart from `None` at a nullable type, a leaf is valid whatever the wrapper flags are -/
theorem ValidLeaf.withFlags {E : Ext} {t : PTy} {v : PyVal} (fl' : Flags) (h : ValidLeaf E t v)
    (hg : (t.flags.nullable && isNoneV v) = false) : isPrimTy t = true ∧ ValidLeaf E (t.withFlags fl') v := by
  cases h with
  | unset hn => rw [hn] at hg; cases hg
  | void fl => exact ⟨rfl, .void _⟩
  | bool fl b => exact ⟨rfl, .bool _ _⟩
  | int fl c h1 h2 => exact ⟨rfl, .int _ _ h1 h2⟩
  | intOfBool fl c h1 h2 => exact ⟨rfl, .intOfBool _ _ h1 h2⟩
  | float fl c h1 => exact ⟨rfl, .float _ _ h1⟩
  | floatOfInt fl c h0 h1 => exact ⟨rfl, .floatOfInt _ _ h0 h1⟩
  | floatOfBool fl c h0 h1 => exact ⟨rfl, .floatOfBool _ _ h0 h1⟩
  | str fl h1 h2 h3 => exact ⟨rfl, .str _ h1 h2 h3⟩
  | bytes fl h => exact ⟨rfl, .bytes _ _⟩
  | ts fl fmt id => exact ⟨rfl, .ts _ _ _⟩

theorem ValidLeaf.validB {E : Ext} {env : Env} {t : PTy} {v : PyVal} (h : ValidLeaf E t v) :
    validB E env t v = true := by
  unfold Rt.validB
  cases h with
  | unset hn => simp only [hn, isNoneV, Bool.and_self, if_true]
  | str fl h1 h2 h3 =>
    rename_i pat s
    simp only [isNoneV, Bool.and_false, Bool.false_eq_true, if_false, validPrim, h1, h2, Bool.and_self, Bool.true_and]
    cases pat with
    | none => rfl
    | some p => simpa using h3 p rfl
  | _ => simp_all [validPrim, isNoneV]

theorem ValidView.validB {E : Ext} {env : Env} {t : PTy} {v : PyVal} (h : ValidView E env t v) :
    validB E env t v = true := by
  cases h with
  | leaf hl => exact hl.validB
  | list _ h1 h2 h3 => rw [validB_list_list, h1, h2, h3]; rfl
  | tuple _ h1 h2 h3 => unfold Rt.validB; simp only [isNoneV, Bool.and_false, Bool.false_eq_true, if_false, h1, h2, h3]; rfl
  | dict _ h1 => rw [validB_map_dict, h1]
  | struct _ h1 h2 h3 => rw [validB_struct_struct, h1, h2, h3]; rfl
  | tree _ ht h1 h2 h3 => rw [validB_tree_struct, ht, h1, h2, h3]; rfl
  | union _ h1 h2 h3 => rw [validB_union_union, h1, h2]; exact h3

theorem nullable_of_validB_none {E : Ext} {env : Env} {t : PTy} (h : validB E env t .none = true)
    (hv : isVoidT t = false) : t.flags.nullable = true := by
  cases validB_view h with
  | leaf h => cases h with
    | unset hn => exact hn
    | void fl => cases hv

theorem validB_void_inv {E : Ext} {env : Env} {t : PTy} {v : PyVal} (hv : isVoidT t = true)
    (h : validB E env t v = true) : v = .none := by
  cases t <;> first | cases hv | skip
  cases validB_view h with
  | leaf hl => cases hl <;> rfl

theorem hasDefault_of_valid_none {E : Ext} {env : Env} {t : PTy} (h : validB E env t .none = true) :
    hasDefault env t = true := by
  cases hv : isVoidT t
  · exact hasDefault_nullable env (nullable_of_validB_none h hv)
  · cases t with
    | void fl => unfold hasDefault; exact Bool.or_true _
    | _ => cases hv

theorem validB_leaf {E : Ext} {env : Env} {t : PTy} {v : PyVal} (hl : RoundTrip.isLeaf v = true)
    (h : validB E env t v = true) : ValidLeaf E t v := by
  cases validB_view h with
  | leaf h => exact h
  | _ => cases hl

/-- `hk` is what `tyWF` says of the key type of a map -/
theorem validB_strKey {E : Ext} {env : Env} {kt : PTy} {k : PyVal}
    (hk : (match kt with | .str fl _ _ _ => !fl.nullable | _ => false) = true)
    (hv : validB E env kt k = true) : ∃ s, k = .str s := by
  cases kt with
  | str fl a b p =>
    have hk : (!fl.nullable) = true := hk
    cases validB_view hv with
    | leaf h => cases h with
      | unset hn => rw [show fl.nullable = true from hn] at hk; cases hk
      | str => exact ⟨_, rfl⟩
  | _ => cases hk

end StoneVerif.Rt
