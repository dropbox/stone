import StoneVerif.Model.Rt.Compat
import StoneVerif.Lemmas.RtFields
import StoneVerif.Lemmas.RtValidate
import StoneVerif.Lemmas.RtWireEnv
/-!
The decoder for a caller without permissions, as the two simulations, `known_of_strict` and C04's round trip use it: a
union's public tags as one look-up, what `decode … = .ok w` says of a list, map, struct or tree document (of a union's:
`RtCompatReadings`), `finishStruct` as a run of the field table, and its steps carried along a translation of values between
two arbitrary environments.  Nothing here mentions `ρ` or `compatEnv`.
-/
namespace StoneVerif.Rt.Compat

def isPublicTag (t : TagDef) : Bool := t.omitted.isNone

theorem publicTag_eq {env : Env} {cls : String} {u : UnionDef} (hu : env.union? cls = some u) (tag : String) :
    publicTag? env cls tag = findTag tag ((UnionDef.allTags u).filter isPublicTag) := by
  simp only [publicTag?, hu, UnionDef.tagsSpec, UnionDef.allTags]
  congr 1
  apply List.filter_congr
  intro t _
  cases ho : t.omitted <;> simp [isPublicTag, ho]

theorem allTags_nodupS {env : Env} {u : UnionDef} (h : u.wf env = true) :
    nodupS ((UnionDef.allTags u).map (·.name)) = true :=
  UnionDef.wf_nodupS h

theorem publicTag_all {env : Env} (hwf : envWF env = true) {cls : String} {u : UnionDef} (hu : env.union? cls = some u)
    (tag : String) :
    publicTag? env cls tag = match findTag tag (UnionDef.allTags u) with
      | some t => if isPublicTag t then some t else none
      | none => none := by
  rw [publicTag_eq hu, findTag_filter _ _ _ (allTags_nodupS (envWF_union hwf hu))]
  cases findTag tag (UnionDef.allTags u) <;> rfl

theorem catchAll_tag {env : Env} (hwf : envWF env = true) {cls ca : String} (h : catchAllOf env cls = some ca) :
    ∃ td, publicTag? env cls ca = some td ∧ ∃ fl, td.ty = .void fl ∧ fl.nullable = false := by
  unfold catchAllOf at h
  cases hu : env.union? cls with
  | none => simp [hu] at h
  | some u =>
    simp only [hu, Option.bind_some] at h
    obtain ⟨_, _, hty, hca⟩ := UnionDef.wf_parts (envWF_union hwf hu)
    obtain ⟨t, hf, hom, hv⟩ := hca ca h
    refine ⟨t, ?_, ?_⟩
    · rw [publicTag_all hwf hu]
      have : findTag ca (UnionDef.allTags u) = some t := hf
      simp [this, isPublicTag, hom]
    · have hw := hty t (findTag_some hf).1
      cases hq : t.ty <;> simp [hq, isVoidTy] at hv
      rename_i fl
      exact ⟨fl, rfl, by simpa [hq, tyWF] using hw⟩

theorem finishStruct_run (E : Ext) (env : Env) (hwf : envWF env = true) (strict : Bool) {cls : String} {s : StructDef}
    (hs : env.struct? cls = some s) (kvs : List (String × JVal)) (children : List (String × R PyVal)) :
    finishStruct E env [] strict cls kvs children =
      if strict && kvs.any (fun kx => !((publicFields env cls).map (·.name)).contains kx.1 && !kx.1.startsWith ".tag")
      then verr "unknown field"
      else match runFields E env children (publicFields env cls) with
        | .error e => .error e
        | .ok slots =>
          if (publicFields env cls).all fun f => attrHas f slots then .ok (.struct cls slots)
          else verr "missing required field" := by
  rw [finishStruct_eq E env [] strict hs, fieldsFor_eq_publicFields hs,
    finishFields_run E env children _ (publicFields_nodup hwf cls)]
  split
  · rfl
  · cases runFields E env children (publicFields env cls) with
    | error e => rfl
    | ok slots => rfl

/-- `S`, `T` are `viewSlots`, `view` (forward: X = B, Y = A) or `liftSlots`, `lift` (backward: X = A, Y = B) -/
theorem finishStruct_transport (E : Ext) {X Y : Env} (hX : envWF X = true) (hY : envWF Y = true) {x y : String}
    {sx sy : StructDef} (hsx : X.struct? x = some sx) (hsy : Y.struct? y = some sy)
    {S : List (String × PyVal) → List (String × PyVal)} {T : PTy → PyVal → PyVal}
    (hS : ∀ k slots, lookupSlot k (S slots) = match (publicFields Y y).find? (·.name == k) with
      | some f => (lookupSlot k slots).map (T f.ty)
      | none => none)
    (kvs : List (String × JVal)) {cX cY : List (String × R PyVal)} (sX sY : Bool) (w : PyVal)
    (hstrict : (sY && kvs.any (fun kx => !((publicFields Y y).map (·.name)).contains kx.1 && !kx.1.startsWith ".tag")) = false)
    (hsteps : ∀ slots, runFields E X cX (publicFields X x) = .ok slots →
      ∀ g ∈ publicFields Y y, fieldStep E Y cY g = .ok ((lookupSlot g.name slots).map (T g.ty)))
    (hall : ∀ slots, ((publicFields X x).all fun f => attrHas f slots) = true →
      ((publicFields Y y).all fun g => attrHas g (orderSlots (publicFields Y y) (S slots))) = true)
    (h : finishStruct E X [] sX x kvs cX = .ok w) :
    ∃ slots, w = .struct x slots ∧
      finishStruct E Y [] sY y kvs cY = .ok (.struct y (orderSlots (publicFields Y y) (S slots))) := by
  rw [finishStruct_run E X hX sX hsx] at h
  rw [finishStruct_run E Y hY sY hsy]
  split at h
  · cases h
  · cases hrun : runFields E X cX (publicFields X x) with
    | error e => simp only [hrun] at h; cases h
    | ok slots =>
      simp only [hrun] at h
      split at h
      · rename_i hallX
        cases h
        refine ⟨slots, rfl, ?_⟩
        have hrunY := runFields_of_steps E Y cY (fun g => (lookupSlot g.name slots).map (T g.ty)) _ (hsteps slots hrun)
        have hslots : (publicFields Y y).filterMap (fun g => ((lookupSlot g.name slots).map (T g.ty)).map fun v => (g.name, v)) =
            orderSlots (publicFields Y y) (S slots) := by
          unfold orderSlots
          apply filterMap_congr_mem
          intro g hg
          rw [hS, find_name_of_mem (publicFields_nodup hY y) hg]
        simp only [hstrict, Bool.false_eq_true, if_false, hrunY, hslots, hall slots hallX, if_true]
      · cases h

/-- `hn`, `hvd`, `hus`: the three tests `Union.__init__` branches on (`memberSat`) come out the same on both sides -/
theorem mkUnion_transport {E : Ext} {X Y : Env} {cX cY tag : String} {uX uY : UnionDef} (huX : X.union? cX = some uX)
    (huY : Y.union? cY = some uY) {tX tY : PTy} (hcX : uX.ctorValidator tag = some tX)
    (hcY : uY.ctorValidator tag = some tY) {T : PyVal → PyVal} (hn : tX.flags.nullable = tY.flags.nullable)
    (hvd : isVoidT tX = isVoidT tY) (hus : isUserTyC08 tX = isUserTyC08 tY) (hnone : ∀ x, isNoneV (T x) = isNoneV x)
    (hvto : ∀ x, validateTypeOnly X tX x = .ok () → validateTypeOnly Y tY (T x) = .ok ())
    (hv : ∀ x x', validate E X tX x = .ok x' → validate E Y tY (T x) = .ok (T x')) (x w : PyVal)
    (h : mkUnion E X cX tag x = .ok w) :
    w = .union cX tag x ∧ mkUnion E Y cY tag (T x) = .ok (.union cY tag (T x)) := by
  obtain ⟨hs, rfl⟩ := (V8.mkUnion_good E X cX tag x uX huX tX hcX).ok_eq h
  refine ⟨rfl, (V8.mkUnion_good E Y cY tag (T x) uY huY tY hcY).of_acc ?_⟩
  unfold memberSat at hs ⊢
  rw [← hn, ← hvd, ← hus, hnone]
  split
  · rwa [if_pos ‹_›] at hs
  · rw [if_neg ‹_›] at hs
    split
    · rename_i h2
      rw [if_pos h2] at hs
      have hu := (Bool.and_eq_true_iff.1 h2).2
      exact ((V8.validateTypeOnly_good Y tY (T x) (hus ▸ hu)).ok_eq (hvto x ((V8.validateTypeOnly_good X tX x hu).of_acc hs))).1
    · rw [if_neg ‹_›] at hs
      exact ((V8.validate_spec E Y tY (T x)).ok_eq (hv x _ ((V8.validate_spec E X tX x).of_acc hs))).1

theorem mkUnion_none_public {E : Ext} {env : Env} (hwf : envWF env = true) {cls tag : String} {u : UnionDef} {td : TagDef}
    (hu : env.union? cls = some u) (ht : publicTag? env cls tag = some td)
    (hvn : (isVoidT td.ty || td.ty.flags.nullable) = true) : mkUnion E env cls tag .none = .ok (.union cls tag .none) :=
  V8.mkUnion_none_ok E env cls tag u hu td.ty (ctorValidator_of_public hwf hu ht) (Bool.or_eq_true_iff.1 hvn)

theorem mkUnion_shape (E : Ext) {env : Env} {cls tag : String} {x w : PyVal} (h : mkUnion E env cls tag x = .ok w) :
    w = .union cls tag x := by
  cases hu : env.union? cls with
  | none => simp [mkUnion, hu, crash] at h
  | some u => exact (V8.mkUnion_spec E env cls tag x hu).eq_of_ok h

/-- the flags differ on one side because `tySub` relates a primitive to itself up to flags (`TySub.prim`) -/
theorem msf_prim_indep (E : Ext) (X Y : Env) (sX sY : Bool) {t : PTy} (hp : isPrimTy t = true) (hv : isVoidT t = false)
    (g : Flags) (j : JVal) :
    makeStoneFriendly E X [] sX false t j = makeStoneFriendly E Y [] sY false (t.withFlags g) j := by
  by_cases hjp : isJsonPrimTy t = true
  · rw [makeStoneFriendly_jsonPrim E X [] sX false hjp,
      makeStoneFriendly_jsonPrim E Y [] sY false (t := t.withFlags g) (by cases t <;> first | rfl | cases hjp)]
    simp only [Bool.false_eq_true, if_false]
  · cases t <;> simp only [isPrimTy, Bool.false_eq_true] at hp <;> simp only [isVoidT, Bool.true_eq_false] at hv <;>
      first | exact absurd rfl hjp | (unfold makeStoneFriendly; rfl)

section shapes
variable {E : Ext} {env : Env} {s : Bool} {fl : Flags} {j : JVal} {w : PyVal}

theorem decode_list_ok {item : PTy} {a b : Option Nat} (h : decode E env [] s (.list fl item a b) j = .ok w)
    (hn : (fl.nullable && isNullJ j) = false) :
    ∃ xs ys, j = .arr xs ∧ w = .list ys ∧ decodeList E env [] s item xs = .ok ys := by
  rw [decode_list, hn, if_neg Bool.false_ne_true] at h
  split at h
  · rename_i xs
    cases hl : decodeList E env [] s item xs with
    | error e => rw [hl] at h; cases h
    | ok ys => rw [hl] at h; cases h; exact ⟨xs, ys, rfl, rfl, hl⟩
  · cases h

theorem decode_map_ok {kt vt : PTy} (h : decode E env [] s (.map fl kt vt) j = .ok w)
    (hn : (fl.nullable && isNullJ j) = false) :
    ∃ kvs ys, j = .obj kvs ∧ w = .dict ys ∧ decodeMap E env [] s vt kvs = .ok ys := by
  rw [decode_map, hn, if_neg Bool.false_ne_true] at h
  split at h
  · rename_i kvs
    cases hl : decodeMap E env [] s vt kvs with
    | error e => rw [hl] at h; cases h
    | ok ys => rw [hl] at h; cases h; exact ⟨kvs, ys, rfl, rfl, hl⟩
  · cases h

theorem decode_struct_shape {c : String} (h : decode E env [] s (.struct fl c) j = .ok w) :
    j = .null ∨ ∃ kvs, j = .obj kvs := by
  cases j <;> first | exact .inl rfl | exact .inr ⟨_, rfl⟩ | (rw [decode_struct] at h; simp [verr] at h)

theorem decode_tree_shape {c : String} (h : decode E env [] s (.tree fl c) j = .ok w)
    (hn : (fl.nullable && isNullJ j) = false) : ∃ kvs, j = .obj kvs := by
  cases j <;> first | exact ⟨_, rfl⟩ | (rw [decode_tree] at h; simp [verr, isNullJ] at h hn; try simp [hn] at h)

theorem decode_tree_tag {c : String} {kvs : List (String × JVal)} (h : decode E env [] s (.tree fl c) (.obj kvs) = .ok w) :
    ∃ tag, jsonLookup ".tag" kvs = some (.str tag) := by
  rw [decode_tree] at h
  simp only [Bool.and_false, Bool.false_eq_true, if_false] at h
  split at h
  · cases h
  · exact ⟨_, by assumption⟩
  · cases h

end shapes

theorem decode_struct_obj_structTable (E : Ext) {env : Env} (strict : Bool) (fl : Flags) {cls : String} {s : StructDef}
    (hs : env.struct? cls = some s) (kvs : List (String × JVal)) :
    decode E env [] strict (.struct fl cls) (.obj kvs) =
      finishStruct E env [] strict cls kvs (decodeMembers E env [] strict (structTable env cls) kvs) := by
  rw [decode_struct_obj, memberTable_struct env [] strict fl kvs hs, fieldsFor_eq_publicFields hs]
  rfl

/-- `decode` writes the test on a subtype entry with a pattern, `findSub` with a projection: two functions to `rw` -/
theorem tagPred_eq (tag : String) :
    (fun (x : SubEntry) => match x with | (tags, _, _) => tags == [tag]) = fun e => e.1 == [tag] := by
  funext ⟨a, b, c⟩; rfl

theorem structTable_eq (env : Env) (cls : String) :
    (match env.struct? cls with
      | some s => (s.fieldsFor []).map fun f => (f.name, f.ty)
      | none => []) = structTable env cls := by
  unfold structTable publicFields
  cases env.struct? cls with
  | none => rfl
  | some s => simp [fieldsFor_nil]

theorem decode_tree_obj (E : Ext) (env : Env) (strict : Bool) (fl : Flags) (cls : String) (kvs : List (String × JVal))
    {tag : String} {s : StructDef} (ht : jsonLookup ".tag" kvs = some (.str tag)) (hs : env.struct? cls = some s) :
    decode E env [] strict (.tree fl cls) (.obj kvs) =
      match findSub [tag] (s.subtypes.getD []) with
      | some (_, sc, isTree) =>
        if isTree then verr "tag refers to non-leaf subtype"
        else finishStruct E env [] strict sc kvs (decodeMembers E env [] strict (structTable env sc) kvs)
      | none =>
        if strict then verr "unknown subtype"
        else if s.catchAll then finishStruct E env [] strict cls kvs (decodeMembers E env [] strict (structTable env cls) kvs)
        else verr "unknown subtype and not a catch-all" := by
  rw [decode_tree]
  simp only [Bool.and_false, Bool.false_eq_true, if_false, ht, hs, memberTable, tagPred_eq]
  unfold findSub
  cases hf : List.find? (fun e => e.1 == [tag]) (s.subtypes.getD []) with
  | none =>
    have hst := structTable_eq env cls
    simp only [hs] at hst
    simp only []
    cases strict <;> cases hc : s.catchAll <;> simp [hst]
  | some e =>
    obtain ⟨tags, sc, isTree⟩ := e
    cases isTree
    · cases hsc : env.struct? sc <;> simp [structTable, publicFields, hsc, fieldsFor_nil]
    · simp

theorem of_ite_verr {c : Prop} [Decidable c] {s : String} {x : R PyVal} {w : PyVal}
    (h : (if c then verr s else x) = .ok w) : ¬c ∧ x = .ok w := by
  by_cases hc : c <;> simp_all [verr]

/-- the inner `match` of `decode` at a union member read from the tag's key -/
def payloadOf (r : Option (R PyVal)) (hasKey nullable : Bool) : R PyVal :=
  match r with
  | some r => r
  | none => if hasKey then crash "Unreachable" else if nullable then .ok .none else verr "missing tag key"

/-- `hrel` is `ChildRel` / `ChildRelB` at the tag, unfolded -/
theorem payloadOf_rel {T : PyVal → PyVal} (hT : T .none = .none) {rX rY : Option (R PyVal)}
    (hrel : match rX with
      | some (.ok x) => rY = some (.ok (T x))
      | some (.error _) => True
      | none => rY = none) (hasKey nullable : Bool) {v : PyVal} (h : payloadOf rX hasKey nullable = .ok v) :
    payloadOf rY hasKey nullable = .ok (T v) := by
  cases rX with
  | some r =>
    have hr : r = .ok v := h
    subst hr
    rw [hrel]; rfl
  | none =>
    rw [hrel]
    cases hasKey with
    | true => cases h
    | false =>
      cases nullable with
      | true => cases h; exact congrArg Except.ok hT.symm
      | false => cases h

theorem only_tag {kvs : List (String × JVal)} {tag : String} (hk : jsonLookup ".tag" kvs = some (.str tag))
    (hl : (kvs.length == 1) = true) : kvs = [(".tag", .str tag)] := by
  cases kvs with
  | nil => simp at hl
  | cons kv rest =>
    cases rest with
    | nil =>
      obtain ⟨k, x⟩ := kv
      simp only [jsonLookup] at hk
      split at hk
      · rename_i hkk
        have : k = ".tag" := by simpa using hkk
        cases hk
        rw [this]
      · cases hk
    | cons _ _ => simp at hl

end StoneVerif.Rt.Compat
