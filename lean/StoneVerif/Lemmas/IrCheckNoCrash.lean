import StoneVerif.Lemmas.IrCheck
/-! C10: since the frontend repairs, the compile-time checks of defaults and examples end in acceptance or in
`InvalidSpec` — never in another exception — on every type whose class names the compiler knows (`tyKnown`). -/
namespace StoneVerif.IrCheck
open StoneVerif.Rt

/-- the result is not "an exception other than InvalidSpec escaped" -/
def NoCrash {α} (r : CR α) : Prop := ∀ e, r ≠ .error (.crash e)

theorem noCrash_ok {α} {a : α} : NoCrash (.ok a : CR α) := by intro e h; cases h
theorem noCrash_invalid {α} {s : String} : NoCrash (invalid s : CR α) := by intro e h; simp [invalid] at h

theorem noCrash_ite {α} {c : Prop} [Decidable c] {a b : CR α} (ha : NoCrash a) (hb : NoCrash b) :
    NoCrash (if c then a else b) := by
  by_cases h : c <;> simp [h] <;> assumption

/-- the arm `| .error e => .error e` of a `match` on `r` -/
theorem noCrash_error {α β} {r : CR α} {e : CheckErr} (hr : NoCrash r) (h : r = .error e) :
    NoCrash (.error e : CR β) := by
  intro c hc
  cases hc
  exact hr c h

theorem noCrash_map {α β} {r : CR α} (f : α → β) (h : NoCrash r) : NoCrash (r.map f) := by
  intro e he
  cases r with
  | ok a => simp [Except.map] at he
  | error x => simp [Except.map] at he; exact h e (by rw [he])

theorem checkIntVal_noCrash {cls : String} (mn mx : Option Int) (n : Int) (h : (irIntBounds cls).isSome = true) :
    NoCrash (checkIntVal cls mn mx n) := by
  unfold checkIntVal
  cases hb : irIntBounds cls with
  | none => simp [hb] at h
  | some b =>
    obtain ⟨lo, hi⟩ := b
    simp only
    exact noCrash_ite noCrash_invalid (noCrash_ite noCrash_invalid (noCrash_ite noCrash_invalid noCrash_ok))

theorem checkFloatVal_noCrash (E : Ext) {cls : String} (mn mx : Option FBits) (x : FBits)
    (h : (irFloatBounds cls).isSome = true) : NoCrash (checkFloatVal E cls mn mx x) := by
  unfold checkFloatVal
  refine noCrash_ite noCrash_invalid ?_
  cases hb : irFloatBounds cls with
  | none => simp [hb] at h
  | some b =>
    obtain ⟨lo, hi⟩ := b
    simp only
    exact noCrash_ite noCrash_invalid (noCrash_ite noCrash_invalid (noCrash_ite noCrash_invalid
      (noCrash_ite noCrash_invalid noCrash_ok)))

/-- `defaultable` excludes `List/Map/Struct.check` (`NotImplementedError`), `tyKnown` the class names in no table: the
model's other `crash` answers. -/
theorem check_noCrash (E : Ext) (C : CExt) (us : List CUnion) :
    ∀ (t : IrTy), tyKnown us t = true → defaultable (unwrapAll t) = true → ∀ l, NoCrash (check E C us t l) := by
  intro t
  induction t with
  | bool =>
    intro _ _ l
    cases l with
    | bool => exact noCrash_ok
    | _ => exact noCrash_invalid
  | int cls mn mx =>
    intro hk _ l
    cases l with
    | int n => exact checkIntVal_noCrash _ _ _ hk
    | _ => exact noCrash_invalid
  | float cls mn mx =>
    intro hk _ l
    cases l with
    | flt x => exact checkFloatVal_noCrash E _ _ _ hk
    | int n =>
      unfold check
      simp only
      split
      · exact noCrash_ite (checkFloatVal_noCrash E _ _ _ hk) noCrash_invalid
      · exact noCrash_invalid
    | _ => exact noCrash_invalid
  | str a b p =>
    intro _ _ l
    cases l with
    | str s =>
      refine noCrash_ite noCrash_invalid (noCrash_ite noCrash_invalid ?_)
      cases p with
      | none => exact noCrash_ok
      | some q => exact noCrash_ite noCrash_invalid noCrash_ok
    | _ => exact noCrash_invalid
  | bytes =>
    intro _ _ l
    cases l with
    | str => exact noCrash_ok
    | _ => exact noCrash_invalid
  | ts f =>
    intro _ _ l
    cases l with
    | str s => exact noCrash_ite noCrash_ok noCrash_invalid
    | _ => exact noCrash_invalid
  | void =>
    intro _ _ l
    cases l with
    | null => exact noCrash_ok
    | _ => exact noCrash_invalid
  | list | map | struct => intro _ hd; cases hd
  | union cls =>
    intro hk _ l
    cases l with
    | tagref tag =>
      simp only [tyKnown] at hk
      unfold check
      simp only
      cases hu : us.find? (·.cls == cls) with
      | none => simp [hu] at hk
      | some u =>
        simp only
        split
        · exact noCrash_ite noCrash_ok noCrash_invalid
        · exact noCrash_invalid
    | _ => exact noCrash_invalid
  | nullable t ih =>
    intro hk hd l
    cases l with
    | null => exact noCrash_ok
    | _ => exact ih hk hd _
  | alias n r t ih => exact ih

theorem coerceDefault_noCrash (E : Ext) (t : IrTy) (lit : Lit) : NoCrash (coerceDefault E t lit) := by
  unfold coerceDefault
  split
  · split
    · exact noCrash_ok
    · exact noCrash_invalid
  · split
    · exact noCrash_ok
    · exact noCrash_invalid
  · exact noCrash_ok

theorem populateDefault_noCrash (E : Ext) (C : CExt) (us : List CUnion) (t : IrTy) (lit : Lit) (hk : tyKnown us t = true) :
    NoCrash (populateDefault E C us t lit) := by
  unfold populateDefault
  refine noCrash_ite noCrash_invalid (noCrash_ite noCrash_invalid ?_)
  by_cases hd : defaultable (unwrapAll t) = true
  · simp only [hd, Bool.not_true, Bool.false_eq_true, ↓reduceIte]
    split
    · exact noCrash_error (check_noCrash E C us t hk hd lit) ‹_›
    · exact coerceDefault_noCrash E t lit
  · simp only [hd, Bool.not_false, ↓reduceIte]
    exact noCrash_invalid

theorem fieldDefault_noCrash (E : Ext) (C : CExt) (us : List CUnion) (t : IrTy) (lit : Lit) (hk : tyKnown us t = true) :
    NoCrash (fieldDefault E C us t lit) :=
  fieldDefault_eq E C us t lit ▸ populateDefault_noCrash E C us t lit hk

theorem firstErr_noCrash {α} (f : α → CR Unit) : ∀ xs, (∀ x ∈ xs, NoCrash (f x)) → NoCrash (firstErr f xs)
  | [], _ => noCrash_ok
  | x :: xs, h => by
    simp only [firstErr]
    split
    · exact noCrash_error (h x List.mem_cons_self) ‹_›
    · exact firstErr_noCrash f xs fun y hy => h y (List.mem_cons_of_mem _ hy)

theorem checkPrimExample_noCrash (E : Ext) (C : CExt) (us : List CUnion) (t : IrTy) (v : ExVal)
    (hk : tyKnown us t = true) (hd : defaultable (unwrapAll t) = true) : NoCrash (checkPrimExample E C us t v) := by
  cases v with
  | lit l => rw [checkPrimExample_lit]; exact check_noCrash E C us t hk hd l
  | _ => exact noCrash_invalid

theorem checkExample_noCrash (E : Ext) (C : CExt) (us : List CUnion) :
    ∀ (t : IrTy), tyKnown us t = true → ∀ v, NoCrash (checkExample E C us t v) := by
  intro t
  induction t with
  | bool | int | float | str | ts => intro hk v; exact checkPrimExample_noCrash E C us _ v hk rfl
  | bytes =>
    intro _ v; unfold checkExample
    split
    · split
      · exact noCrash_ite noCrash_ok noCrash_invalid
      · exact noCrash_invalid
    · exact noCrash_invalid
  | void | struct | union =>
    intro _ v; unfold checkExample
    split
    · exact noCrash_ok
    · exact noCrash_invalid
  | list t a b ih =>
    intro hk v
    simp only [tyKnown] at hk
    unfold checkExample
    split
    · exact noCrash_ite noCrash_invalid (noCrash_ite noCrash_invalid (firstErr_noCrash _ _ fun x _ => ih hk x))
    · exact noCrash_invalid
  | map k w ihk ihw =>
    intro hk v
    simp only [tyKnown, Bool.and_eq_true] at hk
    unfold checkExample
    split
    · refine firstErr_noCrash _ _ fun p _ => ?_
      split
      · exact noCrash_error (ihk hk.1 _) ‹_›
      · exact ihw hk.2 _
    · exact noCrash_invalid
  | nullable t ih =>
    intro hk v
    simp only [tyKnown] at hk
    unfold checkExample
    split
    · exact noCrash_ok
    · exact ih hk v
  | alias n r t ih =>
    intro hk v
    simp only [tyKnown] at hk
    unfold checkExample
    exact ih hk v

theorem addStructExample_noCrash (E : Ext) (C : CExt) (us : List CUnion) (s : CStruct) (ex : List (String × ExVal))
    (hk : ∀ f ∈ s.allFields, tyKnown us f.ty = true) : NoCrash (addStructExample E C us s ex) := by
  unfold addStructExample
  refine noCrash_ite noCrash_invalid (firstErr_noCrash _ _ fun f hf => ?_)
  cases exLookup f.name ex with
  | none => exact noCrash_ite noCrash_ok noCrash_invalid
  | some v =>
    simp only
    split
    · exact noCrash_invalid
    · exact checkExample_noCrash E C us f.ty (hk f hf) v

theorem addUnionExample_noCrash (E : Ext) (C : CExt) (us : List CUnion) (u : CUnion) (ex : List (String × ExVal))
    (hk : ∀ t ∈ u.allTags, tyKnown us t.ty = true) : NoCrash (addUnionExample E C us u ex) := by
  unfold addUnionExample
  split
  · rename_i tag v
    cases hf : u.allTags.find? (·.name == tag) with
    | none => exact noCrash_invalid
    | some t =>
      simp only
      split
      · exact noCrash_invalid
      · exact checkExample_noCrash E C us t.ty (hk t (List.mem_of_find?_eq_some hf)) v
  · exact noCrash_invalid

theorem unionExample_noCrash (E : Ext) (C : CExt) (us : List CUnion) (u : CUnion) (ex : List (String × ExVal))
    (hk : ∀ t ∈ u.allTags, tyKnown us t.ty = true) : NoCrash (unionExample E C us u ex) := by
  unfold unionExample
  split
  · exact noCrash_error (addUnionExample_noCrash E C us u ex hk) ‹_›
  · exact noCrash_ok

end StoneVerif.IrCheck
