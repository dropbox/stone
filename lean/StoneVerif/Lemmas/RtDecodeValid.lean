import StoneVerif.Lemmas.RtDecode
/-!
What `decode` returns is valid for the type (`validB`), towards `C06.decode_sound_partial`. The decoder
validates late: `Pre` is what it returns before the enclosing assignment, constructor or entry point validates it,
and a value that `validate` accepts (`satB`) and whose parts at user-defined types are already valid (`Pre`) is
valid, and so is its normalisation (`valid_of_sat`).
-/
namespace StoneVerif.Rt.DecL
open V8

/-- Values at user-defined types are already deeply valid; lists and maps have the right shape with such elements;
primitives are the raw JSON scalars, also inside a list or a map (nothing validates those before the entry point does). -/
def Pre (E : Ext) (env : Env) : PTy → PyVal → Prop
  | .list fl item _ _, v => (fl.nullable = true ∧ v = .none) ∨ ∃ xs, v = .list xs ∧ ∀ x ∈ xs, Pre E env item x
  | .map fl kt vt, v => (fl.nullable = true ∧ v = .none) ∨
      ∃ kvs, v = .dict kvs ∧ ∀ p ∈ kvs, Pre E env kt p.1 ∧ Pre E env vt p.2
  | .struct fl c, v => validB E env (.struct fl c) v = true
  | .tree fl c, v => validB E env (.tree fl c) v = true
  | .union fl c, v => validB E env (.union fl c) v = true
  | _, _ => True

section
variable (E : Ext) (env : Env) (perms : List String) (strict : Bool)

theorem Pre_nullable_none (t : PTy) (h : t.flags.nullable = true) : Pre E env t .none := by
  cases t with
  | list | map => exact .inl ⟨h, rfl⟩
  | struct | tree | union => exact validB_nullable_none E env h
  | _ => trivial

theorem Pre_user (t : PTy) (v : PyVal) (hu : isUserTy t = true) :
    Pre E env t v ↔ validB E env t v = true := by
  cases t with
  | struct | tree | union => exact Iff.rfl
  | _ => cases hu

theorem Pre_prim (t : PTy) (v : PyVal) (h : isPrimTy t = true) : Pre E env t v := by
  cases t <;> first | trivial | cases h

theorem Pre_void (t : PTy) (v : PyVal) (h : isVoidTy t = true) : Pre E env t v := by
  cases t <;> first | trivial | cases h

theorem Pre_withFlags_empty (t : PTy) (v : PyVal) (h : Pre E env (t.withFlags {}) v) :
    Pre E env t v := by
  cases t with
  | list | map => exact h.elim (fun h => nomatch h.1) .inr
  | struct | tree | union => exact validB_of_withFlags_empty E env h
  | _ => trivial

theorem validList_of_sat (t : PTy)
    (ih : ∀ v, Pre E env t v → satB E env t v = true → validB E env t v = true ∧ validB E env t (normOf E t v) = true) :
    ∀ xs, (∀ x ∈ xs, Pre E env t x) → satList E env t xs = true →
      validList E env t xs = true ∧ validList E env t (normList E t xs) = true
  | [], _, _ => ⟨rfl, rfl⟩
  | x :: xs, hpre, h => by
    simp only [satList, validList, normList, Bool.and_eq_true] at h ⊢
    obtain ⟨a1, a2⟩ := ih x (hpre x List.mem_cons_self) h.1
    obtain ⟨b1, b2⟩ := validList_of_sat t ih xs (fun y hy => hpre y (List.mem_cons_of_mem _ hy)) h.2
    exact ⟨⟨a1, b1⟩, a2, b2⟩

theorem validDict_of_sat (kt vt : PTy)
    (ihk : ∀ v, Pre E env kt v → satB E env kt v = true → validB E env kt v = true ∧ validB E env kt (normOf E kt v) = true)
    (ihv : ∀ v, Pre E env vt v → satB E env vt v = true → validB E env vt v = true ∧ validB E env vt (normOf E vt v) = true) :
    ∀ kvs, (∀ p ∈ kvs, Pre E env kt p.1 ∧ Pre E env vt p.2) → satDict E env kt vt kvs = true →
      validDict E env kt vt kvs = true ∧ validDict E env kt vt (normDict E kt vt kvs) = true
  | [], _, _ => ⟨rfl, rfl⟩
  | (k, x) :: rest, hpre, h => by
    simp only [satDict, validDict, normDict, Bool.and_eq_true] at h ⊢
    obtain ⟨hk, hx⟩ := hpre (k, x) List.mem_cons_self
    obtain ⟨a1, a2⟩ := ihk k hk h.1.1
    obtain ⟨c1, c2⟩ := ihv x hx h.1.2
    obtain ⟨b1, b2⟩ := validDict_of_sat kt vt ihk ihv rest (fun y hy => hpre y (List.mem_cons_of_mem _ hy)) h.2
    exact ⟨⟨⟨a1, c1⟩, b1⟩, ⟨a2, c2⟩, b2⟩

theorem valid_of_sat (t : PTy) :
    ∀ v, Pre E env t v → satB E env t v = true → validB E env t v = true ∧ validB E env t (normOf E t v) = true := by
  induction t with
  | list fl item a b ih =>
    intro v hpre h
    rcases hpre with ⟨hn, rfl⟩ | ⟨xs, rfl, hxs⟩
    · rw [normOf_none]; exact ⟨validB_nullable_none E env hn, validB_nullable_none E env hn⟩
    · rw [satB_list] at h
      simp only [isNoneV, Bool.and_false, Bool.false_eq_true, if_false, Bool.and_eq_true] at h
      obtain ⟨b1, b2⟩ := validList_of_sat E env item ih xs hxs h.2
      show validB E env _ (.list xs) = true ∧ validB E env _ (.list (normList E item xs)) = true
      rw [validB_list_list, validB_list_list, normList_length, h.1.1, h.1.2, b1, b2]
      exact ⟨rfl, rfl⟩
  | map fl kt vt ihk ihv =>
    intro v hpre h
    rcases hpre with ⟨hn, rfl⟩ | ⟨kvs, rfl, hkvs⟩
    · rw [normOf_none]; exact ⟨validB_nullable_none E env hn, validB_nullable_none E env hn⟩
    · rw [satB_map] at h
      simp only [isNoneV, Bool.and_false, Bool.false_eq_true, if_false] at h
      show validB E env _ (.dict kvs) = true ∧ validB E env _ (.dict (normDict E kt vt kvs)) = true
      rw [validB_map_dict, validB_map_dict]
      exact validDict_of_sat E env kt vt ihk ihv kvs hkvs h
  | struct fl c => intro v hpre _; rw [normOf_user E _ v rfl]; exact ⟨hpre, hpre⟩
  | tree fl c => intro v hpre _; rw [normOf_user E _ v rfl]; exact ⟨hpre, hpre⟩
  | union fl c => intro v hpre _; rw [normOf_user E _ v rfl]; exact ⟨hpre, hpre⟩
  | _ =>
    intro v _ h
    rw [validB_prim E env _ _ rfl, validB_prim E env _ _ rfl, ← satB_prim E env _ _ rfl, ← satB_prim E env _ _ rfl]
    exact ⟨h, (norm_sat E env _ v h).1⟩

theorem validate_sound (t : PTy) (v v' : PyVal) (hpre : Pre E env t v)
    (h : validate E env t v = .ok v') : validB E env t v' = true := by
  obtain ⟨hs, rfl⟩ := (validate_spec E env t v).ok_eq h
  exact (valid_of_sat E env t v hpre hs).2

def SlotsOK (E : Ext) (env : Env) (s : StructDef) (slots : List (String × PyVal)) : Prop :=
  ∀ p ∈ slots, ∀ f ∈ s.allAttrs, f.name = p.1 → validB E env f.ty p.2 = true

theorem attrSet_sound (s : StructDef) (f : FieldDef) (slots slots' : List (String × PyVal))
    (v : PyVal) (hnd : nodupS (s.allAttrs.map (·.name)) = true) (hf : f ∈ s.allAttrs) (hfl : f.flagsWF = true)
    (hpre : Pre E env f.ty v) (hok : SlotsOK E env s slots) (h : attrSet E env f slots v = .ok slots') :
    SlotsOK E env s slots' := by
  obtain ⟨hsat, rfl⟩ := attrSet_eq_ok h
  unfold slotsAfter
  split
  · exact fun p hp g hg hgn => hok p (mem_of_mem_delSlot _ _ _ hp) g hg hgn
  · rename_i hN
    -- what is stored is valid: by class for a field of a user type, validated otherwise
    have hx : validB E env f.ty (storedOf E f v) = true := by
      rw [Bool.not_eq_true] at hN
      simp only [fieldSat, hN, Bool.false_or] at hsat
      unfold storedOf
      split at hsat
      · rename_i hu
        simp only [FieldDef.flagsWF, hu, Bool.not_true, Bool.false_or, Bool.and_eq_true] at hfl
        rw [if_pos hu]
        exact (Pre_user E env f.ty v hfl.1).mp hpre
      · rename_i hu
        rw [if_neg hu]
        exact (valid_of_sat E env f.ty v hpre hsat).2
    intro p hp g hg hgn
    rcases eq_or_mem_of_mem_setSlot _ _ _ _ hp with rfl | hp'
    · obtain rfl : g = f := key_inj_of_nodupS (·.name) _ hnd g f hg hf hgn
      exact hx
    · exact hok p hp' g hg hgn

theorem validSlots_of_SlotsOK (s : StructDef) (pub : List FieldDef)
    (hpub : ∀ f ∈ pub, f ∈ s.allAttrs) :
    ∀ slots, SlotsOK E env s slots → validSlots E env pub slots = true := by
  intro slots
  induction slots with
  | nil => intro _; simp [validSlots]
  | cons kv rest ih => grind [validSlots, SlotsOK]

theorem getDefault_pre (hwf : envWF env = true) (t : PTy)
    (hd : hasDefault env t = true) : Pre E env t (getDefault t) := by
  have h := DefaultOf.of_hasDefault hd
  generalize getDefault t = v at h
  cases h with
  | nullable hn => exact Pre_nullable_none E env _ hn
  | void hn => simp [Pre]
  | @struct fl cls s hn hs hall =>
    simp only [Pre]
    rw [validB_struct_struct, structSubclass_self hwf hs]
    simpa [validSlots, List.all_eq_true] using hall

theorem struct_valid (hwf : envWF env = true) (fl : Flags) (cls : String) (s : StructDef)
    (hs : env.struct? cls = some s) (slots : List (String × PyVal))
    (h1 : (publicFields env cls).all (fun f => attrHas f slots) = true)
    (h2 : validSlots E env (publicFields env cls) slots = true) :
    validB E env (.struct fl cls) (.struct cls slots) = true := by
  rw [validB_struct_struct, structSubclass_self hwf hs, h1, h2]; rfl

theorem tree_leaf_facts (hwf : envWF env = true) (cls : String) (s : StructDef)
    (hs : env.struct? cls = some s) (tag : String) (tags : List String) (sc : String)
    (hf : (s.subtypes.getD []).find? (fun (tags, _, _) => tags == [tag]) = some (tags, sc, false)) :
    (leafTag? env cls sc).isSome = true ∧ env.structSubclass sc cls = true := by
  have hmem := List.mem_of_find?_eq_some hf
  obtain rfl : tags = [tag] := by simpa using List.find?_some hf
  exact ⟨by rw [leafTag_of_entry hwf hs hmem]; rfl, (structSubclass_entry hwf hs hmem).1⟩

theorem noCatchAll_struct (h : noCatchAllTrees env = true) (c : String) (s : StructDef)
    (hs : env.struct? c = some s) (hsub : s.subtypes.isSome = true) : s.catchAll = false := by
  simp only [noCatchAllTrees, List.all_eq_true] at h
  have := h s (struct?_some hs).1
  simpa [hsub] using this

theorem mkUnion_sound (hwf : envWF env = true) (fl : Flags) (cls tag : String) (u : UnionDef)
    (hu : env.union? cls = some u) (td : TagDef) (hm : td ∈ u.levels.flatMap (·.tags)) (hn : td.name = tag)
    (ho : td.omitted = none) (x v : PyVal) (hpre : Pre E env td.ty x)
    (h : mkUnion E env cls tag x = .ok v) : validB E env (.union fl cls) v = true := by
  have hw := envWF_union hwf hu
  have htw : tyWF env td.ty = true := UnionDef.wf_tyWF hw hm
  have hpub := publicTag_of_public env hwf cls u hu td hm ho
  rw [hn] at hpub
  have hsub := unionSubclass_self hwf hu
  cases hc : u.ctorValidator tag with
  | none => rw [mkUnion_invalid_tag E env cls tag x hu hc] at h; cases h
  | some vt =>
    obtain ⟨t', ht', hn', hty'⟩ := ctorValidator_spec u tag vt hc
    obtain rfl : t' = td := key_inj_of_nodupS (·.name) _ (UnionDef.wf_nodupS hw) t' td ht' hm (by rw [hn', hn])
    subst hty'
    obtain ⟨hsat, rfl⟩ := (mkUnion_good E env cls tag x u hu t'.ty hc).ok_eq h
    rw [validB_union_union, hsub, hpub, Bool.true_and]
    unfold memberSat at hsat
    cases hv : isVoidT t'.ty
    · -- a member with a value: by class only when of a (non-nullable) user type, validated otherwise
      simp only [hv, Bool.and_false, Bool.false_eq_true, if_false] at hsat ⊢
      by_cases hut : isUserTy t'.ty = true
      · exact (Pre_user E env t'.ty x hut).mp hpre
      · rw [← isUserTyC08_eq_isUserTy, Bool.not_eq_true] at hut
        rw [hut, Bool.and_false] at hsat
        exact (valid_of_sat E env t'.ty x hpre hsat).1
    · -- a Void member takes None (`tyWF`: Void is never nullable)
      have hnn : t'.ty.flags.nullable = false := by
        cases hty : t'.ty with
        | void fl => rw [hty] at htw; simpa [tyWF, PTy.flags] using htw
        | _ => rw [hty] at hv; cases hv
      simpa only [hv, hnn, Bool.not_false, Bool.and_self, if_true] using hsat

theorem visible_public (h : visibleTagsPublic env perms = true) (c : String)
    (u : UnionDef) (hu : env.union? c = some u) (t : TagDef) (ht : t ∈ u.levels.flatMap (·.tags))
    (hv : PermL.Visible perms t.omitted) : t.omitted = none := by
  rcases hv with hv | ⟨p, hp, ho⟩
  · exact hv
  · simp only [visibleTagsPublic, List.all_eq_true] at h
    have := h u (union?_some hu).1 t ht
    simp [ho, hp] at this

end

theorem getLast?_mem {α} (l : List α) (a : α) (h : l.getLast? = some a) : a ∈ l :=
  List.mem_of_getLast? h

/-- `StructTree.has_default()` is `False`; only the `Nullable` wrapper gives a tree type a default -/
theorem noDefaultedTrees_holds (env : Env) : noDefaultedTrees env = true := by
  simp only [noDefaultedTrees, List.all_eq_true]
  intro s _ f _
  cases hty : f.ty <;> simp [hasDefault, PTy.flags]

section
variable (E : Ext) (env : Env) (perms : List String) (strict : Bool)
  (hwf : envWF env = true) (hff : fieldFlagsWF env = true)
  (hcat : strict = true ∨ noCatchAllTrees env = true)
  (hvis : visibleTagsPublic env perms = true)
include hwf hff

theorem finishStruct_valid (cls : String) (s : StructDef) (hs : env.struct? cls = some s)
    (kvs : List (String × JVal)) (children : List (String × R PyVal))
    (hmem : ∀ k r, childLookup k children = some r →
      ∃ e, ((s.fieldsFor perms).map fun f => (f.name, f.ty)).find? (·.1 == k) = some e ∧
        ∀ v, r = .ok v → Pre E env e.2 v) :
    Returns (finishStruct E env perms strict cls kvs children) fun v =>
      ∃ slots, v = .struct cls slots ∧ (publicFields env cls).all (fun f => attrHas f slots) = true ∧
        validSlots E env (publicFields env cls) slots = true := by
  have hnd := StructDef.wf_nodupS (envWF_struct hwf hs)
  rw [finishStruct_eq E env perms strict hs kvs children, publicFields_eq hs]
  refine ite_cases (P := (Returns · _)) (fun _ => .verr _) fun _ => .bind (Q := SlotsOK E env s) ?_ fun slots hok =>
    ite_cases (P := (Returns · _)) (fun hall => .ok ⟨slots, rfl,
      List.all_eq_true.2 fun f hf => List.all_eq_true.mp hall f (public_subset_fieldsFor s perms f hf),
      validSlots_of_SlotsOK E env s _ (fun f hf => (fieldsSpec_sublist s []).subset hf) _ hok⟩) fun _ => .verr _
  refine finishFields_inv E env children (SlotsOK E env s) _ []
    (fun f hf x s0 s1 hx hok ha => ?_) (fun p hp => nomatch hp)
  have hfa := fieldsFor_subset s perms f hf
  refine attrSet_sound E env s f s0 s1 x hnd hfa (fieldFlagsWF_struct env hff cls s hs f hfa) ?_ hok ha
  rcases hx with hx | ⟨_, hd, rfl⟩
  · obtain ⟨e, he, hpre⟩ := hmem f.name _ hx
    obtain ⟨g, hg, hgn, hfind⟩ := find_table_of_name (s.fieldsFor perms) f hf
    rw [hfind] at he
    cases he
    obtain rfl : g = f :=
      key_inj_of_nodupS (·.name) _ hnd g f (fieldsFor_subset s perms g hg) hfa hgn
    exact hpre x rfl
  · exact getDefault_pre E env hwf f.ty hd

include hcat hvis

theorem decode_pre (j : JVal) : ∀ (t : PTy), tyWF env t = true →
    ∀ v, decode E env perms strict t j = .ok v → Pre E env t v := by
  induction j using JVal.children_induction with | _ j harr hobj
  intro t ht
  have hmem : ∀ kvs tbl, j = .obj kvs → (∀ p ∈ tbl, tyWF env p.2 = true) →
      ∀ k r, childLookup k (decodeMembers E env perms strict tbl kvs) = some r →
      ∃ e, tbl.find? (·.1 == k) = some e ∧ ∀ v, r = .ok v → Pre E env e.2 v := by
    intro kvs tbl hj htbl k r hr
    obtain ⟨p, x, hp, hx, rfl⟩ := childLookup_decodeMembers_some E env perms strict hr
    exact ⟨p, hp, hobj kvs hj _ hx p.2 (htbl p (List.mem_of_find?_eq_some hp))⟩
  have hstruct : ∀ fl cls s kvs, env.struct? cls = some s → j = .obj kvs →
      Returns (decodeStructObj E env perms strict cls s kvs) fun v =>
        validB E env (.struct fl cls) v = true ∧ ∃ slots, v = .struct cls slots ∧
          (publicFields env cls).all (fun f => attrHas f slots) = true ∧
          validSlots E env (publicFields env cls) slots = true := by
    intro fl cls s kvs hs hj v h
    obtain ⟨slots, rfl, h1, h2⟩ := finishStruct_valid E env perms strict hwf hff cls s hs kvs _
      (hmem kvs _ hj (structTable_tyWF env hwf perms cls s hs)) v h
    exact ⟨struct_valid E env hwf fl cls s hs slots h1 h2, slots, rfl, h1, h2⟩
  show Returns _ _
  cases t with
  | list fl item a b =>
    exact decode_list_cases (Returns · (Pre E env (.list fl item a b)))
      (fun hn _ => .ok (.inl ⟨hn, rfl⟩)) .verr
      fun xs hj => .map (decodeList_eq_mapM .. ▸ .mapM fun x hx => harr xs hj x hx item ht)
        fun vs h => .inr ⟨vs, rfl, h⟩
  | map fl kt vt =>
    obtain ⟨hk, hv⟩ := Bool.and_eq_true_iff.1 ht
    have hkey : ∀ x, Pre E env kt x := fun x => Pre_prim E env kt x (by cases kt <;> first | rfl | cases hk)
    exact decode_map_cases (Returns · (Pre E env (.map fl kt vt)))
      (fun hn _ => .ok (.inl ⟨hn, rfl⟩)) .verr
      fun kvs hj => .map (decodeMap_eq_mapM .. ▸ .mapM (Q := fun q : PyVal × PyVal => Pre E env kt q.1 ∧ Pre E env vt q.2)
          fun p hp => .map (hobj kvs hj p hp vt hv) fun _ h => ⟨hkey _, h⟩)
        fun out h => .inr ⟨out, rfl, h⟩
  | struct fl cls =>
    obtain ⟨s, hs, _⟩ := tyWF_struct ht
    refine decode_struct_cases hs (Returns · (Pre E env (.struct fl cls)))
      (fun hn _ => .ok (validB_nullable_none E env hn)) .verr (fun _ hd => .ok ?_)
      (fun kvs hj v h => (hstruct fl cls s kvs hs hj v h).1)
    have := getDefault_pre E env hwf (.struct {} cls) hd
    simp only [getDefault, PTy.flags, Bool.false_eq_true, if_false, Pre] at this
    show validB E env (.struct fl cls) _ = true
    rw [validB_struct_struct] at this ⊢  -- at a struct instance `validB` does not read the flags
    exact this
  | tree fl cls =>
    obtain ⟨s, hs, hsub⟩ := tyWF_tree ht
    refine decode_tree_cases hwf hs (Returns · (Pre E env (.tree fl cls)))
      (fun hn _ => .ok (validB_nullable_none E env hn)) .verr ?_ ?_
    · intro kvs tag tags sc d hj hf hd v h
      obtain ⟨_, slots, rfl, h1, h2⟩ := hstruct fl sc d kvs hd hj v h
      obtain ⟨g1, g2⟩ := tree_leaf_facts env hwf cls s hs tag tags sc hf
      show validB E env (.tree fl cls) _ = true
      rw [validB_tree_struct, g1, g2, h1, h2]; rfl
    · intro kvs _ hst hc
      rcases hcat with h | h
      · rw [hst] at h; cases h
      · rw [noCatchAll_struct env h cls s hs hsub] at hc; cases hc
  | union fl cls =>
    obtain ⟨u, hu⟩ := tyWF_union ht
    have hparts := UnionDef.wf_parts (envWF_union hwf hu)
    have hpresent : ∀ tag ft x, u.valDataType tag perms = some ft → Pre E env ft x →
        Returns (mkUnion E env cls tag x) fun v => validB E env (.union fl cls) v = true := by
      intro tag ft x hft hpre v hmk
      obtain ⟨td, htm, htn, hty, hvv⟩ := PermL.valDataType_mem u tag perms ft hft
      have hto := visible_public env perms hvis cls u hu td htm hvv
      subst hty
      exact mkUnion_sound E env hwf fl cls tag u hu td htm htn hto x v hpre hmk
    refine decode_union_cases hwf hu (Returns · (Pre E env (.union fl cls)))
      (fun hn _ => .ok (validB_nullable_none E env hn)) .verr ?_ ?_ ?_ ?_
    · intro hsome v hmk
      obtain ⟨n, hn⟩ := Option.isSome_iff_exists.mp hsome
      obtain ⟨t, hft, hto, htv⟩ := hparts.2.2.2 n hn
      obtain ⟨htm, htn⟩ := findTag_some hft
      rw [hn] at hmk
      exact mkUnion_sound E env hwf fl cls n u hu t htm htn hto .none v
        (Pre_void E env _ _ htv) hmk
    · intro tag ft hft hvn
      refine hpresent tag ft .none hft ?_
      rcases Bool.or_eq_true_iff.1 hvn with hv | hn
      · exact Pre_void E env _ _ hv
      · exact Pre_nullable_none E env ft hn
    · intro kvs tag sfl sc d hj hft hd
      exact .bind (hstruct sfl sc d kvs hd hj) fun x hx => hpresent tag _ x hft hx.1
    · intro kvs tag ft r hj hft hr
      obtain ⟨e, he, hpre⟩ := hmem kvs [(tag, ft.withFlags {})] hj (fun p hp => by
        rw [List.mem_singleton.1 hp]
        exact tyWF_withFlags_empty (valDataType_tyWF env hwf cls u hu tag perms ft hft)) tag r hr
      simp only [List.find?, beq_self_eq_true, Option.some.injEq] at he
      subst he
      exact .bind hpre fun x hx => hpresent tag ft x hft (Pre_withFlags_empty E env ft x hx)
  | _ => exact fun _ _ => Pre_prim E env _ _ rfl

theorem decodeList_pre : ∀ (xs : List JVal) (t : PTy), tyWF env t = true →
    ∀ vs, decodeList E env perms strict t xs = .ok vs → ∀ x ∈ vs, Pre E env t x :=
  fun _ t ht => decodeList_eq_mapM .. ▸
    Returns.mapM fun j _ => decode_pre E env perms strict hwf hff hcat hvis j t ht

theorem decodeMap_pre : ∀ (kvs : List (String × JVal)) (t : PTy), tyWF env t = true →
    ∀ out, decodeMap E env perms strict t kvs = .ok out → ∀ p ∈ out, Pre E env t p.2 :=
  fun _ t ht => decodeMap_eq_mapM .. ▸ Returns.mapM (Q := fun q : PyVal × PyVal => Pre E env t q.2)
    fun p _ => .map (decode_pre E env perms strict hwf hff hcat hvis p.2 t ht) fun _ h => h

theorem decodeMembers_pre : ∀ (kvs : List (String × JVal)) (tbl : List (String × PTy)),
    (∀ p ∈ tbl, tyWF env p.2 = true) →
    ∀ k r, childLookup k (decodeMembers E env perms strict tbl kvs) = some r →
    ∃ e, tbl.find? (·.1 == k) = some e ∧ ∀ v, r = .ok v → Pre E env e.2 v := by
  intro kvs tbl htbl k r h
  obtain ⟨p, x, hp, _, rfl⟩ := childLookup_decodeMembers_some E env perms strict h
  exact ⟨p, hp, decode_pre E env perms strict hwf hff hcat hvis x p.2 (htbl p (List.mem_of_find?_eq_some hp))⟩

end

theorem validPrim_withFlags (E : Ext) (t : PTy) (fl : Flags) (v : PyVal) :
    validPrim E (t.withFlags fl) v = validPrim E t v :=
  Rt.validPrim_withFlags E t fl v

theorem isPrimTy_withFlags (t : PTy) (fl : Flags) : isPrimTy (t.withFlags fl) = isPrimTy t :=
  Rt.isPrimTy_withFlags t fl

section
variable (E : Ext) (env : Env) (perms : List String) (strict : Bool)

theorem makeStoneFriendly_sound (t : PTy) (j : JVal)
    (v : PyVal) (hp : isPrimTy t = true)
    (h : makeStoneFriendly E env perms strict true t j = .ok v) : validB E env t v = true := by
  rw [validB_prim E env t v hp]
  suffices validPrim E t v = true by rw [this, ite_self]
  by_cases hj : isJsonPrimTy t = true
  · have g := makeStoneFriendly_jsonPrim_good E env perms strict t j hj
    obtain ⟨ha, rfl⟩ := g.ok_eq h
    exact ha
  · -- Timestamp, Bytes, Void: what the conversion returns is of the type
    cases t <;> first | exact absurd rfl hj | cases hp
    all_goals
      simp only [makeStoneFriendly] at h
      repeat' split at h
      all_goals first
        | (simp [verr] at h; done)
        | (cases h; rfl)

theorem jsonCompatObjDecode_valid (hwf : envWF env = true) (hff : fieldFlagsWF env = true)
    (hcat : strict = true ∨ noCatchAllTrees env = true)
    (hvis : visibleTagsPublic env perms = true)
    (t : PTy) (j : JVal) (ht : tyWF env t = true) :
    Returns (jsonCompatObjDecode E env perms strict t j) (validB E env t · = true) := by
  rw [jsonCompatObjDecode_eq]
  refine ite_cases (P := (Returns · _))
    (fun hp v h => makeStoneFriendly_sound E env perms strict t j v (Bool.and_eq_true_iff.1 hp).2 h) fun hp =>
    .bind (decode_pre E env perms strict hwf hff hcat hvis j t ht) fun v hpre =>
      -- top-level List / Map / Nullable results are validated as a whole; the others are returned as decoded
      ite_cases (P := (Returns · _)) (fun _ v' h => validate_sound E env t v v' hpre h) fun hc =>
        .ok ((Pre_user E env t v (by cases t <;> simp_all [PTy.flags, isUserTy, isPrimTy])).mp hpre)

end

end StoneVerif.Rt.DecL

