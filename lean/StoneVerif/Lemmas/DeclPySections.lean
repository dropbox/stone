import StoneVerif.Lemmas.DeclPyInv
/-!
The sections of a module body (C09): each runs to completion after the earlier ones and the imports, and establishes
what later sections and importing modules rely on (`ClassOK`, `AliasOK`, `ReflOK`); `body_ok` runs them in order.
-/
namespace StoneVerif.DeclPy

theorem sec_ann (ns : Namespace) (st : St) (hwf : StWF st) (hcur : modName ns ∈ st.started)
    (hf : Fresh st (modName ns) (annStmts ns)) : ∃ st', Steps st (modName ns) (annStmts ns) st' := by
  obtain ⟨st', hs, _⟩ := steps_flatMap annTypeStmts (modName ns) (fun _ _ => True) (fun _ _ => trivial)
    ns.annTypes st hwf
    (fun pre a post _ st' hwf' hle _ hfr => by
      obtain ⟨st'', hs, _⟩ := steps_cls (cur := modName ns) (n := fmtClass a.name) (base := none)
        (body := ["__slots__", "__init__"] ++ a.params.map (fmtFunc · true))
        (ctor := some (a.params.map (fmtVar · true))) hwf' none rfl
        (hfr.2 _ (by simp [annTypeStmts])) (hle.started _ hcur)
      exact ⟨st'', hs, trivial⟩)
    hf
  exact ⟨st', hs⟩

theorem sec_classes {api : Api} (hapi : apiWF api = true) {ns : Namespace} (hns : ns ∈ api.namespaces) (st : St)
    (hwf : StWF st) (hctx : Ctx api st ns)
    (hf : Fresh st (modName ns) (classStmts api ns)) :
    ∃ st', Steps st (modName ns) (classStmts api ns) st' ∧ ∀ d ∈ ns.types, ClassOK api st' ns d := by
  rw [classStmts_eq] at hf ⊢
  refine steps_flatMap _ (modName ns) (fun d st => ClassOK api st ns d) (fun hle h => h.mono hle) ns.types st hwf
    ?_ hf
  intro pre d post hsplit st0 hwf0 hle hpre hfr
  have hctx0 := hctx.mono hle
  -- the parent, if any: its class is there (an earlier class of this module, or of a loaded one)
  have hpar : ∀ pns pn, d.parent = some (pns, pn) → ∃ P, api.parentOf d = some P
      ∧ Resolves st0 (modName ns) (qual ns.name pns (fmtClass pn)).mod (qual ns.name pns (fmtClass pn)).name
          (.cls (clsId pns pn))
      ∧ (∀ n f, d.isStruct = false → f ∈ chainFields api n P → f.ty.isVoid = true →
          HasA st0 (clsId pns pn) (fmtVar f.name)) := by
    intro pns pn hp
    obtain ⟨P, nsP, hnsP, hname, _, hPn, hpo, hkind, hvis, hok⟩ := parent_info hapi hns hctx0 hsplit hp
      (ClassOK api st0) (fun y hy _ => hpre y hy) (fun nsP hl => hl.cls)
    refine ⟨P, hpo, resolves_parent hapi hctx0 hnsP hname hPn hok hvis none, fun n f hs hf hv => ?_⟩
    have := hok.tags (by rw [hkind, hs]) n f hf hv
    rwa [hname, hPn] at this
  have hb : match baseRef ns.name d with
      | none => parentId d = none
      | some r => r.attr = none ∧ ∃ p, parentId d = some p ∧ Resolves st0 (modName ns) r.mod r.name (.cls p) := by
    cases hp : d.parent with
    | none => simp [baseRef, parentId, hp]
    | some q =>
      obtain ⟨pns, pn⟩ := q
      obtain ⟨_, _, hres, _⟩ := hpar pns pn hp
      simp only [baseRef, hp]
      exact ⟨qual_attr _ _ _ _, clsId pns pn, by simp [parentId, hp], hres⟩
  obtain ⟨st1, hs1, hg1, he1, ha1⟩ := steps_cls (cur := modName ns) (n := fmtClass d.name) (body := classBody d)
    (ctor := classCtor api d) hwf0 (parentId d) hb (hfr.2 _ (by simp)) hctx0.started
  obtain ⟨st2, v, hs2, hg2, _, hc2, ha2⟩ := steps_assign_glob (cur := modName ns)
    (t := fmtClass d.name ++ "_validator") (cp := none) (uses := [here (fmtClass d.name)]) hs1.wf
    (List.forall_mem_singleton.mpr (ready_here hg1))
    (fun r hr => nomatch hr) ((hs1.fresh_rest hfr).2 _ (by simp)) (hs1.le.started _ hctx0.started)
  have hsteps := hs1.append hs2
  have hentry : (clsId ns.name d.name, parentId d) ∈ st2.classes := by rw [hc2]; exact he1
  have hown : ∀ f ∈ d.fields, ∀ a ∈ memberAttrs d.isStruct f, HasA st2 (clsId ns.name d.name) a := by
    intro f hf a ha
    refine lookupAttr_direct _ _ _ (List.mem_map.mpr ⟨_, hentry, rfl⟩) ?_
    rw [ha2]; exact ha1 a (mem_classBody hf ha)
  refine ⟨st2, hsteps, hs2.le.glob _ _ _ hg1, by simp [hg2], hentry, fun hs f hf => ?_, fun hs n f hf hvoid => ?_⟩
  · rw [← fmtFunc_true_eq_fmtVar (typeWF_field (typeWF_at hapi hns hsplit) hf).2.1]
    exact hown f hf _ (by rw [memberAttrs, hs]; exact List.mem_singleton.mpr rfl)
  · have hown' : ∀ f ∈ d.fields, f.ty.isVoid = true → HasA st2 (clsId ns.name d.name) (fmtVar f.name) :=
      fun f hf hvoid => hown f hf _ (by simp [memberAttrs, hs, hvoid])
    cases n with
    | zero => exact hown' f hf hvoid
    | succ n =>
      simp only [chainFields, List.mem_append] at hf
      rcases hf with hf | hf
      · -- an inherited tag: the parent class has it, and attribute lookup follows the base
        cases hp : d.parent with
        | none => simp [Api.parentOf, hp] at hf
        | some q =>
          obtain ⟨pns, pn⟩ := q
          obtain ⟨P, hpo, _, htags⟩ := hpar pns pn hp
          rw [hpo] at hf
          have hentry' : (clsId ns.name d.name, some (clsId pns pn)) ∈ st2.classes := by
            simpa [parentId, hp] using hentry
          exact lookupAttr_inherit hsteps.wf.tbl hentry' (hsteps.le.hasA (htags n f hs hf hvoid))
      · exact hown' f hf hvoid

theorem sec_aliases {api : Api} (hapi : apiWF api = true) {ns : Namespace} (hns : ns ∈ api.namespaces) (st : St)
    (hwf : StWF st) (hctx : Ctx api st ns) (hcls : ∀ d ∈ ns.types, ClassOK api st ns d)
    (hf : Fresh st (modName ns) (aliasSection api ns)) :
    ∃ st', Steps st (modName ns) (aliasSection api ns) st' ∧ ∀ a ∈ ns.aliases, AliasOK api st' ns a := by
  refine steps_flatMap (aliasStmts api ns.name) (modName ns) (fun a st => AliasOK api st ns a)
    (fun hle h => h.mono hle) ns.aliases st hwf ?_ hf
  intro pre a post hsplit st0 hwf0 hle0 hpre hfr
  obtain ⟨htok, hal⟩ := aliasWF_at hapi hns hsplit
  have env : Env api st0 ns pre := ⟨hapi, hns, hctx.mono hle0, fun d hd => (hcls d hd).mono hle0,
    fun y hy => by rw [hsplit]; exact List.mem_append_left _ hy, hpre⟩
  rw [aliasStmts_eq] at hfr ⊢
  have hready := ready_tyRefs env htok hal
  obtain ⟨st1, v1, hs1, hg1, _, _, _⟩ := steps_assign_glob (cur := modName ns) (t := fmtClass a.name ++ "_validator")
    (cp := a.ty.named.map fun p => qual ns.name p.1 (fmtClass p.2 ++ "_validator")) (uses := tyRefs ns.name a.ty)
    hwf0 hready
    (fun r hr => by
      obtain ⟨p, hp, rfl⟩ := Option.map_eq_some_iff.mp hr
      exact hready _ (Ty.named_validator hp))
    (hfr.left.left.2 _ (by simp)) env.ctx.started
  obtain ⟨st2, hs2⟩ : ∃ st2, Steps st1 (modName ns)
      (if a.redact then [Stmt.assign (fmtClass a.name ++ "_validator") (some "_redact") none
        [here (fmtClass a.name ++ "_validator")]] else []) st2 := by
    split
    · obtain ⟨st2, hs2, _⟩ := steps_assign_attr (cur := modName ns) (t := fmtClass a.name ++ "_validator")
        (a := "_redact") (cp := none) (uses := [here (fmtClass a.name ++ "_validator")]) hs1.wf
        (List.forall_mem_singleton.mpr (ready_here hg1)) (by simp [hg1])
      exact ⟨st2, hs2⟩
    · exact ⟨st1, Steps.nil hs1.wf⟩
  have hs12 := hs1.append hs2
  have hvalid : ∀ st', Le st2 st' → (st'.global? (modName ns) (fmtClass a.name ++ "_validator")).isSome = true :=
    fun st' hle => hle.glob_isSome (by rw [hs2.le.glob _ _ _ hg1]; rfl)
  by_cases hends : aliasEndsInUser api api.nAliases a.ty = true
  · obtain ⟨⟨ns', n'⟩, hn⟩ := aliasEndsInUser_named hends
    obtain ⟨c, hres, htags⟩ := alias_target env htok hal (Nat.le_succ _) hends hn none
    have hres2 := hres.mono hs12.le
    have hrdy : Ready st2 (modName ns) (qual ns.name ns' (fmtClass n')) :=
      ⟨.cls c, hres2, fun a ha => by rw [qual_attr] at ha; cases ha⟩
    have h3 : (a.ty.named.map fun p => Stmt.assign (fmtClass a.name) none (some (qual ns.name p.1 (fmtClass p.2)))
        [qual ns.name p.1 (fmtClass p.2)]).toList = [Stmt.assign (fmtClass a.name) none
          (some (qual ns.name ns' (fmtClass n'))) [qual ns.name ns' (fmtClass n')]] := by rw [hn]; rfl
    rw [if_pos hends, h3] at hfr ⊢
    obtain ⟨st3, v3, hs3, hg3, hres3, _, _⟩ := steps_assign_glob (cur := modName ns) (t := fmtClass a.name)
      (cp := some (qual ns.name ns' (fmtClass n'))) (uses := [qual ns.name ns' (fmtClass n')]) hs2.wf
      (List.forall_mem_singleton.mpr hrdy)
      (fun r hr => by injection hr with hr; rw [← hr]; exact hrdy) ((hs12.fresh_rest hfr).2 _ (by simp))
      (hs12.le.started _ env.ctx.started)
    have hv3 : v3 = .cls c := (hres3 _ rfl (qual_attr _ _ _ _)).unique hres2
    subst hv3
    exact ⟨st3, hs12.append hs3, hvalid st3 hs3.le,
      fun _ => ⟨c, hg3, fun k' tag hk' => (hs12.le.trans hs3.le).hasA (htags k' tag hk')⟩⟩
  · rw [if_neg hends, List.append_nil]
    exact ⟨st2, hs12, hvalid st2 (Le.refl _), fun h => absurd h hends⟩

/-- `Env` with every alias defined, and the reflection blocks of the types before `d` run -/
structure ReflEnv (api : Api) (st : St) (ns : Namespace) (pre : List DataType) (d : DataType)
    (post : List DataType) : Prop extends Env api st ns ns.aliases where
  split : ns.types = pre ++ d :: post
  before : ∀ y ∈ pre, ReflOK api st ns y

section
variable {api : Api} {st : St} {ns : Namespace} {pre post : List DataType} {d : DataType}

theorem ReflEnv.mono {st' : St} (h : Le st st') (R : ReflEnv api st ns pre d post) : ReflEnv api st' ns pre d post :=
  ⟨R.toEnv.mono h, R.split, fun y hy => (R.before y hy).mono h⟩

theorem ReflEnv.mem (R : ReflEnv api st ns pre d post) : d ∈ ns.types :=
  R.split ▸ List.mem_append_cons_self

theorem ReflEnv.own (R : ReflEnv api st ns pre d post) : ClassOK api st ns d := R.cls d R.mem

theorem ReflEnv.typeWF (R : ReflEnv api st ns pre d post) : typeWF api ns pre d = true :=
  typeWF_at R.hapi R.hns R.split

end

theorem parent_refl_facts {api : Api} {ns : Namespace} {st : St} {pre post : List DataType} {d : DataType}
    (R : ReflEnv api st ns pre d post) {pns pn : Name} (hp : d.parent = some (pns, pn)) :
    ∃ P nsP, nsP ∈ api.namespaces ∧ nsP.name = pns ∧ P ∈ nsP.types ∧ P.name = pn ∧ api.parentOf d = some P
      ∧ P.isStruct = d.isStruct ∧ (pns = ns.name ∨ pns ∈ ns.imports)
      ∧ st.global? (modName nsP) (fmtClass pn) = some (.cls (clsId pns pn)) ∧ ReflOK api st nsP P := by
  obtain ⟨P, nsP, hnsP, hname, hmem, hPn, hpo, hkind, hvis, hboth⟩ := parent_info R.hapi R.hns R.ctx R.split hp
    (fun nsP P => ClassOK api st nsP P ∧ ReflOK api st nsP P) (fun y hy hm => ⟨R.cls y hm, R.before y hy⟩)
    (fun nsP hl P hP => ⟨hl.cls P hP, hl.refl P hP⟩)
  have hg := hboth.1.glob
  rw [hPn, hname] at hg
  exact ⟨P, nsP, hnsP, hname, hmem, hPn, hpo, hkind, hvis, hg, hboth.2⟩

theorem fieldVals_ok {api : Api} {ns : Namespace} {st : St}
    (hwf : StWF st) (env : Env api st ns ns.aliases) {c : Name} {cid : ClsId} (hc : st.global? (modName ns) c = some (.cls cid))
    (attr redact : Field → Name) (self : Field → Ref) (fs : List Field)
    (hty : ∀ f ∈ fs, tyOK api ns f.ty = true) (hself : ∀ f ∈ fs, Ready st (modName ns) (self f)) :
    ∃ st', Steps st (modName ns) (fieldVals c ns.name attr redact self fs) st' ∧ ∀ f ∈ fs, HasA st' cid (attr f) := by
  refine steps_flatMap_attrs _ (modName ns) (fun f st => HasA st cid (attr f)) (fun hle h => hle.hasA h) fs st hwf
    (fun f _ => by simpa [fieldVals] using fieldVals_noGlobal c ns.name attr redact self [f]) ?_
  intro pre f post hsplit st0 hwf0 hle _
  have hf : f ∈ fs := hsplit ▸ List.mem_append_cons_self
  obtain ⟨st1, hs1, ha1⟩ := assign_on_class (a := attr f) (uses := self f :: tyRefs ns.name f.ty) hwf0 (hle.glob _ _ _ hc)
    (List.forall_mem_cons.mpr ⟨(hself f hf).mono hle, fun r hr => (ready_tyRefs_all env (hty f hf) r hr).mono hle⟩)
  split
  · obtain ⟨st2, hs2, _⟩ := assign_on_class (a := redact f) (uses := [here c (some (attr f))]) hs1.wf
      ((hle.trans hs1.le).glob _ _ _ hc)
      (List.forall_mem_singleton.mpr (ready_here_attr ((hle.trans hs1.le).glob _ _ _ hc) ha1))
    exact ⟨st2, hs1.append hs2, hs2.le.hasA ha1⟩
  · rw [List.append_nil]
    exact ⟨st1, hs1, ha1⟩

/-- where the generator reads a table of the base class (`caller_in_parent`) the base class has it; `tbl` picks it from
the parent's `ReflOK` -/
theorem parent_table_ready {api : Api} {ns : Namespace} {st : St} {pre post : List DataType} {d : DataType}
    (R : ReflEnv api st ns pre d post) {oc : Option Name} (hcip : cipB api d oc = true) {a : Name}
    (tbl : ∀ {nsP : Namespace} {P : DataType}, P.isStruct = d.isStruct → ReflOK api st nsP P →
      IsReflCaller api P oc → HasA st (clsId nsP.name P.name) a) :
    ∃ pns pn, d.parent = some (pns, pn) ∧ Ready st (modName ns) (qual ns.name pns (fmtClass pn) (some a)) := by
  cases hpar : d.parent with
  | none => simp [cipB, hpar] at hcip
  | some q =>
    obtain ⟨pns, pn⟩ := q
    obtain ⟨P, nsP, hnsP, hname, _, hPn, hpo, hkind, hvis, hg, hreflP⟩ := parent_refl_facts R hpar
    have := tbl hkind hreflP (cipB_parent hcip hpo)
    rw [hname, hPn] at this
    exact ⟨pns, pn, rfl, ready_qual_attr R.hapi R.ctx hnsP hname hvis hg this⟩

theorem pref_ready {api : Api} {ns : Namespace} {st : St} {pre post : List DataType} {d : DataType}
    (R : ReflEnv api st ns pre d post) (hs : d.isStruct = true) {oc : Option Name} {all : Name}
    -- `all` is either of the two tables `ReflOK.structAll` gives of the base class
    (hall : all = "_all" ++ callerPrefix oc ++ "_field_names_" ∨ all = "_all" ++ callerPrefix oc ++ "_fields_") :
    ∀ r ∈ (if cipB api d oc then pref ns.name d all else []), Ready st (modName ns) r := by
  intro r hr
  split at hr
  · rename_i hcip
    obtain ⟨pns, pn, hpar, hready⟩ := parent_table_ready R hcip (a := all) (fun hkind hrefl hc => by
      have := hrefl.structAll (hkind.trans hs) oc hc
      rcases hall with rfl | rfl
      · exact this.1
      · exact this.2)
    simp only [pref, baseRef, hpar, qual_with_attr, List.mem_singleton] at hr
    rw [hr]; exact hready
  · cases hr

/-- in a subtype tree a leaf reads `Cls._<caller>_field_names_` of a caller it does not declare through its base -/
theorem names_inherited {api : Api} {ns : Namespace} {st : St} (hwf : StWF st) {pre post : List DataType}
    {d : DataType} (R : ReflEnv api st ns pre d post) (hs : d.isStruct = true) (htree : isTreeMember api d = true)
    {x : Name} (hx : x ∈ sParentCallers api d) :
    HasA st (clsId ns.name d.name) ("_" ++ x ++ "_field_names_") := by
  have hx' := mem_dedup.mp hx
  cases hpar : d.parent with
  | none => simp [Api.parentOf, hpar, ancestorCallers_none] at hx'
  | some q =>
    obtain ⟨pns, pn⟩ := q
    obtain ⟨P, nsP, hnsP, hname, hmem, hPn, hpo, hkind, _, _, hreflP⟩ := parent_refl_facts R hpar
    -- the parent is the root of the tree: it has subtypes, hence no parent, and `x` is one of its own callers
    have hsubP : P.hasSubtypes = true := by
      simp only [isTreeMember, hpo, Bool.or_eq_true] at htree
      rcases htree with h | h
      · have := (typeWF_hasSubtypes R.typeWF h).2
        rw [hpar] at this; cases this
      · exact h
    obtain ⟨preP, htwP⟩ := typeWF_mem R.hapi hnsP hmem
    have hPpo : api.parentOf P = none := by simp [Api.parentOf, (typeWF_hasSubtypes htwP hsubP).2]
    have hxP : x ∈ P.ownCallers := by
      rw [hpo] at hx'
      refine (mem_ancestorCallers_some hx').resolve_right ?_
      rw [hPpo, ancestorCallers_none]
      exact List.not_mem_nil
    have hP := hreflP.treeNames (by rw [hkind, hs]) hsubP (some x) (Or.inr ⟨x, rfl, hxP⟩)
    rw [hname, hPn] at hP
    have hentry : (clsId ns.name d.name, some (clsId pns pn)) ∈ st.classes := by
      simpa [parentId, hpar] using R.own.entry
    exact lookupAttr_inherit hwf.tbl hentry hP

/-- `ReflOK`'s clauses for a struct, for the one caller `oc`: the invariant of the loop over `sCallers` -/
structure CallerOK (api : Api) (st : St) (ns : Namespace) (d : DataType) (oc : Option Name) : Prop where
  allNames : HasA st (clsId ns.name d.name) ("_all" ++ callerPrefix oc ++ "_field_names_")
  allFields : HasA st (clsId ns.name d.name) ("_all" ++ callerPrefix oc ++ "_fields_")
  names : isTreeMember api d = true → (oc = none ∨ ∃ x, oc = some x ∧ x ∈ d.ownCallers) →
    HasA st (clsId ns.name d.name) (callerPrefix oc ++ "_field_names_")

theorem CallerOK.mono {api : Api} {st st' : St} {ns : Namespace} {d : DataType} {oc : Option Name} (h : Le st st')
    (c : CallerOK api st ns d oc) : CallerOK api st' ns d oc :=
  ⟨h.hasA c.allNames, h.hasA c.allFields, fun h1 h2 => h.hasA (c.names h1 h2)⟩

theorem sCallerBody_ok {api : Api} {ns : Namespace} {st : St} (hwf : StWF st) {pre post : List DataType}
    {d : DataType} (R : ReflEnv api st ns pre d post) (hs : d.isStruct = true)
    (hA : ∀ f ∈ d.fields, HasA st (clsId ns.name d.name) (fmtVar f.name ++ ".validator"))
    {oc : Option Name} (hoc : oc ∈ sCallers api d) :
    ∃ st', Steps st (modName ns) (sCallerBody api ns.name d oc) st' ∧ CallerOK api st' ns d oc := by
  have hok := R.own
  have rC : ∀ st', Le st st' → Ready st' (modName ns) (here (fmtClass d.name)) :=
    fun st' hle => ready_here (hle.glob _ _ _ hok.glob)
  have rAttr : ∀ st', Le st st' → ∀ a, HasA st' (clsId ns.name d.name) a →
      Ready st' (modName ns) (here (fmtClass d.name) (some a)) :=
    fun st' hle a ha => ready_here_attr (hle.glob _ _ _ hok.glob) ha
  have rFields : ∀ st', Le st st' → ∀ r ∈ sFieldRefs d oc, Ready st' (modName ns) r := by
    intro st' hle r hr
    obtain ⟨f, hf, rfl⟩ := List.mem_map.mp hr
    exact rAttr st' hle _ (hle.hasA (hA f (List.mem_filter.mp hf).1))
  have all : ∀ (attr : Name) (own : List Ref) (st1 : St), StWF st1 → Le st st1 →
      (attr = "_all" ++ callerPrefix oc ++ "_field_names_" ∨ attr = "_all" ++ callerPrefix oc ++ "_fields_") →
      (∀ r ∈ own, Ready st1 (modName ns) r) →
      ∃ st2, Steps st1 (modName ns) [Stmt.assign (fmtClass d.name) (some attr) none
          (here (fmtClass d.name) :: (if cipB api d oc then pref ns.name d attr else []) ++ own)] st2
        ∧ HasA st2 (clsId ns.name d.name) attr := by
    intro attr own st1 hwf1 hle1 hattr hown
    exact assign_on_class hwf1 (hle1.glob _ _ _ hok.glob) (List.forall_mem_append.mpr
      ⟨List.forall_mem_cons.mpr ⟨rC st1 hle1, fun r hr => (pref_ready R hs hattr r hr).mono hle1⟩, hown⟩)
  unfold sCallerBody
  dsimp only
  by_cases htree : isTreeMember api d = true
  · rw [if_pos htree]
    -- the own names table: assigned, or inherited from the root of the tree
    obtain ⟨st1, hs1, hn1⟩ : ∃ st1, Steps st (modName ns)
        (if ownB d oc = true then
          [Stmt.assign (fmtClass d.name) (some (callerPrefix oc ++ "_field_names_")) none [here (fmtClass d.name)]]
         else []) st1 ∧ HasA st1 (clsId ns.name d.name) (callerPrefix oc ++ "_field_names_") := by
      split
      · exact assign_on_class hwf hok.glob (List.forall_mem_singleton.mpr (rC st (Le.refl _)))
      · rename_i hown
        refine ⟨st, Steps.nil hwf, ?_⟩
        cases oc with
        | none => simp [ownB] at hown
        | some x =>
          simp only [ownB, Option.isNone_some, Bool.false_or, List.contains_eq_mem, decide_eq_true_eq] at hown
          rcases mem_sCallers.mp hoc with h | ⟨x', hx', hmem⟩
          · cases h
          · injection hx' with hx'; subst hx'
            exact names_inherited hwf R hs htree (mem_dedup.mpr (hmem.resolve_left hown))
    obtain ⟨st2, hs2, hn2⟩ := all _ [here (fmtClass d.name) (some (callerPrefix oc ++ "_field_names_"))] st1 hs1.wf
      hs1.le (Or.inl rfl) (List.forall_mem_singleton.mpr (rAttr st1 hs1.le _ hn1))
    have hle2 := hs1.le.trans hs2.le
    obtain ⟨st3, hs3, hn3⟩ := assign_on_class (a := callerPrefix oc ++ "_fields_")
      (uses := here (fmtClass d.name) :: sFieldRefs d oc) hs2.wf (hle2.glob _ _ _ hok.glob)
      (List.forall_mem_cons.mpr ⟨rC st2 hle2, rFields st2 hle2⟩)
    have hle3 := hle2.trans hs3.le
    obtain ⟨st4, hs4, hn4⟩ := all _ [here (fmtClass d.name) (some (callerPrefix oc ++ "_fields_"))] st3 hs3.wf hle3
      (Or.inr rfl) (List.forall_mem_singleton.mpr (rAttr st3 hle3 _ hn3))
    exact ⟨st4, ((hs1.append hs2).append hs3).append hs4, (hs3.le.trans hs4.le).hasA hn2, hn4,
      fun _ _ => (hs2.le.trans (hs3.le.trans hs4.le)).hasA hn1⟩
  · rw [if_neg htree]
    obtain ⟨st1, hs1, hn1⟩ := all _ [] st hwf (Le.refl _) (Or.inl rfl) (fun _ h => nomatch h)
    obtain ⟨st2, hs2, hn2⟩ := all _ (sFieldRefs d oc) st1 hs1.wf hs1.le (Or.inr rfl) (rFields st1 hs1.le)
    exact ⟨st2, hs1.append hs2, hs2.le.hasA hn1, hn2, fun h => absurd h htree⟩

theorem sSubs_ok {api : Api} {ns : Namespace} {st : St} (hwf : StWF st) {pre post : List DataType} {d : DataType}
    (R : ReflEnv api st ns pre d post) : ∃ st', Steps st (modName ns) (sSubs ns.name d) st' := by
  have hcls := R.cls
  unfold sSubs
  split
  · have hok := R.own
    have rC : Ready st (modName ns) (here (fmtClass d.name)) := ready_here hok.glob
    have rV : ∀ r ∈ d.subtypes.flatMap (fun (sns, sn) => tyRefs ns.name (.user sns sn)), Ready st (modName ns) r := by
      intro r hr
      obtain ⟨⟨sns, sn⟩, hmem, hr⟩ := List.mem_flatMap.mp hr
      obtain ⟨rfl, s, hs, hsn⟩ := typeWF_subtype_mem R.hapi R.hns R.typeWF hmem
      rw [List.mem_singleton.mp hr]
      exact ready_qual R.hapi R.ctx R.hns rfl (Or.inl rfl) (by rw [← hsn]; exact (hcls s hs).validator)
    have rCls : ∀ r ∈ d.subtypes.map (fun (_, sn) => here (fmtClass sn)), Ready st (modName ns) r := by
      intro r hr
      obtain ⟨⟨sns, sn⟩, hmem, rfl⟩ := List.mem_map.mp hr
      obtain ⟨_, s, hs, hsn⟩ := typeWF_subtype_mem R.hapi R.hns R.typeWF hmem
      exact ready_here (by rw [← hsn]; exact (hcls s hs).glob)
    obtain ⟨st', hs, _⟩ := seq_assigns_indep hwf hok.glob
      [("_tag_to_subtype_", here (fmtClass d.name) :: d.subtypes.flatMap fun (sns, sn) => tyRefs ns.name (.user sns sn)),
       ("_pytype_to_tag_and_subtype_", here (fmtClass d.name) :: (d.subtypes.map fun (_, sn) => here (fmtClass sn))
          ++ d.subtypes.flatMap fun (sns, sn) => tyRefs ns.name (.user sns sn)),
       ("_is_catch_all_", [here (fmtClass d.name)])]
      (List.forall_mem_cons.mpr ⟨List.forall_mem_cons.mpr ⟨rC, rV⟩, List.forall_mem_cons.mpr
        ⟨List.forall_mem_append.mpr ⟨List.forall_mem_cons.mpr ⟨rC, rCls⟩, rV⟩,
         List.forall_mem_singleton.mpr (List.forall_mem_singleton.mpr rC)⟩⟩)
    exact ⟨st', hs⟩
  · exact ⟨st, Steps.nil hwf⟩

theorem struct_refl_item {api : Api} {ns : Namespace} {st : St} (hwf : StWF st) {pre post : List DataType}
    {d : DataType} (R : ReflEnv api st ns pre d post) (hs : d.isStruct = true) :
    ∃ st', Steps st (modName ns) (structReflStmts api ns.name d) st' ∧ ReflOK api st' ns d := by
  have hok := R.own
  rw [structRefl_eq]
  obtain ⟨stA, hsA, hA⟩ := fieldVals_ok hwf R.toEnv hok.glob (fun f => fmtVar f.name ++ ".validator")
    (fun f => fmtVar f.name ++ ".validator._redact") (fun f => here (fmtClass d.name) (some (fmtVar f.name))) d.fields
    (fun f hf => (typeWF_field R.typeWF hf).1) (fun f hf => ready_here_attr hok.glob (hok.fieldAttrs hs f hf))
  obtain ⟨stB, hsB, hB⟩ := steps_flatMap_attrs (sCallerBody api ns.name d) (modName ns)
    (fun oc st => CallerOK api st ns d oc) (fun hle h => h.mono hle)
    (sCallers api d) stA hsA.wf (fun oc _ => sCallerBody_noGlobal api ns.name d oc)
    (fun pre' oc post' hsp st' hwf' hle _ =>
      sCallerBody_ok hwf' (R.mono (hsA.le.trans hle)) hs (fun f hf => hle.hasA (hA f hf)) (hsp ▸ List.mem_append_cons_self))
  obtain ⟨stC, hsC⟩ := sSubs_ok hsB.wf (R.mono (hsA.le.trans hsB.le))
  refine ⟨stC, (hsA.append hsB).append hsC, fun _ oc hcaller => ?_, fun _ hsub oc hown => ?_,
    fun h => by rw [hs] at h; cases h⟩
  · have := (hB oc (mem_sCallers.mpr hcaller)).mono hsC.le
    exact ⟨this.allNames, this.allFields⟩
  · have hmem : oc ∈ sCallers api d := mem_sCallers.mpr (by
      rcases hown with h | ⟨x, h, hx⟩
      · exact Or.inl h
      · exact Or.inr ⟨x, h, Or.inl hx⟩)
    exact hsC.le.hasA ((hB oc hmem).names (by simp [isTreeMember, hsub]) hown)

theorem union_refl_item {api : Api} {ns : Namespace} {st : St} (hwf : StWF st) {pre post : List DataType}
    {d : DataType} (R : ReflEnv api st ns pre d post) (hs : d.isStruct = false) :
    ∃ st', Steps st (modName ns) (unionReflStmts api ns.name d) st' ∧ ReflOK api st' ns d := by
  have hok := R.own
  rw [unionRefl_eq]
  obtain ⟨stA, hsA, hA⟩ := fieldVals_ok hwf R.toEnv hok.glob (fun f => "_" ++ fmtVar f.name ++ "_validator")
    (fun f => "_" ++ fmtVar f.name ++ "_validator" ++ "._redact") (fun _ => here (fmtClass d.name)) d.fields
    (fun f hf => (typeWF_field R.typeWF hf).1) (fun _ _ => ready_here hok.glob)
  obtain ⟨stP, hsP⟩ : ∃ stP, Steps stA (modName ns) (uPerm api d) stP := by
    unfold uPerm
    split
    · exact ⟨stA, Steps.nil hsA.wf⟩
    · obtain ⟨stP, hsP, _⟩ := assign_on_class (a := "_permissioned_tagmaps") (uses := [here (fmtClass d.name)])
        hsA.wf (hsA.le.glob _ _ _ hok.glob)
        (List.forall_mem_singleton.mpr (ready_here (hsA.le.glob _ _ _ hok.glob)))
      exact ⟨stP, hsP⟩
  have hleP := hsA.le.trans hsP.le
  obtain ⟨stB, hsB, hB⟩ := steps_flatMap_attrs (uCallerBody api ns.name d) (modName ns)
    (fun oc st => HasA st (clsId ns.name d.name) (tagmapName oc)) (fun hle h => hle.hasA h) (sCallers api d) stP
    hsP.wf (fun oc _ => uCallerBody_noGlobal api ns.name d oc)
    (fun pre' oc post' hsp st' hwf' hle _ => by
      have hle' := hleP.trans hle
      have hg := hle'.glob _ _ _ hok.glob
      obtain ⟨st1, hs1, ha1⟩ := assign_on_class (a := tagmapName oc)
        (uses := here (fmtClass d.name) :: (d.fields.filter (·.caller == oc)).map
          fun f => here (fmtClass d.name) (some ("_" ++ fmtVar f.name ++ "_validator"))) hwf' (hle'.glob _ _ _ hok.glob)
        (List.forall_mem_cons.mpr ⟨ready_here hg, fun r hr => by
          obtain ⟨f, hf, rfl⟩ := List.mem_map.mp hr
          exact ready_here_attr hg ((hsP.le.trans hle).hasA (hA f (List.mem_filter.mp hf).1))⟩)
      unfold uCallerBody
      split
      · rename_i hcip
        obtain ⟨pns, pn, hpar, hready⟩ := parent_table_ready (R.mono hle') hcip
          (fun hkind hrefl hc => hrefl.unionMaps (hkind.trans hs) oc hc)
        simp only [baseRef, hpar, qual_with_attr]
        exact ⟨st1, hs1.append (steps_expr hs1.wf (List.forall_mem_cons.mpr
          ⟨ready_here_attr (hs1.le.glob _ _ _ hg) ha1, List.forall_mem_singleton.mpr (hready.mono hs1.le)⟩)), ha1⟩
      · rw [List.append_nil]
        exact ⟨st1, hs1, ha1⟩)
  have hleB := hleP.trans hsB.le
  -- the instances of the void tags: `Cls.tag = Cls('tag')` looks the tag up in `Cls._tagmap`
  have htm : HasA stB (clsId ns.name d.name) "_tagmap" := hB none (mem_sCallers.mpr (Or.inl rfl))
  obtain ⟨stS, hsS, _⟩ := seq_assigns_indep hsB.wf (hleB.glob _ _ _ hok.glob)
    ((d.fields.filter (·.ty.isVoid)).map fun f =>
      (fmtFunc f.name, [here (fmtClass d.name), here (fmtClass d.name) (some "_tagmap")]))
    (by
      intro x hx
      obtain ⟨f, _, rfl⟩ := List.mem_map.mp hx
      exact List.forall_mem_cons.mpr ⟨ready_here (hleB.glob _ _ _ hok.glob),
        List.forall_mem_singleton.mpr (ready_here_attr (hleB.glob _ _ _ hok.glob) htm)⟩)
  simp only [List.map_map, Function.comp_def] at hsS
  refine ⟨stS, ((hsA.append hsP).append hsB).append hsS, fun h => (by rw [hs] at h; cases h),
    fun h => (by rw [hs] at h; cases h), fun _ oc hcaller => hsS.le.hasA (hB oc (mem_sCallers.mpr hcaller))⟩

theorem sec_refl {api : Api} {ns : Namespace} (st : St)
    (hwf : StWF st) (env : Env api st ns ns.aliases) :
    ∃ st', Steps st (modName ns) (reflStmts api ns) st' ∧ ∀ d ∈ ns.types, ReflOK api st' ns d := by
  refine steps_flatMap_attrs
    (fun d => if d.isStruct then structReflStmts api ns.name d else unionReflStmts api ns.name d) (modName ns)
    (fun d st => ReflOK api st ns d) (fun hle h => h.mono hle) ns.types st hwf
    (fun d _ => by
      split
      · exact structRefl_noGlobal api ns.name d
      · exact unionRefl_noGlobal api ns.name d) ?_
  intro pre d post hsplit st' hwf' hle hprer
  split
  · rename_i hs
    exact struct_refl_item hwf' ⟨env.mono hle, hsplit, hprer⟩ hs
  · rename_i hs
    exact union_refl_item hwf' ⟨env.mono hle, hsplit, hprer⟩ (by simpa using hs)

theorem sec_defaults {api : Api} {ns : Namespace} (st : St)
    (hwf : StWF st) (env : Env api st ns ns.aliases) :
    ∃ st', Steps st (modName ns) (defaultSection ns) st' := by
  obtain ⟨st', hs, _⟩ := steps_flatMap_attrs (fun d => if d.isStruct then defaultStmts ns.name d else [])
    (modName ns) (fun _ _ => True) (fun _ _ => trivial) ns.types st hwf
    (fun d _ => by
      split
      · exact defaultStmts_noGlobal ns.name d
      · rfl)
    (fun pre d post hsplit st0 hwf0 hle _ => by
      have env0 := env.mono hle
      split
      · rename_i hs
        have htw := typeWF_at env.hapi env.hns hsplit
        have hok := env0.cls d (hsplit ▸ List.mem_append_cons_self)
        rw [defaultStmts_eq]
        obtain ⟨st', hs', _⟩ := seq_assigns_indep hwf0 hok.glob (d.fields.filterMap (defaultUses ns.name d))
          (fun x hx r hr => by
            obtain ⟨f, hf, hx⟩ := List.mem_filterMap.mp hx
            rcases defaultUses_refs hx hr with rfl | ⟨t, tag, hd', hr⟩
            · exact ready_here_attr hok.glob (hok.fieldAttrs hs f hf)
            · obtain ⟨htag, htok, hends⟩ := typeWF_dflt htw hf hd'
              exact tagRef_ready env.hapi env.hns env0.ctx env0.cls env0.als htag htok hends r hr)
        exact ⟨st', hs', trivial⟩
      · exact ⟨st0, Steps.nil hwf0, trivial⟩)
  exact ⟨st', hs⟩

theorem sec_routes {api : Api} {ns : Namespace} (st : St)
    (hwf : StWF st) (env : Env api st ns ns.aliases)
    (hf : Fresh st (modName ns) (routeStmts ns.name ns.routes)) :
    ∃ st', Steps st (modName ns) (routeStmts ns.name ns.routes) st' := by
  unfold routeStmts at hf ⊢
  rw [List.map_eq_flatMap] at hf ⊢
  obtain ⟨st1, hs1, hq1⟩ := steps_flatMap
    (fun r : Route => [Stmt.assign (fmtFunc r.name false r.version) none none
      (tyRefs ns.name r.arg ++ tyRefs ns.name r.result ++ tyRefs ns.name r.error ++ attrRefs ns.name r.attrs)])
    (modName ns) (fun r st => (st.global? (modName ns) (fmtFunc r.name false r.version)).isSome = true)
    (fun hle h => hle.glob_isSome h) ns.routes st hwf
    (fun pre r post hsplit st0 hwf0 hle _ hfr => by
      obtain ⟨h1, h2, h3, h4⟩ := routeWF_at env.hapi env.hns (r := r) (hsplit ▸ List.mem_append_cons_self)
      have rdy := fun t (ht : tyOK api ns t = true) => ready_tyRefs_all (env.mono hle) ht
      obtain ⟨st', v, hs, hg, _⟩ := steps_assign_glob (cur := modName ns) (t := fmtFunc r.name false r.version)
        (cp := none)
        (uses := tyRefs ns.name r.arg ++ tyRefs ns.name r.result ++ tyRefs ns.name r.error
          ++ attrRefs ns.name r.attrs) hwf0
        (by
          rw [h4, List.append_nil]
          exact List.forall_mem_append.mpr ⟨List.forall_mem_append.mpr ⟨rdy _ h1, rdy _ h2⟩, rdy _ h3⟩)
        (fun x hx => nomatch hx) (hfr.2 _ (by simp)) (hle.started _ env.ctx.started)
      exact ⟨st', hs, by simp [hg]⟩)
    hf.left
  have hfr1 : st1.global? (modName ns) "ROUTES" = none := (hs1.fresh_rest hf).2 _ (by simp)
  obtain ⟨st2, v, hs2, _⟩ := steps_assign_glob (cur := modName ns) (t := "ROUTES") (cp := none)
    (uses := ns.routes.map fun r => here (fmtFunc r.name false r.version)) hs1.wf
    (by
      intro x hx
      obtain ⟨r, hr, rfl⟩ := List.mem_map.mp hx
      obtain ⟨v, hv⟩ := Option.isSome_iff_exists.mp (hq1 r hr)
      exact ready_here hv)
    (fun x hx => nomatch hx) hfr1 (hs1.le.started _ env.ctx.started)
  exact ⟨st2, hs1.append hs2⟩

theorem body_ok {api : Api} (hapi : apiWF api = true) {ns : Namespace} (hns : ns ∈ api.namespaces) (st : St)
    (hwf : StWF st) (hctx : Ctx api st ns)
    (honly : ∀ n, (st.global? (modName ns) n).isSome = true → n ∈ ns.imports.map fmtNamespace) :
    ∃ st', Steps st (modName ns) (bodyStmts api ns) st' ∧ Loaded api st' ns := by
  -- `Fresh` for the whole body: `bindNames` has no duplicates, and so far the module binds only its imports (`honly`)
  have hnd := bindNames_nodup hapi hns
  rw [← globals_pyTypesStmts, pyTypesStmts_eq, List.flatMap_append, globals_importStmts] at hnd
  obtain ⟨_, hndB, hdisj⟩ := List.nodup_append.mp hnd
  have hF : Fresh st (modName ns) (bodyStmts api ns) := ⟨hndB, fun n hn => by
    cases hg : st.global? (modName ns) n with
    | none => rfl
    | some v => exact absurd rfl (hdisj n (honly n (by simp [hg])) n hn)⟩
  unfold bodyStmts at hF ⊢
  obtain ⟨st1, hs1⟩ := sec_ann ns st hwf hctx.started hF.left
  have hF1 := hs1.fresh_rest hF
  obtain ⟨st2, hs2, hcls2⟩ := sec_classes hapi hns st1 hs1.wf (hctx.mono hs1.le) hF1.left
  have hF2 := hs2.fresh_rest hF1
  obtain ⟨st3, hs3, hals3⟩ := sec_aliases hapi hns st2 hs2.wf (hctx.mono (hs1.le.trans hs2.le)) hcls2 hF2.left
  have env3 : Env api st3 ns ns.aliases := ⟨hapi, hns, hctx.mono (hs1.le.trans (hs2.le.trans hs3.le)),
    fun d hd => (hcls2 d hd).mono hs3.le, fun _ h => h, hals3⟩
  obtain ⟨st4, hs4, hrefl4⟩ := sec_refl st3 hs3.wf env3
  obtain ⟨st5, hs5⟩ := sec_defaults st4 hs4.wf (env3.mono hs4.le)
  have env5 := env3.mono (hs4.le.trans hs5.le)
  obtain ⟨st6, hs6⟩ := sec_routes st5 hs5.wf env5 (hs5.fresh_rest (hs4.fresh_rest (hs3.fresh_rest hF2)))
  have hall := hs1.append (hs2.append (hs3.append (hs4.append (hs5.append hs6))))
  have env6 := env5.mono hs6.le
  exact ⟨st6, hall, hall.le.started _ hctx.started, env6.cls,
    fun d hd => (hrefl4 d hd).mono (hs5.le.trans hs6.le), env6.als⟩

end StoneVerif.DeclPy
