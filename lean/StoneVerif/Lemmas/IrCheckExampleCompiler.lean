import StoneVerif.Lemmas.IrCheck
import StoneVerif.Lemmas.IrCheckExampleRuntime
import StoneVerif.Lemmas.RtWireEnv
/-! C10, examples, the compile-time side: a literal that `check` accepted for a scalar type is a token the
runtime round-trips at the generated validator (`ScalarOK`); what `addStructExample` accepted for a scalar field
is a member the struct round trip accepts (`StepOK`); the class tables python_types generates for a struct, a
union and an API, read off `mapM` in `Option`. -/
namespace StoneVerif.IrCheck
open StoneVerif.Rt

theorem firstErr_ok {α : Type} {g : α → CR Unit} {l : List α} (h : firstErr g l = .ok ()) : ∀ x ∈ l, g x = .ok () := by
  induction l with
  | nil => intro x hx; cases hx
  | cons a as ih =>
    simp only [firstErr] at h
    cases ha : g a with
    | error e => simp [ha] at h
    | ok u =>
      simp only [ha] at h
      intro x hx
      rcases List.mem_cons.mp hx with rfl | hm
      · cases u; exact ha
      · exact ih h x hm

def baseScalar : IrTy → Bool
  | .bool | .int .. | .float .. | .str .. => true
  | _ => false

theorem scalarTy_cases {t : IrTy} (h : scalarTy t = true) :
    baseScalar t = true ∨ ∃ t0, t = .nullable t0 ∧ baseScalar t0 = true := by
  cases t with
  | bool | int | float | str => exact Or.inl rfl
  | nullable t0 =>
    cases t0 with
    | bool | int | float | str => exact Or.inr ⟨_, rfl, rfl⟩
    | _ => cases h
  | _ => cases h

theorem exactKind_nullable {t : IrTy} {l : Lit} (hn : l ≠ .null) : exactKind (.nullable t) l = exactKind t l := by
  cases l with | null => exact absurd rfl hn | _ => rfl

theorem validatorOf_scalar {t : IrTy} {vt : PTy} (hs : scalarTy t = true) (hvt : validatorOf t = some vt) :
    isJsonPrimTy vt = true ∧ vt.flags.nullable = t.isNullableLit := by
  have base : ∀ {t0 vt0}, baseScalar t0 = true → validatorOf t0 = some vt0 →
      isJsonPrimTy vt0 = true ∧ vt0.flags.nullable = t0.isNullableLit := by
    intro t0 vt0 hb h0
    cases t0 with
    | bool | str => cases h0; exact ⟨rfl, rfl⟩
    | int | float =>
      unfold validatorOf at h0
      simp only [Option.map_eq_some_iff] at h0
      obtain ⟨_, _, rfl⟩ := h0; exact ⟨rfl, rfl⟩
    | _ => cases hb
  rcases scalarTy_cases hs with hb | ⟨t0, rfl, hb⟩
  · exact base hb hvt
  · obtain ⟨vt0, h0, rfl⟩ := validatorOf_nullable hvt
    exact ⟨by rw [isJsonPrimTy_withFlags]; exact (base hb h0).1, by rw [flags_withFlags]; rfl⟩

theorem baseScalar_value (E : Ext) (C : CExt) (us : List CUnion) (env : Env)
    (t0 : IrTy) (vt0 : PTy) (l : Lit) (hb : baseScalar t0 = true) (hvt : validatorOf t0 = some vt0)
    (hc : check E C us t0 l = .ok ()) (hk : exactKind t0 l = true) (fl : Flags) :
    ScalarOK E env (vt0.withFlags fl) (jsonOfLit l) := by
  cases t0 with
  | bool =>
    obtain ⟨b, rfl⟩ := check_bool_ok hc
    cases hvt
    exact scalarOK_bool E env fl b
  | int cls mn mx =>
    obtain ⟨n, rfl, hn⟩ := check_int_ok hc
    obtain ⟨lo, hi, hbd, h1, h2⟩ := checkIntVal_ok hn
    unfold validatorOf at hvt
    rw [hbd] at hvt; cases hvt
    exact scalarOK_int E env fl cls _ _ n h1 h2
  | float cls mn mx =>
    obtain ⟨x, hx, hl⟩ := check_float_ok hc
    -- an integer literal at a float type is not of the exact kind
    obtain rfl : l = .flt x := hl.resolve_right fun ⟨n, hn, _⟩ => by subst hn; cases hk
    obtain ⟨tlo, thi, hbd, hin⟩ := checkFloatVal_ok hx
    unfold validatorOf at hvt
    rw [hbd] at hvt; cases hvt
    exact scalarOK_float E env fl cls _ _ x hin
  | str a b p =>
    obtain ⟨s, rfl, hge, hle, hp⟩ := check_str_ok hc
    cases hvt
    exact scalarOK_str E env fl a b p s hge hle hp
  | _ => cases hb

/-- a literal other than `null` is checked, and decoded, by the type under the `?` -/
theorem scalar_value (E : Ext) (C : CExt) (us : List CUnion) (env : Env) {t : IrTy} {vt : PTy} {l : Lit}
    (hs : scalarTy t = true) (hvt : validatorOf t = some vt) (hc : check E C us t l = .ok ())
    (hk : exactKind t l = true) (hn : l ≠ .null) (fl : Flags) : ScalarOK E env (vt.withFlags fl) (jsonOfLit l) := by
  rcases scalarTy_cases hs with hb | ⟨t0, rfl, hb⟩
  · exact baseScalar_value E C us env t vt l hb hvt hc hk fl
  · obtain ⟨vt0, h0, rfl⟩ := validatorOf_nullable hvt
    rw [withFlags_withFlags]
    exact baseScalar_value E C us env t0 vt0 l hb h0 (check_nullable hn ▸ hc) (exactKind_nullable hn ▸ hk) fl

theorem scalar_null {E : Ext} {C : CExt} {us : List CUnion} {t : IrTy} (hs : scalarTy t = true)
    (hc : check E C us t .null = .ok ()) : t.isNullableLit = true := by
  cases t with
  | nullable => rfl
  | bool | int | float | str => cases hc
  | _ => cases hs

theorem scalar_not_userDefined {t : IrTy} (hs : scalarTy t = true) : t.isUserDefinedLit = false := by
  rcases scalarTy_cases hs with hb | ⟨t0, rfl, hb⟩
  · cases t with
    | bool | int | float | str => rfl
    | _ => cases hb
  · cases t0 with
    | bool | int | float | str => rfl
    | _ => cases hb

theorem scalar_not_struct {t : IrTy} (hs : scalarTy t = true) (c : String) (b : Bool) : unwrapNullable t ≠ .struct c b := by
  cases t with
  | bool | int | float | str => exact IrTy.noConfusion
  | nullable t0 =>
    cases t0 with
    | bool | int | float | str => exact IrTy.noConfusion
    | _ => cases hs
  | _ => cases hs

theorem scalar_example_lit {E : Ext} {C : CExt} {us : List CUnion} {t : IrTy} {v : ExVal} (hs : scalarTy t = true)
    (h : checkExample E C us t v = .ok ()) : ∃ l, v = .lit l ∧ check E C us t l = .ok () := by
  have prim : ∀ t', checkPrimExample E C us t' v = .ok () → ∃ l, v = .lit l ∧ check E C us t' l = .ok () := by
    intro t' h'
    cases v with
    | lit l => exact ⟨l, rfl, checkPrimExample_lit E C us t' l ▸ h'⟩
    | _ => cases h'
  have base : ∀ t0, baseScalar t0 = true → checkExample E C us t0 v = .ok () →
      ∃ l, v = .lit l ∧ check E C us t0 l = .ok () := by
    intro t0 hb h0
    cases t0 with
    | bool | int | float | str => exact prim _ h0
    | _ => cases hb
  rcases scalarTy_cases hs with hb | ⟨t0, rfl, hb⟩
  · exact base t hb h
  · by_cases hn : v = .lit .null
    · subst hn; exact ⟨.null, rfl, rfl⟩
    · have h0 : checkExample E C us t0 v = .ok () := by
        simp only [checkExample] at h
        exact h
      obtain ⟨l, rfl, hl⟩ := base t0 hb h0
      exact ⟨l, rfl, by rw [check_nullable (fun e => hn (by rw [e]))]; exact hl⟩

/-- the value the example document holds for a field (`none` = no key) -/
def docVal (ex : List (String × ExVal)) (f : CField) : Option JVal :=
  match structExampleMember ex f with
  | some (some kv) => some kv.2
  | _ => none

theorem field_stepOK (E : Ext) (C : CExt) (us : List CUnion) (env : Env)
    (ex : List (String × ExVal)) (f : CField) (fd : FieldDef)
    (hsc : scalarTy f.ty = true) (hfd : fieldDefOfC us f = some fd)
    (hdef : ∀ d, f.dflt = some d → ∃ lit, fieldDefault E C us f.ty lit = .ok d)
    (hex1 : ∀ l, exLookup f.name ex = some (.lit l) → exactKind f.ty l = true)
    (hex2 : ∀ d, exLookup f.name ex = none → f.dflt = some d → exactKind f.ty d = true)
    (hchk : match exLookup f.name ex with
      | some v => checkExample E C us f.ty v = .ok ()
      | none => (f.dflt.isSome || f.ty.isNullableLit) = true) :
    structExampleMember ex f = some ((docVal ex f).map fun j => (f.name, j)) ∧ StepOK E env fd (docVal ex f) := by
  obtain ⟨hvt, hname, hnull, hud, _, _⟩ := fieldDefOfC_inv hfd
  obtain ⟨hsp, hfln⟩ := validatorOf_scalar hsc hvt
  have hud' : fd.attrUserDefined = false := by rw [hud]; exact scalar_not_userDefined hsc
  have good : ∀ l, check E C us f.ty l = .ok () → exactKind f.ty l = true → l ≠ .null → StepSome E env fd (jsonOfLit l) := by
    intro l hc hk hn
    have sc := scalar_value E C us env hsc hvt hc hk hn fd.ty.flags
    rw [withFlags_self] at sc
    exact { toScalarOK := sc, sto := storeVal_of_validate E env fd _ sc.nn hud' sc.val }
  have absent : f.ty.isNullableLit = true → StepOK E env fd none := by
    intro hn
    exact ⟨by rw [hnull]; exact hn, by rw [hfln]; exact hn⟩
  suffices h : ∃ o : Option JVal, structExampleMember ex f = some (o.map fun j => (f.name, j)) ∧ StepOK E env fd o by
    obtain ⟨o, h1, h2⟩ := h
    have : docVal ex f = o := by cases o <;> simp [docVal, h1]
    rw [this]; exact ⟨h1, h2⟩
  cases hlk : exLookup f.name ex with
  | some v =>
    simp only [hlk] at hchk
    obtain ⟨l, rfl, hcl⟩ := scalar_example_lit hsc hchk
    by_cases hn : l = .null
    · subst hn
      exact ⟨none, by simp [structExampleMember, hlk, isNullEx], absent (scalar_null hsc hcl)⟩
    · refine ⟨some (jsonOfLit l), ?_, good l hcl (hex1 l hlk) hn⟩
      have : isNullEx (.lit l) = false := by cases l with | null => exact absurd rfl hn | _ => rfl
      simp [structExampleMember, hlk, this, jsonOfEx]
  | none =>
    simp only [hlk] at hchk
    cases hd : f.dflt with
    | some d =>
      obtain ⟨lit, hfdft⟩ := hdef d hd
      refine ⟨some (jsonOfLit d), by simp [structExampleMember, hlk, hd], ?_⟩
      -- a default is never `null`: a field with a default is not nullable
      refine good d (fieldDefault_check hfdft) (hex2 d hlk hd) fun hn => ?_
      subst hn
      have := scalar_null hsc (fieldDefault_check hfdft)
      rw [fieldDefault_not_nullable hfdft] at this
      cases this
    | none =>
      simp [hd] at hchk
      exact ⟨none, by simp [structExampleMember, hlk, hd], absent hchk⟩

/-- `mk c ys`: the level of class `c` with members `ys` -/
theorem mapM_chain {α β γ : Type} (g : α → Option β) (mk : String → List β → γ) (cls : γ → String) (items : γ → List β)
    (hc : ∀ c ys, cls (mk c ys) = c) (hi : ∀ c ys, items (mk c ys) = ys) :
    ∀ {chain : List (String × List α)} {levels : List γ},
      chain.mapM (fun x => (x.2.mapM g).bind fun ys => some (mk x.1 ys)) = some levels →
      (chain.flatMap (·.2)).mapM g = some (levels.flatMap items) ∧ levels.map cls = chain.map (·.1) := by
  intro chain
  induction chain with
  | nil => intro levels h; simp at h; subst h; simp
  | cons x rest ih =>
    intro levels h
    obtain ⟨lv, lvs, hlv, hlvs, rfl⟩ := mapM_some_cons h
    obtain ⟨h1, h2⟩ := ih hlvs
    cases hf : x.2.mapM g with
    | none => simp [hf] at hlv
    | some ys =>
      simp [hf] at hlv
      subst hlv
      refine ⟨?_, by simp [h2, hc]⟩
      simp only [List.flatMap_cons, hi]
      rw [List.mapM_append, hf, h1]; rfl

theorem structDefOfC_inv {us : List CUnion} {cs : CStruct} {sd : StructDef} (h : structDefOfC us cs = some sd) :
    (cs.chain.flatMap (·.2)).mapM (fieldDefOfC us) = some (sd.levels.flatMap (·.fields)) ∧
      sd.levels.map (·.cls) = cs.chain.map (·.1) ∧
      sd.cls = cs.cls ∧ sd.subtypes = cs.subtypes ∧ sd.catchAll = cs.catchAll := by
  simp only [structDefOfC, Option.bind_eq_bind, Option.bind_eq_some_iff, Option.pure_def, Option.some.injEq] at h
  obtain ⟨levels, hl, rfl⟩ := h
  obtain ⟨h1, h2⟩ := mapM_chain (fieldDefOfC us) (fun c fds => ({ cls := c, fields := fds } : Level)) (·.cls) (·.fields)
    (fun _ _ => rfl) (fun _ _ => rfl) hl
  exact ⟨h1, h2, rfl, rfl, rfl⟩

theorem allFields_eq (cs : CStruct) :
    cs.allFields = (cs.chain.flatMap (·.2)).filter (fun f => !f.optional) ++ (cs.chain.flatMap (·.2)).filter (·.optional) := by
  simp [CStruct.allFields, List.filter_flatMap]

theorem allFields_perm (cs : CStruct) : cs.allFields.Perm (cs.chain.flatMap (·.2)) := by
  rw [allFields_eq]
  have := List.filter_append_perm (fun f : CField => !f.optional) (cs.chain.flatMap (·.2))
  simpa using this

theorem collectMembers_filterMap (ex : List (String × ExVal)) (o : CField → Option JVal) :
    ∀ (all : List CField), (∀ f ∈ all, structExampleMember ex f = some ((o f).map fun j => (f.name, j))) →
      collectMembers (all.map (structExampleMember ex)) = some (all.filterMap fun f => (o f).map fun j => (f.name, j)) := by
  intro all
  induction all with
  | nil => intro _; rfl
  | cons f rest ih =>
    intro h
    have hf := h f (by simp)
    have ih' := ih (fun g hg => h g (List.mem_cons_of_mem _ hg))
    cases ho : o f with
    | none => simp [ho] at hf; simp [ho, hf, collectMembers, ih']
    | some j => simp [ho] at hf; simp [ho, hf, collectMembers, ih']

theorem addStructExample_fields {E : Ext} {C : CExt} {us : List CUnion} {cs : CStruct} {ex : List (String × ExVal)}
    (hadd : addStructExample E C us cs ex = .ok ()) :
    ∀ f ∈ cs.allFields, match exLookup f.name ex with
      | some v => checkExample E C us f.ty v = .ok ()
      | none => (f.dflt.isSome || f.ty.isNullableLit) = true := by
  simp only [addStructExample, invalid, ite_error_eq_ok] at hadd
  have hall := firstErr_ok hadd.2
  intro f hf
  have h := hall f hf
  cases hlk : exLookup f.name ex with
  | some v =>
    simp only [hlk] at h ⊢
    cases hc : checkExample E C us f.ty v with
    | ok u => rfl
    | error e => cases e <;> simp [hc] at h
  | none =>
    simp only [hlk] at h ⊢
    by_cases hb : (f.dflt.isSome || f.ty.isNullableLit) = true
    · exact hb
    · simp [hb] at h

theorem unionDefOfC_inv {cu : CUnion} {ud : UnionDef} (h : unionDefOfC cu = some ud) :
    (cu.chain.flatMap (·.2)).mapM tagDefOfC = some (ud.levels.flatMap (·.tags)) ∧
      ud.levels.map (·.cls) = cu.chain.map (·.1) ∧ ud.cls = cu.cls ∧ ud.catchAll = cu.catchAll := by
  simp only [unionDefOfC, Option.bind_eq_bind, Option.bind_eq_some_iff, Option.pure_def, Option.some.injEq] at h
  obtain ⟨levels, hl, rfl⟩ := h
  obtain ⟨h1, h2⟩ := mapM_chain tagDefOfC (fun c tds => ({ cls := c, tags := tds } : ULevel)) (·.cls) (·.tags)
    (fun _ _ => rfl) (fun _ _ => rfl) hl
  exact ⟨h1, h2, rfl, rfl⟩

theorem unionDefOfC_ancestors {cu : CUnion} {ud : UnionDef} (h : unionDefOfC cu = some ud) :
    ud.cls = cu.cls ∧ ud.ancestors = cu.chain.map (·.1) := by
  obtain ⟨-, hcls, hc, -⟩ := unionDefOfC_inv h
  exact ⟨hc, hcls⟩

theorem tagDefOfC_inv {t : CTag} {td : TagDef} (h : tagDefOfC t = some td) :
    validatorOf t.ty = some td.ty ∧ td.name = t.name ∧ td.omitted = t.omitted := by
  unfold tagDefOfC at h
  cases hvt : validatorOf t.ty with
  | none => simp [hvt] at h
  | some vt => simp [hvt] at h; subst h; exact ⟨rfl, rfl, rfl⟩

theorem union_tables {env : Env} {cu : CUnion} {ud : UnionDef} (hud : unionDefOfC cu = some ud)
    (henv : env.union? cu.cls = some ud)
    (hpub : ∀ t ∈ cu.allTags, t.omitted = none) (hnd : (cu.allTags.map (·.name)).Nodup)
    {tag : String} {t : CTag} (ht : cu.allTags.find? (·.name == tag) = some t)
    (hca : some tag ≠ cu.catchAll) (htne : tag ≠ ".tag") :
    ∃ td, validatorOf t.ty = some td.ty ∧ TagOK env cu.cls ud tag td := by
  obtain ⟨hflat, -, -, hcat⟩ := unionDefOfC_inv hud
  obtain ⟨hnames, -, hleft⟩ := mapM_some_spec (g := tagDefOfC) (·.name) (·.name)
    (fun a b h => (tagDefOfC_inv h).2.1) hflat
  have htm : t ∈ cu.allTags := List.mem_of_find?_eq_some ht
  obtain ⟨td, htd, hg⟩ := hleft t htm
  obtain ⟨hvt, hn, hom⟩ := tagDefOfC_inv hg
  have hnd2 : ((ud.levels.flatMap (·.tags)).map (·.name)).Nodup :=
    (show _ = cu.allTags.map (·.name) from hnames) ▸ hnd
  have htdn : td.name = tag := by rw [hn]; simpa using List.find?_some ht
  -- the generated `TagDef` is the public tag of that name: it is in the chain, public, and names are distinct
  have hpt : publicTag? env cu.cls tag = some td := by
    rw [publicTag?, henv]
    show findTag tag (ud.tagsSpec []) = some td
    rw [tagsSpec_nil, ← htdn]
    refine findTag_of_mem (List.Nodup.sublist ((List.filter_sublist).map _) hnd2) (List.mem_filter.mpr ⟨htd, ?_⟩)
    simp [hom, hpub t htm]
  exact ⟨td, hvt, henv, by rw [isTagPresent_nil_of_nodup henv hnd2, hpt]; rfl,
    by rw [valDataType_nil_of_nodup henv hnd2, hpt]; rfl, ctorValidator_of_nodup henv hnd2 hpt, hpt,
    by rw [hcat]; exact hca, htne⟩

theorem unionExampleDoc_lit {cu : CUnion} {tag : String} {t : CTag} (ht : cu.allTags.find? (·.name == tag) = some t)
    (hns : ∀ c, unwrapNullable t.ty ≠ .struct c false) (l : Lit) :
    unionExampleDoc cu [(tag, .lit l)] = some (match jsonOfLit l with
      | .null => .obj [(".tag", .str tag)]
      | j => .obj [(".tag", .str tag), (tag, j)]) := by
  -- `simp only` takes `hns` from the context to discharge the side condition of the equation of the inner `match`
  simp only [unionExampleDoc, ht, jsonOfEx]
  cases jsonOfLit l <;> rfl

theorem envOfC_inv {api : CApi} {env : Env} (h : envOfC api = some env) :
    api.structs.mapM (structDefOfC api.unions) = some env.structs ∧ api.unions.mapM unionDefOfC = some env.unions := by
  simp only [envOfC, Option.bind_eq_bind, Option.bind_eq_some_iff, Option.pure_def, Option.some.injEq] at h
  obtain ⟨structs, hs, unions, hu, rfl⟩ := h
  exact ⟨hs, hu⟩

theorem envOfC_struct {api : CApi} {env : Env} (h : envOfC api = some env) (hnd : (api.structs.map (·.cls)).Nodup)
    {cs : CStruct} (hcs : cs ∈ api.structs) :
    ∃ sd, structDefOfC api.unions cs = some sd ∧ env.struct? cs.cls = some sd := by
  obtain ⟨hs, -⟩ := envOfC_inv h
  have hcls : ∀ a b, structDefOfC api.unions a = some b → b.cls = a.cls := fun a b hab =>
    (structDefOfC_inv hab).2.2.1
  obtain ⟨hnames, _, hleft⟩ := mapM_some_spec (g := structDefOfC api.unions) (·.cls) (·.cls) hcls hs
  obtain ⟨sd, hsd, hg⟩ := hleft cs hcs
  refine ⟨sd, hg, ?_⟩
  unfold Env.struct?
  rw [← hcls cs sd hg]
  exact find?_key_of_mem (·.cls) (hnames ▸ hnd) hsd

theorem envOfC_union {api : CApi} {env : Env} (h : envOfC api = some env) (hnd : (api.unions.map (·.cls)).Nodup)
    {cu : CUnion} (hcu : cu ∈ api.unions) :
    ∃ ud, unionDefOfC cu = some ud ∧ env.union? cu.cls = some ud := by
  obtain ⟨-, hu⟩ := envOfC_inv h
  obtain ⟨hnames, _, hleft⟩ := mapM_some_spec (g := unionDefOfC) (·.cls) (·.cls)
    (fun a b hab => (unionDefOfC_ancestors hab).1) hu
  obtain ⟨ud, hud, hg⟩ := hleft cu hcu
  refine ⟨ud, hg, ?_⟩
  unfold Env.union?
  rw [← (unionDefOfC_ancestors hg).1]
  exact find?_key_of_mem (·.cls) (hnames ▸ hnd) hud

end StoneVerif.IrCheck
