import StoneVerif.Model.Rt.WF
import StoneVerif.Model.Rt.SpecC08
import StoneVerif.Model.Rt.Decode
import StoneVerif.Model.Rt.Encode
import StoneVerif.Lemmas.ListFacts
/-!
What the functions of the runtime model (validators, attributes, class tables, `envWF`) do, case by case, as the
equations the other runtime modules rewrite with; `RtModelDecode` does the same for `decode`. The equation at one type
constructor has the plain name (`validate_list`), `validate` at a value of the matching kind ends in `_val`, `validB`
in the kind of value (`validB_list_list`).

The model spells three tests more than once (`isNoneV` / `isNone` / an inline `match`, `isVoidT` / `isVoidTy`,
`isUserTyC08` / `isUserTy`). A statement uses the spelling of the function it is about; the bridges are
`matchNone_eq_isNoneV`, `isNone_eq_isNoneV`, `isVoidTy_eq_isVoidT` here and `DecL.isUserTyC08_eq_isUserTy` in RtDecode.
-/
namespace StoneVerif.Rt

theorem R_bind_ok {α β} (a : α) (f : α → R β) : ((Except.ok a : R α) >>= f) = f a := rfl

theorem flags_withFlags (t : PTy) (fl : Flags) : (t.withFlags fl).flags = fl := by cases t <;> rfl

theorem withFlags_withFlags (t : PTy) (a b : Flags) : (t.withFlags a).withFlags b = t.withFlags b := by
  cases t <;> rfl

theorem withFlags_self (t : PTy) : t.withFlags t.flags = t := by cases t <;> rfl

theorem isPrimTy_withFlags (t : PTy) (fl : Flags) : isPrimTy (t.withFlags fl) = isPrimTy t := by cases t <;> rfl

theorem isJsonPrimTy_withFlags (t : PTy) (fl : Flags) : isJsonPrimTy (t.withFlags fl) = isJsonPrimTy t := by
  cases t <;> rfl

namespace V8

theorem isPrimTy_of_jsonPrim {t : PTy} (h : isJsonPrimTy t = true) : isPrimTy t = true := by
  cases t <;> first | rfl | cases h

end V8

theorem isVoidT_withFlags (t : PTy) (fl : Flags) : isVoidT (t.withFlags fl) = isVoidT t := by cases t <;> rfl

theorem isVoidTy_eq_isVoidT (t : PTy) : isVoidTy t = isVoidT t := by cases t <;> rfl

theorem isPlainStruct_withFlags (t : PTy) (fl : Flags) : isPlainStruct (t.withFlags fl) = isPlainStruct t := by
  cases t <;> rfl

theorem isPlainStruct_iff {t : PTy} : isPlainStruct t = true ↔ ∃ fl sc, t = .struct fl sc := by
  cases t <;> simp [isPlainStruct]

theorem validPrim_withFlags (E : Ext) (t : PTy) (fl : Flags) (v : PyVal) :
    validPrim E (t.withFlags fl) v = validPrim E t v := by
  cases t <;> cases v <;> rfl

/-- only a Void validator is looked at with its wrappers, and the bare one passes -/
theorem tyWF_withFlags_empty {env : Env} {t : PTy} (h : tyWF env t = true) : tyWF env (t.withFlags {}) = true := by
  cases t <;> first | exact h | rfl

theorem isNoneV_iff {v : PyVal} : isNoneV v = true ↔ v = .none := by
  cases v <;> simp [isNoneV]

theorem isNoneV_of_ne {v : PyVal} (h : v = .none → False) : isNoneV v = false := by
  cases v <;> first | rfl | exact (h rfl).elim

theorem isNoneV_none : isNoneV .none = true := rfl

theorem matchNone_eq_isNoneV (v : PyVal) : (match v with | .none => true | _ => false) = isNoneV v := by
  cases v <;> rfl

theorem isNone_eq_isNoneV (v : PyVal) : isNone v = isNoneV v := by cases v <;> rfl

theorem eq_none_of_nullable {c : Bool} {v : PyVal} (h : (c && isNoneV v) = true) : v = .none :=
  isNoneV_iff.1 (Bool.and_eq_true_iff.1 h).2

theorem normalB_none (env : Env) (t : PTy) : normalB env t .none = true := by
  cases t <;> rfl

theorem lookupSlot_eq_find? (k : String) (l : List (String × PyVal)) :
    lookupSlot k l = (l.find? (·.1 == k)).map (·.2) := by
  induction l with
  | nil => rfl
  | cons a as ih => obtain ⟨k', x⟩ := a; rw [lookupSlot, List.find?_cons, ih]; cases k' == k <;> rfl

theorem jsonLookup_eq_find? (k : String) (l : List (String × JVal)) :
    jsonLookup k l = (l.find? (·.1 == k)).map (·.2) := by
  induction l with
  | nil => rfl
  | cons a as ih => obtain ⟨k', x⟩ := a; rw [jsonLookup, List.find?_cons, ih]; cases k' == k <;> rfl

theorem mem_of_jsonLookup {k : String} {x : JVal} {kvs : List (String × JVal)} (h : jsonLookup k kvs = some x) :
    (k, x) ∈ kvs := by
  rw [jsonLookup_eq_find?, Option.map_eq_some_iff] at h
  obtain ⟨⟨k', x'⟩, hf, rfl⟩ := h
  obtain ⟨hm, rfl⟩ := find?_key_some Prod.fst hf
  exact hm

theorem jsonLookup_eq_none_of_not_mem {k : String} {kvs : List (String × JVal)} (h : ∀ x, (k, x) ∉ kvs) :
    jsonLookup k kvs = none := by
  cases hx : jsonLookup k kvs with
  | none => rfl
  | some x => exact absurd (mem_of_jsonLookup hx) (h x)

theorem lookupW_eq_find? (k : String) (l : List (String × JVal)) :
    lookupW k l = (l.find? (·.1 == k)).map (·.2) := by
  induction l with
  | nil => rfl
  | cons a as ih => obtain ⟨k', x⟩ := a; rw [lookupW, List.find?_cons, ih]; cases k' == k <;> rfl

theorem childLookup_eq_find? (k : String) (l : List (String × R PyVal)) :
    childLookup k l = (l.find? (·.1 == k)).map (·.2) := by
  induction l with
  | nil => rfl
  | cons a as ih => obtain ⟨k', x⟩ := a; rw [childLookup, List.find?_cons, ih]; cases k' == k <;> rfl

/-! `fillSlots`, `pick` and the documents built from a field table are all a table `L` listed by name with the members
`g` gives (`filterMap`). -/

theorem keys_filterMap_sublist {α β : Type} (nm : α → String) (g : α → Option β) (L : List α) :
    ((L.filterMap fun x => (g x).map fun b => (nm x, b)).map (·.1)).Sublist (L.map nm) := by
  induction L with
  | nil => simp
  | cons x xs ih =>
    cases hx : g x with
    | none => simpa [List.filterMap_cons, hx] using List.Sublist.cons _ ih
    | some b =>
      simp only [List.filterMap_cons, hx, Option.map_some, List.map_cons]
      exact List.Sublist.cons_cons _ ih

theorem find?_filterMap_of_not_mem {α β : Type} (nm : α → String) (g : α → Option β) (k : String) (L : List α)
    (hk : k ∉ L.map nm) : (L.filterMap fun x => (g x).map fun b => (nm x, b)).find? (·.1 == k) = none :=
  List.find?_eq_none.2 fun p hp hpk =>
    hk ((keys_filterMap_sublist nm g L).subset (List.mem_map.2 ⟨p, hp, by simpa using hpk⟩))

theorem find?_filterMap_of_mem {α β : Type} (nm : α → String) (g : α → Option β) (L : List α)
    (hnd : (L.map nm).Nodup) (a : α) (ha : a ∈ L) :
    ((L.filterMap fun x => (g x).map fun b => (nm x, b)).find? (·.1 == nm a)).map (·.2) = g a := by
  induction L with
  | nil => cases ha
  | cons x xs ih =>
    simp only [List.map_cons, List.nodup_cons] at hnd
    rcases List.mem_cons.mp ha with rfl | hm
    · cases hx : g a with
      | none => simp [hx, find?_filterMap_of_not_mem nm g (nm a) xs hnd.1]
      | some b => simp [hx]
    · have hne : ¬ nm x = nm a := fun h => hnd.1 (h ▸ List.mem_map_of_mem hm)
      cases hx : g x with
      | none => simpa [List.filterMap_cons, hx] using ih hnd.2 hm
      | some b => simpa [List.filterMap_cons, hx, hne] using ih hnd.2 hm

theorem lookupSlot_none_of_not_mem {k : String} {slots : List (String × PyVal)} (h : k ∉ slots.map (·.1)) :
    lookupSlot k slots = none := by
  rw [lookupSlot_eq_find?, Option.map_eq_none_iff, List.find?_eq_none]
  intro p hp he
  exact h (List.mem_map.2 ⟨p, hp, by simpa using he⟩)

theorem lookupSlot_of_mem {k : String} {x : PyVal} {slots : List (String × PyVal)}
    (hnd : (slots.map (·.1)).Nodup) (h : (k, x) ∈ slots) : lookupSlot k slots = some x := by
  rw [lookupSlot_eq_find?, find?_key_of_mem (·.1) hnd h]; rfl

theorem mem_of_lookupSlot {k : String} {x : PyVal} {slots : List (String × PyVal)}
    (h : lookupSlot k slots = some x) : (k, x) ∈ slots := by
  rw [lookupSlot_eq_find?, Option.map_eq_some_iff] at h
  obtain ⟨⟨k', x'⟩, hf, rfl⟩ := h
  obtain ⟨hm, rfl⟩ := find?_key_some Prod.fst hf
  exact hm

theorem lookupSlot_append (k : String) (a b : List (String × PyVal)) :
    lookupSlot k (a ++ b) = (lookupSlot k a).or (lookupSlot k b) := by
  simp only [lookupSlot_eq_find?, List.find?_append, Option.map_or]

theorem childLookup_append (k : String) (a b : List (String × R PyVal)) :
    childLookup k (a ++ b) = (childLookup k a).or (childLookup k b) := by
  simp only [childLookup_eq_find?, List.find?_append, Option.map_or]

theorem childLookup_insert (n k : String) (r : R PyVal) (A B : List (String × R PyVal)) :
    childLookup n (A ++ (k, r) :: B) = childLookup n (A ++ B) ∨
      (n = k ∧ childLookup n (A ++ (k, r) :: B) = some r ∧ childLookup n (A ++ B) = childLookup k B) := by
  rw [childLookup_append, childLookup_append, childLookup]
  cases childLookup n A with
  | some r' => exact .inl rfl
  | none =>
    by_cases hk : k = n
    · subst hk; exact .inr ⟨rfl, by rw [beq_self_eq_true]; rfl, rfl⟩
    · rw [beq_false_of_ne hk]; exact .inl rfl

theorem findTag_eq_find? (tag : String) (l : List TagDef) : findTag tag l = l.find? (·.name == tag) := by
  induction l with
  | nil => rfl
  | cons a as ih => rw [findTag, List.find?_cons, ih]; cases a.name == tag <;> rfl

theorem findTag_some {tag : String} {l : List TagDef} {t : TagDef} (h : findTag tag l = some t) :
    t ∈ l ∧ t.name = tag := by
  rw [findTag_eq_find?] at h; exact find?_key_some TagDef.name h

theorem findTag_isSome (name : String) (ts : List TagDef) :
    (findTag name ts).isSome = true ↔ ∃ t ∈ ts, t.name = name := by
  simp only [findTag_eq_find?, List.find?_isSome, beq_iff_eq]

theorem option_bind_findTag_isSome (name : String) (o : Option (List TagDef)) :
    (o.bind (findTag name)).isSome = (findTag name (o.getD [])).isSome := by
  cases o <;> simp [findTag]

theorem findTag_append (n : String) (a b : List TagDef) :
    findTag n (a ++ b) = (findTag n a).or (findTag n b) := by
  simp only [findTag_eq_find?, List.find?_append]

theorem findTag_of_mem_inj {l : List TagDef} (hinj : ∀ a ∈ l, ∀ b ∈ l, a.name = b.name → a = b) {t : TagDef}
    (ht : t ∈ l) : findTag t.name l = some t := by
  rw [findTag_eq_find?]; exact find?_key_of_mem_inj TagDef.name hinj ht

theorem findTag_congr_of_inj {l₁ l₂ : List TagDef} (hinj : ∀ a ∈ l₂, ∀ b ∈ l₂, a.name = b.name → a = b)
    (hmem : ∀ t, t ∈ l₁ ↔ t ∈ l₂) (tag : String) : findTag tag l₁ = findTag tag l₂ := by
  have hinj₁ : ∀ a ∈ l₁, ∀ b ∈ l₁, a.name = b.name → a = b :=
    fun a ha b hb => hinj a ((hmem a).mp ha) b ((hmem b).mp hb)
  cases h₁ : findTag tag l₁ with
  | some t =>
    obtain ⟨hm, rfl⟩ := findTag_some h₁
    exact (findTag_of_mem_inj hinj ((hmem t).mp hm)).symm
  | none =>
    cases h₂ : findTag tag l₂ with
    | none => rfl
    | some t =>
      obtain ⟨hm, rfl⟩ := findTag_some h₂
      rw [findTag_of_mem_inj hinj₁ ((hmem t).mpr hm)] at h₁
      cases h₁

theorem findTag_of_mem {l : List TagDef} (hnd : (l.map (·.name)).Nodup) {t : TagDef} (ht : t ∈ l) :
    findTag t.name l = some t :=
  findTag_of_mem_inj (key_inj_of_nodup (fun t : TagDef => t.name) hnd) ht

theorem findTag_congr_of_nodup {l₁ l₂ : List TagDef} (hnd₁ : (l₁.map (·.name)).Nodup) (hnd₂ : (l₂.map (·.name)).Nodup)
    (hmem : ∀ t, t ∈ l₁ ↔ t ∈ l₂) (tag : String) : findTag tag l₁ = findTag tag l₂ :=
  findTag_congr_of_inj (key_inj_of_nodup (fun t : TagDef => t.name) hnd₂) hmem tag

theorem find_name_of_mem {fields : List FieldDef} (hnd : (fields.map (·.name)).Nodup) {f : FieldDef}
    (hf : f ∈ fields) : fields.find? (·.name == f.name) = some f :=
  find?_key_of_mem FieldDef.name hnd hf

theorem find_name_some {fields : List FieldDef} {k : String} {f : FieldDef}
    (h : fields.find? (·.name == k) = some f) : f ∈ fields ∧ f.name = k :=
  find?_key_some FieldDef.name h

theorem find_name_none {fields : List FieldDef} {k : String}
    (h : fields.find? (·.name == k) = none) : k ∉ fields.map (·.name) :=
  find?_key_none FieldDef.name h

theorem find?_table_of_mem {fields : List FieldDef} (hnd : (fields.map (·.name)).Nodup) {f : FieldDef}
    (hf : f ∈ fields) : (fields.map fun f => (f.name, f.ty)).find? (·.1 == f.name) = some (f.name, f.ty) := by
  rw [List.find?_map]
  exact congrArg (Option.map _) (find_name_of_mem hnd hf)

/-- no `Nodup`: `fieldsFor` repeats a field when the caller's permissions repeat -/
theorem find_table_of_name (fields : List FieldDef) (f : FieldDef) (hf : f ∈ fields) :
    ∃ g ∈ fields, g.name = f.name ∧
      (fields.map fun f => (f.name, f.ty)).find? (·.1 == f.name) = some (g.name, g.ty) := by
  induction fields with
  | nil => cases hf
  | cons a rest ih => grind

theorem lookupSlot_setSlot (n : String) (x : PyVal) (slots : List (String × PyVal)) :
    lookupSlot n (setSlot n x slots) = some x := by
  induction slots with
  | nil => simp only [setSlot, lookupSlot, beq_self_eq_true, if_true]
  | cons kv rest ih =>
    obtain ⟨k, w⟩ := kv
    cases hk : k == n <;> simp only [setSlot, lookupSlot, hk, Bool.false_eq_true, if_false, if_true, ih]

theorem lookupSlot_setSlot_ne {n m : String} (x : PyVal) (slots : List (String × PyVal)) (hne : m ≠ n) :
    lookupSlot m (setSlot n x slots) = lookupSlot m slots := by
  have hnm : (n == m) = false := beq_false_of_ne (Ne.symm hne)
  induction slots with
  | nil => simp only [setSlot, lookupSlot, hnm, Bool.false_eq_true, if_false]
  | cons kv rest ih =>
    obtain ⟨k, w⟩ := kv
    cases hk : k == n
    · simp only [setSlot, lookupSlot, hk, Bool.false_eq_true, if_false, ih]
    · have hkm : (k == m) = false := by rw [beq_iff_eq.1 hk]; exact hnm
      simp only [setSlot, lookupSlot, hk, hkm, Bool.false_eq_true, if_false, if_true]

theorem delSlot_eq_eraseP (n : String) (slots : List (String × PyVal)) : delSlot n slots = slots.eraseP (·.1 == n) := by
  induction slots with
  | nil => rfl
  | cons kv rest ih => obtain ⟨k, w⟩ := kv; rw [delSlot, List.eraseP_cons, ih]; cases k == n <;> rfl

theorem lookupSlot_delSlot_ne {n m : String} (slots : List (String × PyVal)) (hne : m ≠ n) :
    lookupSlot m (delSlot n slots) = lookupSlot m slots := by
  induction slots with
  | nil => rfl
  | cons kv rest ih =>
    obtain ⟨k, w⟩ := kv
    cases hk : k == n
    · simp only [delSlot, lookupSlot, hk, Bool.false_eq_true, if_false, ih]
    · have hkm : (k == m) = false := by rw [beq_iff_eq.1 hk]; exact beq_false_of_ne (Ne.symm hne)
      simp only [delSlot, lookupSlot, hk, hkm, Bool.false_eq_true, if_false, if_true]

theorem setSlot_fresh {n : String} (x : PyVal) {slots : List (String × PyVal)} (h : lookupSlot n slots = none) :
    setSlot n x slots = slots ++ [(n, x)] := by
  induction slots with
  | nil => rfl
  | cons kv rest ih =>
    obtain ⟨k, w⟩ := kv
    cases hk : k == n
    · simp only [lookupSlot, hk, Bool.false_eq_true, if_false] at h
      simp only [setSlot, hk, Bool.false_eq_true, if_false, ih h, List.cons_append]
    · simp only [lookupSlot, hk, if_true, reduceCtorEq] at h

theorem delSlot_fresh {n : String} {slots : List (String × PyVal)} (h : lookupSlot n slots = none) :
    delSlot n slots = slots := by
  rw [lookupSlot_eq_find?, Option.map_eq_none_iff, List.find?_eq_none] at h
  rw [delSlot_eq_eraseP]; exact List.eraseP_of_forall_not h

theorem eq_or_mem_of_mem_setSlot (k : String) (x : PyVal) (p : String × PyVal) :
    ∀ slots, p ∈ setSlot k x slots → p = (k, x) ∨ p ∈ slots := by
  intro slots
  induction slots with
  | nil => simp [setSlot]
  | cons kv rest ih => grind [setSlot]

theorem mem_of_mem_delSlot (k : String) (p : String × PyVal) : ∀ slots, p ∈ delSlot k slots → p ∈ slots :=
  fun slots h => List.mem_of_mem_eraseP (delSlot_eq_eraseP k slots ▸ h)

theorem keys_setSlot_sub {n : String} {x : PyVal} {slots : List (String × PyVal)} {m : String}
    (h : m ∈ (setSlot n x slots).map (·.1)) : m = n ∨ m ∈ slots.map (·.1) := by
  obtain ⟨p, hp, rfl⟩ := List.mem_map.1 h
  rcases eq_or_mem_of_mem_setSlot n x p slots hp with rfl | hp
  · exact .inl rfl
  · exact .inr (List.mem_map_of_mem hp)

theorem keys_delSlot_sub {n : String} {slots : List (String × PyVal)} {m : String}
    (h : m ∈ (delSlot n slots).map (·.1)) : m ∈ slots.map (·.1) :=
  (List.eraseP_sublist.map _).subset (delSlot_eq_eraseP n slots ▸ h)

theorem nodupS_iff (l : List String) : nodupS l = true ↔ l.Nodup := by
  induction l with
  | nil => simp [nodupS]
  | cons a as ih => simp [nodupS, ih]

theorem key_inj_of_nodupS {α} (name : α → String) :
    ∀ (l : List α), nodupS (l.map name) = true → ∀ f g, f ∈ l → g ∈ l → name f = name g → f = g :=
  fun _ h f g hf hg => key_inj_of_nodup name ((nodupS_iff _).1 h) f hf g hg

theorem nodupS_cons {x : String} {xs : List String} (h : nodupS (x :: xs) = true) : x ∉ xs ∧ nodupS xs = true := by
  simpa [nodupS] using h

theorem findTag_filter (p : TagDef → Bool) (tag : String) : ∀ (l : List TagDef), nodupS (l.map (·.name)) = true →
    findTag tag (l.filter p) = (findTag tag l).filter p
  | [], _ => rfl
  | t :: l, hnd => by
    obtain ⟨ht, hl⟩ := nodupS_cons hnd
    have ih := findTag_filter p tag l hl
    by_cases hn : t.name = tag
    · subst hn
      have hnone : findTag t.name l = none := by
        cases hf : findTag t.name l with
        | none => rfl
        | some t' =>
          obtain ⟨hm, hn'⟩ := findTag_some hf
          exact absurd (List.mem_map.mpr ⟨t', hm, hn'⟩) ht
      by_cases hp : p t = true
      · simp [List.filter, hp, findTag, Option.filter]
      · simp only [List.filter, hp, findTag, beq_self_eq_true, if_true]
        rw [ih, hnone]
        simp [Option.filter, hp]
    · have hne : (t.name == tag) = false := by simpa using hn
      by_cases hp : p t = true
      · simp only [List.filter, hp, findTag, hne]
        exact ih
      · simp only [List.filter, hp, findTag, hne]
        exact ih

theorem nodupS_setSlot (n : String) (x : PyVal) {slots : List (String × PyVal)}
    (h : nodupS (slots.map (·.1)) = true) : nodupS ((setSlot n x slots).map (·.1)) = true := by
  rw [nodupS_iff] at h ⊢
  induction slots with
  | nil => simp [setSlot]
  | cons kv rest ih =>
    obtain ⟨k, w⟩ := kv
    rw [List.map_cons, List.nodup_cons] at h
    cases hk : k == n
    · simp only [setSlot, hk, Bool.false_eq_true, if_false, List.map_cons, List.nodup_cons]
      refine ⟨fun hm => ?_, ih h.2⟩
      rcases keys_setSlot_sub hm with e | hm
      · rw [e, beq_self_eq_true] at hk; cases hk
      · exact h.1 hm
    · simp only [setSlot, hk, if_true, List.map_cons, List.nodup_cons]; exact h

theorem nodupS_delSlot (n : String) {slots : List (String × PyVal)}
    (h : nodupS (slots.map (·.1)) = true) : nodupS ((delSlot n slots).map (·.1)) = true := by
  rw [nodupS_iff] at h ⊢
  rw [delSlot_eq_eraseP]; exact (List.eraseP_sublist.map _).nodup h

/-- names are unique, so deleting the first slot of a name deletes the name -/
theorem lookupSlot_delSlot (n : String) {slots : List (String × PyVal)}
    (h : nodupS (slots.map (·.1)) = true) : lookupSlot n (delSlot n slots) = none := by
  refine lookupSlot_none_of_not_mem ?_
  have := ((nodupS_iff _).1 h).not_mem_erase (a := n)
  rw [List.erase_eq_eraseP', List.eraseP_map] at this
  rw [delSlot_eq_eraseP]; exact this

section validate
variable (E : Ext) (env : Env)

theorem validate_bool (fl : Flags) (v : PyVal) :
    validate E env (.bool fl) v = if fl.nullable && isNoneV v then .ok .none else
      match v with
      | .bool b => .ok (.bool b)
      | _ => verr "not a valid boolean" := by
  unfold validate; rfl

theorem validate_int (fl : Flags) (c : String) (lo hi : Int) (v : PyVal) :
    validate E env (.int fl c lo hi) v = if fl.nullable && isNoneV v then .ok .none else
      match intOf v with
      | some n => if lo ≤ n ∧ n ≤ hi then .ok v else verr "not within range"
      | none => verr "expected integer" := by
  unfold validate; rfl

theorem validate_float (fl : Flags) (c : String) (lo hi : Option FBits) (v : PyVal) :
    validate E env (.float fl c lo hi) v = if fl.nullable && isNoneV v then .ok .none else
      match fltOf E v with
      | none => verr "expected real number"
      | some none => verr "too large for float"
      | some (some x) =>
        if E.fltIsNan x || E.fltIsInf x then verr "nan/inf not supported"
        else if (match lo with | some l => E.fltLt x l | none => false) then verr "not greater than minimum"
        else if (match hi with | some h => E.fltLt h x | none => false) then verr "not less than maximum"
        else .ok (.flt x) := by
  unfold validate; rfl

theorem validate_str (fl : Flags) (a b : Option Nat) (p : Option String) (v : PyVal) :
    validate E env (.str fl a b p) v = if fl.nullable && isNoneV v then .ok .none else
      match v with
      | .str s =>
        if !geOpt b s.length then verr "too long"
        else if !leOpt a s.length then verr "too short"
        else match p with
          | some p => if p ≠ "" && !E.patMatch p s then verr "did not match pattern" else .ok v
          | none => .ok v
      | _ => verr "expected string" := by
  unfold validate; rfl

theorem validate_bytes (fl : Flags) (v : PyVal) :
    validate E env (.bytes fl) v = if fl.nullable && isNoneV v then .ok .none else
      match v with
      | .bytes _ => .ok v
      | _ => verr "expected bytes" := by
  unfold validate; rfl

theorem validate_ts (fl : Flags) (fmt : String) (v : PyVal) :
    validate E env (.ts fl fmt) v = if fl.nullable && isNoneV v then .ok .none else
      match v with
      | .ts _ ok => if ok then .ok v else verr "timestamp timezone"
      | _ => verr "expected timestamp" := by
  unfold validate; rfl

theorem validate_void (fl : Flags) (v : PyVal) :
    validate E env (.void fl) v = if fl.nullable && isNoneV v then .ok .none else
      match v with
      | .none => .ok .none
      | _ => verr "expected NoneType" := by
  unfold validate; rfl

theorem validate_list (fl : Flags) (item : PTy) (a b : Option Nat) (v : PyVal) :
    validate E env (.list fl item a b) v = if fl.nullable && isNoneV v then .ok .none else
      match v with
      | .list xs | .tuple xs =>
        if !geOpt b xs.length then verr "too many items"
        else if !leOpt a xs.length then verr "too few items"
        else (validateList E env item xs).map .list
      | _ => verr "not a valid list" := by
  unfold validate; rfl

theorem validate_map (fl : Flags) (kt vt : PTy) (v : PyVal) :
    validate E env (.map fl kt vt) v = if fl.nullable && isNoneV v then .ok .none else
      match v with
      | .dict kvs => (validateDict E env kt vt kvs).map .dict
      | _ => verr "not a valid dict" := by
  unfold validate; rfl

theorem validate_struct (fl : Flags) (c : String) (v : PyVal) :
    validate E env (.struct fl c) v = if fl.nullable && isNoneV v then .ok .none
      else if !structTypeOk env c v then verr "expected struct type"
      else if !structFieldsOk env c none v then verr "missing required field" else .ok v := by
  unfold validate; rfl

theorem validate_tree (fl : Flags) (c : String) (v : PyVal) :
    validate E env (.tree fl c) v = validate E env (.struct fl c) v := by
  unfold validate; rfl

theorem validate_union (fl : Flags) (c : String) (v : PyVal) :
    validate E env (.union fl c) v = if fl.nullable && isNoneV v then .ok .none
      else if unionTypeOk env c v then .ok v else verr "expected union type" := by
  unfold validate; rfl

/-- `bv.Nullable(inner).validate`; no other wrapper (`_redact`) takes part in validation -/
theorem validate_nullable (t : PTy) (v : PyVal) :
    validate E env t v =
      if t.flags.nullable && isNoneV v then .ok .none else validate E env (t.withFlags {}) v := by
  cases t <;> unfold validate <;> rfl

theorem validate_nullable_none {t : PTy} (h : t.flags.nullable = true) : validate E env t .none = .ok .none := by
  rw [validate_nullable, h]; rfl

theorem validate_withFlags (t : PTy) (fl : Flags) {v : PyVal} (hv : isNoneV v = false) :
    validate E env (t.withFlags fl) v = validate E env t v := by
  rw [validate_nullable E env (t.withFlags fl), validate_nullable E env t, withFlags_withFlags, hv, Bool.and_false,
    Bool.and_false]

theorem validate_bool_val (fl : Flags) (b : Bool) : validate E env (.bool fl) (.bool b) = .ok (.bool b) := by
  rw [validate_bool]; simp only [isNoneV, Bool.and_false, Bool.false_eq_true, if_false]

theorem validate_int_val (fl : Flags) (c : String) {lo hi n : Int} (h1 : lo ≤ n) (h2 : n ≤ hi) :
    validate E env (.int fl c lo hi) (.int n) = .ok (.int n) := by
  rw [validate_int]; simp only [isNoneV, Bool.and_false, Bool.false_eq_true, if_false, intOf, h1, h2, and_self, if_true]

theorem validate_str_val (fl : Flags) (a b : Option Nat) (p : Option String) (s : String)
    (hge : geOpt b s.length = true) (hle : leOpt a s.length = true)
    (hp : ∀ q, p = some q → q ≠ "" → E.patMatch q s = true) :
    validate E env (.str fl a b p) (.str s) = .ok (.str s) := by
  rw [validate_str]
  simp only [isNoneV, hge, hle, Bool.and_false, Bool.not_true, Bool.false_eq_true, if_false]
  cases p with
  | none => rfl
  | some q =>
    by_cases hq : q = ""
    · simp only [hq, ne_eq, not_true, decide_false, Bool.false_and, Bool.false_eq_true, if_false]
    · simp only [hp q rfl hq, Bool.not_true, Bool.and_false, Bool.false_eq_true, if_false]

theorem inRange_checks {E : Ext} {lo hi : Option FBits} {x : FBits} : inRange E lo hi x = true →
    (E.fltIsNan x || E.fltIsInf x) = false ∧
      (match lo with | some l => E.fltLt x l | none => false) = false ∧
      (match hi with | some h => E.fltLt h x | none => false) = false := by
  cases lo <;> cases hi <;> simp [inRange, and_assoc]

theorem validate_float_val (fl : Flags) (c : String) {lo hi : Option FBits} {v : PyVal} {x : FBits}
    (hv : fltOf E v = some (some x)) (h : inRange E lo hi x = true) :
    validate E env (.float fl c lo hi) v = .ok (.flt x) := by
  obtain ⟨h1, h2, h3⟩ := inRange_checks h
  have hn : isNoneV v = false := by cases v <;> first | rfl | cases hv
  rw [validate_float, hn, Bool.and_false, if_neg Bool.false_ne_true, hv]
  simp only [h1, h2, h3, Bool.false_eq_true, if_false]

theorem validate_list_val (fl : Flags) (item : PTy) {a b : Option Nat} {xs : List PyVal} {v : PyVal}
    (hv : v = .list xs ∨ v = .tuple xs) (h1 : leOpt a xs.length = true) (h2 : geOpt b xs.length = true) :
    validate E env (.list fl item a b) v = (validateList E env item xs).map .list := by
  rw [validate_list]
  rcases hv with rfl | rfl <;> simp only [isNoneV, Bool.and_false, Bool.false_eq_true, if_false, h1, h2, Bool.not_true]

theorem validate_map_val (fl : Flags) (kt vt : PTy) (kvs : List (PyVal × PyVal)) :
    validate E env (.map fl kt vt) (.dict kvs) = (validateDict E env kt vt kvs).map .dict := by
  rw [validate_map]; simp only [isNoneV, Bool.and_false, Bool.false_eq_true, if_false]

theorem validate_struct_val {t : PTy} {fl : Flags} {cls c : String} {slots : List (String × PyVal)}
    (ht : t = .struct fl cls ∨ t = .tree fl cls)
    (hty : env.structSubclass c cls = true) (hf : structFieldsOk env cls none (.struct c slots) = true) :
    validate E env t (.struct c slots) = .ok (.struct c slots) := by
  have : validate E env t (.struct c slots) = validate E env (.struct fl cls) (.struct c slots) := by
    rcases ht with rfl | rfl
    · rfl
    · exact validate_tree E env fl cls _
  rw [this, validate_struct]
  simp only [isNoneV, structTypeOk, hty, hf, Bool.and_false, Bool.false_eq_true, if_false, Bool.not_true]

theorem validate_union_val (fl : Flags) {cls c tag : String} {p : PyVal} (hty : env.unionSubclass cls c = true) :
    validate E env (.union fl cls) (.union c tag p) = .ok (.union c tag p) := by
  rw [validate_union]
  simp only [isNoneV, unionTypeOk, hty, Bool.and_false, Bool.false_eq_true, if_false, if_true]

end validate

section validateTypeOnly
variable (env : Env)

theorem validateTypeOnly_struct (fl : Flags) (c : String) (v : PyVal) :
    validateTypeOnly env (.struct fl c) v = if fl.nullable && isNoneV v then .ok ()
      else if structTypeOk env c v then .ok () else verr "expected struct type" := by
  unfold validateTypeOnly; rfl

theorem validateTypeOnly_tree (fl : Flags) (c : String) (v : PyVal) :
    validateTypeOnly env (.tree fl c) v = validateTypeOnly env (.struct fl c) v := by
  unfold validateTypeOnly; rfl

theorem validateTypeOnly_union (fl : Flags) (c : String) (v : PyVal) :
    validateTypeOnly env (.union fl c) v = if fl.nullable && isNoneV v then .ok ()
      else if unionTypeOk env c v then .ok () else verr "expected union type" := by
  unfold validateTypeOnly; rfl

theorem validateTypeOnly_of_not_user {t : PTy} (v : PyVal) (h : isUserTyC08 t = false) :
    validateTypeOnly env t v = if t.flags.nullable && isNoneV v then .ok () else crash "AttributeError" := by
  unfold validateTypeOnly
  cases t with
  | struct | tree | union => cases h
  | _ => rfl

theorem validateTypeOnly_nullable_none {t : PTy} (h : t.flags.nullable = true) :
    validateTypeOnly env t .none = .ok () := by
  unfold validateTypeOnly; simp only [h, Bool.and_self, if_true]

end validateTypeOnly

section validB
variable (E : Ext) (env : Env)

theorem validB_nullable_none {t : PTy} (h : t.flags.nullable = true) : validB E env t .none = true := by
  unfold validB; simp only [h, isNoneV, Bool.and_self, if_true]

theorem validB_prim (t : PTy) (v : PyVal) (hp : isPrimTy t = true) :
    validB E env t v = if t.flags.nullable && isNoneV v then true else validPrim E t v := by
  unfold validB
  cases t with
  | bool | int | float | str | bytes | ts | void => rfl
  | _ => cases hp

theorem validB_list_list (fl : Flags) (item : PTy) (a b : Option Nat) (xs : List PyVal) :
    validB E env (.list fl item a b) (.list xs) =
      (leOpt a xs.length && geOpt b xs.length && validList E env item xs) := by
  unfold validB
  simp only [isNoneV, Bool.and_false, Bool.false_eq_true, if_false]

theorem validB_map_dict (fl : Flags) (kt vt : PTy) (kvs : List (PyVal × PyVal)) :
    validB E env (.map fl kt vt) (.dict kvs) = validDict E env kt vt kvs := by
  unfold validB
  simp only [isNoneV, Bool.and_false, Bool.false_eq_true, if_false]

theorem validB_struct_struct (fl : Flags) (cls c : String) (slots : List (String × PyVal)) :
    validB E env (.struct fl cls) (.struct c slots) =
      (env.structSubclass c cls && (publicFields env c).all (fun f => attrHas f slots) &&
        validSlots E env (publicFields env c) slots) := by
  unfold validB
  simp only [isNoneV, Bool.and_false, Bool.false_eq_true, if_false]

theorem validB_tree_struct (fl : Flags) (cls c : String) (slots : List (String × PyVal)) :
    validB E env (.tree fl cls) (.struct c slots) =
      ((leafTag? env cls c).isSome && env.structSubclass c cls &&
        (publicFields env c).all (fun f => attrHas f slots) && validSlots E env (publicFields env c) slots) := by
  unfold validB
  simp only [isNoneV, Bool.and_false, Bool.false_eq_true, if_false]

theorem validB_union_union (fl : Flags) (cls c tag : String) (x : PyVal) :
    validB E env (.union fl cls) (.union c tag x) =
      (env.unionSubclass cls c && match publicTag? env cls tag with
        | some td => if isVoidT td.ty then isNoneV x else validB E env td.ty x
        | none => false) := by
  conv => lhs; unfold validB
  simp only [isNoneV, Bool.and_false, Bool.false_eq_true, if_false]
  rfl

theorem validB_of_withFlags_empty {t : PTy} {v : PyVal}
    (h : validB E env (t.withFlags {}) v = true) : validB E env t v = true := by
  unfold validB at h ⊢
  rw [flags_withFlags] at h
  split
  · rfl
  · cases t <;> first | exact h | exact (validPrim_withFlags E _ {} v).symm.trans h

end validB

theorem attrHas_eq (f : FieldDef) (slots : List (String × PyVal)) :
    attrHas f slots = ((lookupSlot f.name slots).isSome || (f.attrNullable || f.dflt.isSome)) := by
  unfold attrHas attrGet
  cases lookupSlot f.name slots <;> cases f.attrNullable <;> simp

theorem attrHas_congr (f : FieldDef) (s1 s2 : List (String × PyVal)) (h : lookupSlot f.name s1 = lookupSlot f.name s2) :
    attrHas f s1 = attrHas f s2 := by
  rw [attrHas_eq, attrHas_eq, h]

theorem attrSet_eq (E : Ext) (env : Env) (f : FieldDef) (slots : List (String × PyVal)) (x : PyVal) :
    attrSet E env f slots x =
      if f.attrNullable && isNoneV x then .ok (delSlot f.name slots)
      else if f.attrUserDefined then (validateTypeOnly env f.ty x).map fun _ => setSlot f.name x slots
      else (validate E env f.ty x).map fun x' => setSlot f.name x' slots := by
  unfold attrSet; rfl

theorem mkUnion_eq (E : Ext) (env : Env) (cls tag : String) (x : PyVal) {u : UnionDef} (hu : env.union? cls = some u)
    {t : PTy} (hc : u.ctorValidator tag = some t) :
    mkUnion E env cls tag x =
      if !t.flags.nullable && isVoidT t then
        (if isNoneV x then .ok (.union cls tag .none) else verr "void member must have None value")
      else if !t.flags.nullable && isUserTyC08 t then (validateTypeOnly env t x).map fun _ => .union cls tag x
      else (validate E env t x).map fun _ => .union cls tag x := by
  unfold mkUnion
  simp only [hu, hc]
  cases x <;> rfl  -- the Void branch matches on `x`

theorem mkUnion_invalid_tag (E : Ext) (env : Env) (cls tag : String) (x : PyVal) {u : UnionDef}
    (hu : env.union? cls = some u) (hc : u.ctorValidator tag = none) :
    mkUnion E env cls tag x = verr "invalid tag" := by
  unfold mkUnion
  simp only [hu, hc]

theorem hasDefault_nullable (env : Env) {t : PTy} (h : t.flags.nullable = true) : hasDefault env t = true := by
  simp only [hasDefault, h, Bool.true_or]

theorem getDefault_nullable {t : PTy} (h : t.flags.nullable = true) : getDefault t = .none := by
  simp only [getDefault, h, if_true]

theorem tyWF_struct {env : Env} {fl : Flags} {c : String} (h : tyWF env (.struct fl c) = true) :
    ∃ s, env.struct? c = some s ∧ s.subtypes.isNone = true := by
  unfold tyWF at h
  cases hs : env.struct? c with
  | none => rw [hs] at h; cases h
  | some s => rw [hs] at h; exact ⟨s, rfl, h⟩

theorem tyWF_tree {env : Env} {fl : Flags} {c : String} (h : tyWF env (.tree fl c) = true) :
    ∃ s, env.struct? c = some s ∧ s.subtypes.isSome = true := by
  unfold tyWF at h
  cases hs : env.struct? c with
  | none => rw [hs] at h; cases h
  | some s => rw [hs] at h; exact ⟨s, rfl, h⟩

theorem tyWF_union {env : Env} {fl : Flags} {c : String} (h : tyWF env (.union fl c) = true) :
    ∃ u, env.union? c = some u :=
  Option.isSome_iff_exists.mp (by simpa only [tyWF] using h)

theorem tyWF_map {env : Env} {fl : Flags} {k v : PTy} (h : tyWF env (.map fl k v) = true) :
    isPrimTy k = true ∧ tyWF env k = true ∧ tyWF env v = true := by
  simp only [tyWF, Bool.and_eq_true] at h
  cases k <;> first | exact ⟨rfl, rfl, h.2⟩ | cases h.1

theorem struct?_some {env : Env} {c : String} {s : StructDef} (h : env.struct? c = some s) :
    s ∈ env.structs ∧ s.cls = c :=
  find?_key_some StructDef.cls h

theorem union?_some {env : Env} {c : String} {u : UnionDef} (h : env.union? c = some u) :
    u ∈ env.unions ∧ u.cls = c :=
  find?_key_some UnionDef.cls h

theorem envWF_struct {env : Env} (hwf : envWF env = true) {c : String} {s : StructDef}
    (h : env.struct? c = some s) : s.wf env = true := by
  simp only [envWF, Bool.and_eq_true, List.all_eq_true] at hwf
  exact hwf.1.2 s (struct?_some h).1

theorem envWF_union {env : Env} (hwf : envWF env = true) {c : String} {u : UnionDef}
    (h : env.union? c = some u) : u.wf env = true := by
  simp only [envWF, Bool.and_eq_true, List.all_eq_true] at hwf
  exact hwf.2 u (union?_some h).1

theorem StructDef.wf_parts {env : Env} {s : StructDef} (h : s.wf env = true) :
    (match s.levels.getLast? with | some l => l.cls == s.cls | none => false) = true ∧
    nodupS (s.allAttrs.map (·.name)) = true ∧
    (∀ f ∈ s.allAttrs, tyWF env f.ty = true) ∧
    (∀ subs, s.subtypes = some subs →
      nodupS (subs.map fun (_, c, _) => c) = true ∧
      ∀ e ∈ subs, ∃ d, env.struct? e.2.1 = some d ∧
        levelsPrefix s.levels d.levels = true ∧ d.subtypes.isSome = e.2.2) := by
  simp only [StructDef.wf, Bool.and_eq_true, List.all_eq_true] at h
  obtain ⟨⟨⟨⟨⟨h1, h2⟩, _⟩, h4⟩, _⟩, h6⟩ := h
  refine ⟨h1, h2, fun f hf => (h4 f hf).1, ?_⟩
  intro subs hs
  simp only [hs, Bool.and_eq_true, List.all_eq_true] at h6
  refine ⟨h6.1.1, ?_⟩
  intro e he
  obtain ⟨tags, c, isTree⟩ := e
  have g6 := (h6.1.2 _ he).2
  cases hd : env.struct? c with
  | none => simp [hd] at g6
  | some d =>
    simp only [hd, Bool.and_eq_true, beq_iff_eq] at g6
    exact ⟨d, rfl, g6.1, g6.2⟩

theorem StructDef.wf_nodupS {env : Env} {s : StructDef} (h : s.wf env = true) :
    nodupS (s.allAttrs.map (·.name)) = true :=
  (StructDef.wf_parts h).2.1

theorem StructDef.wf_tyWF {env : Env} {s : StructDef} (h : s.wf env = true) {f : FieldDef} (hf : f ∈ s.allAttrs) :
    tyWF env f.ty = true :=
  (StructDef.wf_parts h).2.2.1 f hf

theorem UnionDef.wf_parts {env : Env} {u : UnionDef} (h : u.wf env = true) :
    (match u.levels.getLast? with | some l => l.cls == u.cls | none => false) = true ∧
    nodupS ((u.levels.flatMap (·.tags)).map (·.name)) = true ∧
    (∀ t ∈ u.levels.flatMap (·.tags), tyWF env t.ty = true) ∧
    (∀ n, u.catchAll = some n → ∃ t, findTag n (u.levels.flatMap (·.tags)) = some t ∧ t.omitted = none ∧
        isVoidTy t.ty = true) := by
  simp only [UnionDef.wf, Bool.and_eq_true, List.all_eq_true] at h
  obtain ⟨⟨⟨⟨h1, h2⟩, h3⟩, _⟩, h5⟩ := h
  refine ⟨h1, h2, fun t ht => (h3 t ht).2, ?_⟩
  intro n hn
  simp only [hn] at h5
  cases hf : findTag n (u.levels.flatMap (·.tags)) with
  | none => simp [hf] at h5
  | some t =>
    simp only [hf, Bool.and_eq_true, Option.isNone_iff_eq_none] at h5
    exact ⟨t, rfl, h5.1, h5.2⟩

theorem UnionDef.wf_nodupS {env : Env} {u : UnionDef} (h : u.wf env = true) :
    nodupS ((u.levels.flatMap (·.tags)).map (·.name)) = true :=
  (UnionDef.wf_parts h).2.1

theorem UnionDef.wf_tyWF {env : Env} {u : UnionDef} (h : u.wf env = true) {t : TagDef}
    (ht : t ∈ u.levels.flatMap (·.tags)) : tyWF env t.ty = true :=
  (UnionDef.wf_parts h).2.2.1 t ht

theorem StructDef.cls_mem_ancestors {env : Env} {s : StructDef} (h : s.wf env = true) :
    s.ancestors.contains s.cls = true := by
  have h1 := (StructDef.wf_parts h).1
  cases hl : s.levels.getLast? with
  | none => rw [hl] at h1; cases h1
  | some l =>
    rw [hl] at h1
    simp only [StructDef.ancestors, List.contains_eq_mem, List.mem_map, decide_eq_true_eq]
    exact ⟨l, List.mem_of_getLast? hl, beq_iff_eq.1 h1⟩

theorem UnionDef.cls_mem_ancestors {env : Env} {u : UnionDef} (h : u.wf env = true) :
    u.ancestors.contains u.cls = true := by
  have h1 := (UnionDef.wf_parts h).1
  cases hl : u.levels.getLast? with
  | none => rw [hl] at h1; cases h1
  | some l =>
    rw [hl] at h1
    simp only [UnionDef.ancestors, List.contains_eq_mem, List.mem_map, decide_eq_true_eq]
    exact ⟨l, List.mem_of_getLast? hl, beq_iff_eq.1 h1⟩

theorem StructDef.wf_fields {env : Env} {s : StructDef} (h : s.wf env = true) {f : FieldDef} (hf : f ∈ s.allAttrs) :
    f.name.startsWith "." = false ∧ isVoidT f.ty = false := by
  simp only [StructDef.wf, Bool.and_eq_true, List.all_eq_true, Bool.not_eq_true'] at h
  -- `StructDef.wf`, clauses 4 (not Void) and 3 (names not wire-reserved)
  have hv := (h.1.1.2 f hf).2
  refine ⟨(h.1.1.1.2 f hf).1, ?_⟩
  generalize f.ty = ty at hv
  cases ty <;> first | rfl | cases hv

theorem StructDef.subtypes_tags_inj {env : Env} {s : StructDef} (h : s.wf env = true)
    {subs : List (List String × String × Bool)} (hs : s.subtypes = some subs) :
    ∀ e₁ ∈ subs, ∀ e₂ ∈ subs, e₁.1 = e₂.1 → e₁ = e₂ := by
  simp only [StructDef.wf, hs, Bool.and_eq_true] at h
  intro e₁ he₁ e₂ he₂ e
  -- `h.2.2`: the last clause, distinct tag paths
  exact key_inj_of_nodup _ ((nodupS_iff _).1 h.2.2) e₁ he₁ e₂ he₂ (by rw [e])

theorem UnionDef.wf_tags {env : Env} {u : UnionDef} (h : u.wf env = true) {t : TagDef}
    (ht : t ∈ u.levels.flatMap (·.tags)) : t.name.startsWith "." = false := by
  simp only [UnionDef.wf, Bool.and_eq_true, List.all_eq_true, Bool.not_eq_true'] at h
  -- clause 3 of `UnionDef.wf`
  exact (h.1.1.2 t ht).1.1

theorem structSubclass_self {env : Env} (hwf : envWF env = true) {c : String} {s : StructDef}
    (hs : env.struct? c = some s) : env.structSubclass c c = true := by
  have := StructDef.cls_mem_ancestors (envWF_struct hwf hs)
  rw [(struct?_some hs).2] at this
  simp only [Env.structSubclass, hs, this]

theorem unionSubclass_self {env : Env} (hwf : envWF env = true) {c : String} {u : UnionDef}
    (hu : env.union? c = some u) : env.unionSubclass c c = true := by
  have := UnionDef.cls_mem_ancestors (envWF_union hwf hu)
  rw [(union?_some hu).2] at this
  simp only [Env.unionSubclass, hu, this]

theorem levelsPrefix_cls : ∀ {l1 l2 : List Level}, levelsPrefix l1 l2 = true → ∀ l ∈ l1, l.cls ∈ l2.map (·.cls)
  | [], _, _, l, hl => by cases hl
  | a :: as, [], h, _, _ => by simp [levelsPrefix] at h
  | a :: as, b :: bs, h, l, hl => by
    simp only [levelsPrefix, Bool.and_eq_true, Level.sameAs, beq_iff_eq] at h
    rcases List.mem_cons.mp hl with rfl | hl'
    · simp [h.1.1]
    · exact List.mem_cons_of_mem _ (levelsPrefix_cls h.2 l hl')

theorem subtype_entry_wf {env : Env} {s : StructDef} (h : s.wf env = true) {e : List String × String × Bool}
    (he : e ∈ s.subtypes.getD []) :
    ∃ d, env.struct? e.2.1 = some d ∧ levelsPrefix s.levels d.levels = true ∧ d.subtypes.isSome = e.2.2 := by
  cases hsub : s.subtypes with
  | none => simp [hsub] at he
  | some subs => exact ((StructDef.wf_parts h).2.2.2 subs hsub).2 e (by simpa [hsub] using he)

theorem find?_cls_of_leafTag {env : Env} {cls c tag : String} {s : StructDef} (hs : env.struct? cls = some s)
    (h : leafTag? env cls c = some tag) :
    (s.subtypes.getD []).find? (fun (_, sc, _) => sc == c) = some ([tag], c, false) := by
  simp only [leafTag?, hs] at h
  cases hf : (s.subtypes.getD []).find? (fun (_, sc, _) => sc == c) with
  | none => simp [hf] at h
  | some e =>
    obtain ⟨tags, sc, isTree⟩ := e
    have hc : sc = c := by simpa using List.find?_some hf
    subst hc
    simp only [hf] at h
    split at h <;> simp_all

/-- the entry `leafTag?` finds by class is the one the decoder's search by tag finds -/
theorem find?_tag_of_leafTag {env : Env} (hwf : envWF env = true) {cls c tag : String} {s : StructDef}
    (hs : env.struct? cls = some s) (h : leafTag? env cls c = some tag) :
    (s.subtypes.getD []).find? (fun (x : List String × String × Bool) =>
      match x with | (tags, _, _) => tags == [tag]) = some ([tag], c, false) := by
  have hm := List.mem_of_find?_eq_some (find?_cls_of_leafTag hs h)
  cases hsub : s.subtypes with
  | none => rw [hsub] at hm; simp at hm
  | some subs =>
    rw [hsub] at hm
    simp only [Option.getD_some] at hm ⊢
    have huniq := StructDef.subtypes_tags_inj (envWF_struct hwf hs) hsub
    cases hf : subs.find? (fun (x : List String × String × Bool) =>
        match x with | (tags, _, _) => tags == [tag]) with
    | none =>
      have := List.find?_eq_none.1 hf _ hm
      simp at this
    | some e =>
      have h1 := List.find?_some hf
      have h2 := List.mem_of_find?_eq_some hf
      obtain ⟨tags, c', isTree⟩ := e
      simp only [beq_iff_eq] at h1
      rw [huniq _ h2 _ hm h1]

theorem leafTag_inv {env : Env} {root a tag : String} (h : leafTag? env root a = some tag) :
    ∃ s, env.struct? root = some s ∧ ([tag], a, false) ∈ s.subtypes.getD [] := by
  cases hs : env.struct? root with
  | none => simp [leafTag?, hs] at h
  | some s => exact ⟨s, rfl, List.mem_of_find?_eq_some (find?_cls_of_leafTag hs h)⟩

theorem subs_class_inj {env : Env} {s : StructDef} (h : s.wf env = true) {e e' : List String × String × Bool}
    (he : e ∈ s.subtypes.getD []) (he' : e' ∈ s.subtypes.getD []) (hc : e.2.1 = e'.2.1) : e = e' := by
  cases hsub : s.subtypes with
  | none => simp [hsub] at he
  | some subs =>
    simp only [hsub, Option.getD_some] at he he'
    exact key_inj_of_nodupS (fun (e : List String × String × Bool) => e.2.1) subs
      ((StructDef.wf_parts h).2.2.2 subs hsub).1 e e' he he' hc

theorem structSubclass_entry {env : Env} (hwf : envWF env = true) {root : String} {s : StructDef}
    (hs : env.struct? root = some s) {e : List String × String × Bool} (he : e ∈ s.subtypes.getD []) :
    env.structSubclass e.2.1 root = true ∧ ∃ d, env.struct? e.2.1 = some d := by
  obtain ⟨d, hd, hpre, _⟩ := subtype_entry_wf (envWF_struct hwf hs) he
  have hself := StructDef.cls_mem_ancestors (envWF_struct hwf hs)
  rw [(struct?_some hs).2] at hself
  simp only [StructDef.ancestors, List.contains_eq_mem, List.mem_map, decide_eq_true_eq] at hself
  obtain ⟨l, hl, hlc⟩ := hself
  have := levelsPrefix_cls hpre l hl
  refine ⟨?_, d, hd⟩
  simp [Env.structSubclass, hd, StructDef.ancestors, hlc ▸ this]

theorem structSubclass_leaf {env : Env} (hwf : envWF env = true) {root a tag : String}
    (h : leafTag? env root a = some tag) : env.structSubclass a root = true := by
  obtain ⟨s, hs, he⟩ := leafTag_inv h
  exact (structSubclass_entry hwf hs he).1

theorem leafTag_of_entry {env : Env} (hwf : envWF env = true) {root tag sc : String} {s : StructDef}
    (hs : env.struct? root = some s) (he : ([tag], sc, false) ∈ s.subtypes.getD []) :
    leafTag? env root sc = some tag := by
  unfold leafTag?
  simp only [hs]
  cases hf : (s.subtypes.getD []).find? (fun x => match x with | (_, sc', _) => sc' == sc) with
  | none =>
    have := List.find?_eq_none.mp hf _ he
    simp at this
  | some e' =>
    have hm := List.mem_of_find?_eq_some hf
    have hp := List.find?_some hf
    obtain ⟨t', c', tr'⟩ := e'
    simp only [beq_iff_eq] at hp
    have := subs_class_inj (envWF_struct hwf hs) hm he (by simpa using hp)
    cases this
    rfl

theorem fieldsSpec_nil (s : StructDef) :
    s.fieldsSpec [] = (s.levels.flatMap (·.fields)).filter (·.omitted == none) := by
  unfold StructDef.fieldsSpec
  congr 1; funext f; cases f.omitted <;> rfl

theorem tagsSpec_nil (u : UnionDef) : u.tagsSpec [] = (u.levels.flatMap (·.tags)).filter (·.omitted == none) := by
  unfold UnionDef.tagsSpec
  congr 1; funext t; cases t.omitted <;> rfl

theorem publicFields_eq {env : Env} {c : String} {s : StructDef} (h : env.struct? c = some s) :
    publicFields env c = s.fieldsSpec [] := by
  unfold publicFields; rw [h]

theorem publicFields_none {env : Env} {c : String} (h : env.struct? c = none) : publicFields env c = [] := by
  simp only [publicFields, h]

theorem fieldsSpec_sublist (s : StructDef) (perms : List String) : (s.fieldsSpec perms).Sublist s.allAttrs :=
  List.filter_sublist

theorem ne_tag_of_not_dot {s : String} (h : s.startsWith "." = false) : s ≠ ".tag" := by
  intro h2; subst h2; simp at h

theorem not_startsWith_tag_of_not_dot (s : String) (h : s.startsWith "." = false) :
    s.startsWith ".tag" = false := by
  rw [String.startsWith_string_eq_false_iff] at *
  intro hp
  apply h
  refine List.IsPrefix.trans ?_ hp
  simp

theorem publicFields_facts {env : Env} (hwf : envWF env = true) (c : String) :
    ((publicFields env c).map (·.name)).Nodup ∧
    (∀ f ∈ publicFields env c, f.name.startsWith "." = false ∧ tyWF env f.ty = true ∧ isVoidT f.ty = false) := by
  cases h : env.struct? c with
  | none => simp [publicFields_none h]
  | some s =>
    have hw := envWF_struct hwf h
    obtain ⟨-, hnd, hty, -⟩ := StructDef.wf_parts hw
    rw [publicFields_eq h]
    refine ⟨((nodupS_iff _).1 hnd).sublist ((fieldsSpec_sublist s []).map _), fun f hf => ?_⟩
    have hm := (fieldsSpec_sublist s []).subset hf
    exact ⟨(StructDef.wf_fields hw hm).1, hty f hm, (StructDef.wf_fields hw hm).2⟩

theorem publicFields_nodup {env : Env} (hwf : envWF env = true) (c : String) :
    ((publicFields env c).map (·.name)).Nodup :=
  (publicFields_facts hwf c).1

theorem publicFields_tyWF {env : Env} (hwf : envWF env = true) {c : String} {f : FieldDef}
    (hf : f ∈ publicFields env c) : tyWF env f.ty = true :=
  ((publicFields_facts hwf c).2 f hf).2.1

/-- why `t` has a default, and which. At a struct `hasDefault` asks that no field at all be required; the relation keeps
the public ones, which is what the validity of the empty instance needs. -/
inductive DefaultOf (env : Env) : PTy → PyVal → Prop
  | nullable {t : PTy} : t.flags.nullable = true → DefaultOf env t .none
  | void {fl : Flags} : fl.nullable = false → DefaultOf env (.void fl) .none
  | struct {fl : Flags} {cls : String} {s : StructDef} : fl.nullable = false → env.struct? cls = some s →
      (∀ f ∈ publicFields env cls, attrHas f [] = true) → DefaultOf env (.struct fl cls) (.struct cls [])

theorem DefaultOf.of_hasDefault {env : Env} {t : PTy} (hd : hasDefault env t = true) :
    DefaultOf env t (getDefault t) := by
  by_cases hn : t.flags.nullable = true
  · rw [getDefault_nullable hn]; exact .nullable hn
  · have hn : t.flags.nullable = false := by simpa using hn
    cases t with
    | void fl =>
      simp only [PTy.flags] at hn
      simp only [getDefault, PTy.flags, hn, Bool.false_eq_true, if_false]; exact .void hn
    | struct fl cls =>
      simp only [PTy.flags] at hn
      simp only [hasDefault, PTy.flags, hn, Bool.false_or] at hd
      simp only [getDefault, PTy.flags, hn, Bool.false_eq_true, if_false]
      cases hs : env.struct? cls with
      | none => simp [hs] at hd
      | some s =>
        rw [hs] at hd
        refine .struct hn hs fun f hf => ?_
        rw [publicFields_eq hs] at hf
        have := List.all_eq_true.1 hd f ((fieldsSpec_sublist s []).subset hf)
        rw [attrHas_eq]; simpa [lookupSlot] using this
    | _ => simp [hasDefault, PTy.flags] at hn hd; simp [hn] at hd

theorem publicTag_facts {env : Env} (hwf : envWF env = true) {cls tag : String} {td : TagDef}
    (h : publicTag? env cls tag = some td) :
    td.name = tag ∧ tag.startsWith "." = false ∧ tyWF env td.ty = true := by
  unfold publicTag? at h
  cases hu : env.union? cls with
  | none => rw [hu] at h; cases h
  | some u =>
    rw [hu] at h
    have hw := envWF_union hwf hu
    obtain ⟨hm, hn⟩ := findTag_some h
    have hm : td ∈ u.levels.flatMap (·.tags) := (List.mem_filter.1 hm).1
    exact ⟨hn, hn ▸ UnionDef.wf_tags hw hm, UnionDef.wf_tyWF hw hm⟩

theorem publicTag_tyWF {env : Env} (hwf : envWF env = true) {cls tag : String} {td : TagDef}
    (h : publicTag? env cls tag = some td) : tyWF env td.ty = true :=
  (publicTag_facts hwf h).2.2

theorem publicTag_of_public (env : Env) (hwf : envWF env = true) (cls : String) (u : UnionDef)
    (hu : env.union? cls = some u) (td : TagDef) (hm : td ∈ u.levels.flatMap (·.tags)) (ho : td.omitted = none) :
    publicTag? env cls td.name = some td := by
  have hnd := UnionDef.wf_nodupS (envWF_union hwf hu)
  simp only [publicTag?, hu]
  have hin : td ∈ u.tagsSpec [] := by
    simp only [UnionDef.tagsSpec, List.mem_filter]
    exact ⟨hm, by simp [ho]⟩
  exact findTag_of_mem (((nodupS_iff _).1 hnd).sublist (List.filter_sublist.map _)) hin

namespace Compat

theorem find_name_isSome {fields : List FieldDef} {g : FieldDef} (h : g ∈ fields) :
    (fields.find? (·.name == g.name)).isSome = true :=
  List.find?_isSome.2 ⟨g, h, beq_self_eq_true _⟩

theorem isUserTyC08_withFlags (t : PTy) (g : Flags) : isUserTyC08 (t.withFlags g) = isUserTyC08 t := by cases t <;> rfl

theorem isUserTyC08_prim {t : PTy} (h : isPrimTy t = true) : isUserTyC08 t = false := by cases t <;> first | rfl | cases h

theorem structTypeOk_inv {env : Env} {c : String} {v : PyVal} (h : structTypeOk env c v = true) :
    ∃ sc slots, v = .struct sc slots := by
  cases v <;> first | exact ⟨_, _, rfl⟩ | cases h

theorem unionTypeOk_inv {env : Env} {c : String} {v : PyVal} (h : unionTypeOk env c v = true) :
    ∃ uc tag p, v = .union uc tag p := by
  cases v <;> first | exact ⟨_, _, _, rfl⟩ | cases h

theorem jsonLookup_of_mem {k : String} {x : JVal} {kvs : List (String × JVal)}
    (hnd : nodupS (kvs.map (·.1)) = true) (h : (k, x) ∈ kvs) : jsonLookup k kvs = some x := by
  rw [jsonLookup_eq_find?, find?_key_of_mem (·.1) ((nodupS_iff _).1 hnd) h]; rfl

theorem publicFields_nodupS {env : Env} (hwf : envWF env = true) (c : String) :
    nodupS ((publicFields env c).map (·.name)) = true :=
  (nodupS_iff _).2 (publicFields_nodup hwf c)

theorem publicFields_ne_tag {env : Env} (hwf : envWF env = true) (c : String) : ∀ f ∈ publicFields env c, f.name ≠ ".tag" :=
  fun f hf => ne_tag_of_not_dot ((publicFields_facts hwf c).2 f hf).1

theorem publicTag_ne_dotTag {env : Env} (hwf : envWF env = true) {cls tag : String} {td : TagDef}
    (h : publicTag? env cls tag = some td) : tag ≠ ".tag" :=
  ne_tag_of_not_dot (publicTag_facts hwf h).2.1

end Compat

end StoneVerif.Rt
