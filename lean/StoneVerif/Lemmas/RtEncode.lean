import StoneVerif.Lemmas.RtWire
import StoneVerif.Model.Rt.SpecC13
/-!
`encode` for any caller and with or without redaction (for C05 also without either, e.g. `encode_struct`), in three
layers, innermost first: the object written for a struct, field by field (`assembleStruct_ok_iff`); the wrappers of the validator object (`encode_flags`, the same for
every type), which leave `encode` at the bare validator `t.withFlags {}`; the bare validators, primitives, lists and
maps after `validate`, struct, enumerated tree and union after their own first check (`encodeGate`, `unionTypeOk`).
-/
namespace StoneVerif.Rt

theorem isNone_union (c tag : String) (p : PyVal) : isNone (.union c tag p) = false := rfl
theorem flags_union (fl : Flags) (c : String) : (PTy.union fl c).flags = fl := rfl
theorem withFlags_union (fl fl' : Flags) (c : String) : (PTy.union fl c).withFlags fl' = .union fl' c := rfl

theorem lookupEnc_eq_find? (k : String) (l : List (String × R JVal)) :
    lookupEnc k l = (l.find? (·.1 == k)).map (·.2) := by
  induction l with
  | nil => rfl
  | cons kv rest ih =>
    obtain ⟨k', v⟩ := kv
    simp only [lookupEnc, List.find?_cons, ih]
    cases k' == k <;> rfl

theorem encodeSlots_eq_mapSlots (E : Ext) (env : Env) (perms : List String) (redact : Bool) (fields : List FieldDef)
    (slots : List (String × PyVal)) :
    encodeSlots E env perms redact fields slots =
      mapSlots (fun f x => encode E env perms redact false f.ty x) fields slots := by
  induction slots with
  | nil => rfl
  | cons kx rest ih =>
    obtain ⟨k, x⟩ := kx
    rw [encodeSlots.eq_def]
    simp only [mapSlots, List.filterMap_cons, isNone_eq_isNoneV] at ih ⊢
    cases fields.find? (·.name == k) with
    | none => simpa only [Option.bind_none] using ih
    | some f => cases isNoneV x <;> simp only [Option.bind_some, if_true, Bool.false_eq_true, if_false, ih]

theorem lookupEnc_encodeSlots (E : Ext) (env : Env) (perms : List String) (redact : Bool) (fields : List FieldDef)
    (slots : List (String × PyVal)) (k : String) :
    lookupEnc k (encodeSlots E env perms redact fields slots) =
      (fields.find? (·.name == k)).bind fun f =>
        (firstSet k slots).map fun x => encode E env perms redact false f.ty x := by
  rw [encodeSlots_eq_mapSlots, lookupEnc_eq_find?, find?_mapSlots]

/-- the member `encode_struct` writes for a field, given the encoded slots -/
def okEntry (enc : List (String × R JVal)) (f : FieldDef) : Option (String × JVal) :=
  match lookupEnc f.name enc with
  | some (.ok j) => some (f.name, j)
  | _ => none

theorem assembleStruct_ok_iff {fields : List FieldDef} {slots : List (String × PyVal)} {enc : List (String × R JVal)}
    {kvs : List (String × JVal)} :
    assembleStruct fields slots enc = .ok kvs ↔
      (∀ f ∈ fields, attrHas f slots = true ∧ ∀ e, lookupEnc f.name enc ≠ some (.error e)) ∧
        kvs = fields.filterMap (okEntry enc) := by
  induction fields generalizing kvs with
  | nil =>
    simp only [assembleStruct, Except.ok.injEq, List.filterMap_nil, List.not_mem_nil, false_imp_iff, implies_true,
      true_and]
    exact eq_comm
  | cons f rest ih =>
    rw [assembleStruct.eq_def]
    simp only [List.forall_mem_cons, List.filterMap_cons, attrHas, okEntry, ne_eq] at ih ⊢
    cases attrGet f slots with
    | none => simp [verr]
    | some _ =>
      simp only [Option.isSome_some, true_and]
      cases hl : lookupEnc f.name enc with
      | none => simp only [ih, reduceCtorEq, not_false_eq_true, implies_true, true_and]
      | some r =>
        cases r with
        | error e => simp [bind, Except.bind]
        | ok j =>
          simp only [Option.some.injEq, reduceCtorEq, not_false_eq_true, implies_true, true_and]
          cases hm : assembleStruct rest slots enc with
          | error e =>
            simp only [bind, Except.bind, reduceCtorEq, false_iff, not_and]
            intro h
            have := ih.mpr ⟨h, rfl⟩
            rw [hm] at this
            cases this
          | ok more =>
            obtain ⟨h1, rfl⟩ := ih.mp hm
            simp only [bind, Except.bind, pure, Except.pure, Except.ok.injEq]
            exact ⟨fun h => ⟨h1, h.symm⟩, fun h => h.2.symm⟩

theorem mem_encoded_fields {E : Ext} {env : Env} {perms : List String} {redact : Bool} {fields : List FieldDef}
    {slots : List (String × PyVal)} {kvs : List (String × JVal)}
    (h : assembleStruct fields slots (encodeSlots E env perms redact fields slots) = .ok kvs) {k : String} {j : JVal}
    (hkj : (k, j) ∈ kvs) :
    ∃ g x, fields.find? (·.name == k) = some g ∧ firstSet k slots = some x ∧
      encode E env perms redact false g.ty x = .ok j := by
  obtain ⟨-, rfl⟩ := assembleStruct_ok_iff.mp h
  obtain ⟨f, -, hf⟩ := List.mem_filterMap.mp hkj
  unfold okEntry at hf
  split at hf
  · rename_i hl
    cases hf
    rw [lookupEnc_encodeSlots] at hl
    obtain ⟨g, hg, hx⟩ := Option.bind_eq_some_iff.mp hl
    obtain ⟨x, hx, he⟩ := Option.map_eq_some_iff.mp hx
    exact ⟨g, x, hg, hx, he⟩
  · cases hf

theorem encoded_fields_keys {E : Ext} {env : Env} {perms : List String} {redact : Bool} {fields : List FieldDef}
    {slots : List (String × PyVal)} {kvs : List (String × JVal)}
    (h : assembleStruct fields slots (encodeSlots E env perms redact fields slots) = .ok kvs) :
    ∀ k ∈ kvs.map (·.1), k ∈ fields.map (·.name) := by
  intro k hk
  obtain ⟨⟨k', j⟩, hkj, rfl⟩ := List.mem_map.1 hk
  obtain ⟨g, _, hg, -⟩ := mem_encoded_fields h hkj
  exact List.mem_map.2 ⟨g, List.mem_of_find?_eq_some hg, by simpa using List.find?_some hg⟩

theorem encoded_fields_has {E : Ext} {env : Env} {perms : List String} {redact : Bool} {fields : List FieldDef}
    {slots : List (String × PyVal)} {kvs : List (String × JVal)}
    (h : assembleStruct fields slots (encodeSlots E env perms redact fields slots) = .ok kvs)
    {f : FieldDef} (hf : f ∈ fields) (hx : (firstSet f.name slots).isSome = true) : f.name ∈ kvs.map (·.1) := by
  obtain ⟨hall, rfl⟩ := assembleStruct_ok_iff.mp h
  obtain ⟨x, hx⟩ := Option.isSome_iff_exists.mp hx
  obtain ⟨g, hg⟩ := Option.isSome_iff_exists.mp
    (List.find?_isSome (p := fun g : FieldDef => g.name == f.name) |>.mpr ⟨f, hf, beq_self_eq_true _⟩)
  have hl : lookupEnc f.name (encodeSlots E env perms redact fields slots) =
      some (encode E env perms redact false g.ty x) := by
    rw [lookupEnc_encodeSlots, hg, hx]; rfl
  -- the loop succeeded, so the encoding it found for `f` did
  cases he : encode E env perms redact false g.ty x with
  | error e => exact absurd (hl.trans (congrArg some he)) ((hall f hf).2 e)
  | ok j => exact List.mem_map.mpr ⟨(f.name, j), List.mem_filterMap.mpr ⟨f, hf, by rw [okEntry, hl, he]⟩, rfl⟩

theorem validateWithPermissions_withFlags (E : Ext) (env : Env) (t : PTy) (fl : Flags) (perms : List String)
    (v : PyVal) :
    validateWithPermissions E env (t.withFlags fl) perms v = validateWithPermissions E env t perms v := by
  cases t <;> simp only [validateWithPermissions, PTy.withFlags]

/-- What `encode_sub` does with the wrappers, whatever the type: the redactor of the outermost object replaces the value
unvalidated; under a `Nullable` anything but None is validated, then redacted if the wrapped object has a redactor. -/
theorem encode_flags (E : Ext) (env : Env) (perms : List String) (redact norm : Bool) (t : PTy) (v : PyVal) :
    encode E env perms redact norm t v =
      match (if redact then t.outerRedactor else none) with
      | some r => redactValue E r v
      | none =>
        if t.flags.nullable && isNone v then .ok .null else
        (if t.flags.nullable then validate E env t v else .ok v) >>= fun _ =>
        match (if redact && t.flags.nullable then t.flags.redactInner else none) with
        | some r => redactValue E r v
        | none => encode E env perms redact norm (t.withFlags {}) v := by
  rw [encode.eq_def]
  cases h1 : (if redact = true then (if t.flags.nullable = true then t.flags.redactOuter else t.flags.redactInner)
      else none) with
  | some r => simp only [h1, PTy.outerRedactor]
  | none =>
    by_cases h2 : (t.flags.nullable && isNone v) = true
    · simp only [h1, h2, PTy.outerRedactor, if_true]
    · cases h3 : (if t.flags.nullable = true then validate E env t v else .ok v) with
      | error e => simp only [h1, h2, h3, PTy.outerRedactor]; rfl
      | ok w =>
        cases h4 : (if (redact && t.flags.nullable) = true then t.flags.redactInner else none) with
        | some r => simp only [h1, h2, h3, h4, PTy.outerRedactor]; rfl
        | none =>
          simp only [h1, h2, h3, h4, PTy.outerRedactor]
          conv => rhs; rw [encode.eq_def]
          simp only [flags_withFlags, withFlags_withFlags, validateWithPermissions_withFlags, Bool.false_eq_true,
            if_false, ite_self, Bool.and_false, Bool.false_and]
          -- what is left on both sides is the dispatch on the class of the validator, which reads the arguments of
          -- `t` and `t.withFlags {}` but never the flags
          cases t <;> rfl

theorem encode_redact_outer (E : Ext) (env : Env) (perms : List String) (norm : Bool) (t : PTy) (v : PyVal)
    (r : Redactor) (hr : t.outerRedactor = some r) :
    encode E env perms true norm t v = redactValue E r v := by
  rw [encode_flags]
  simp only [if_true, hr]

theorem encode_redact_inner (E : Ext) (env : Env) (perms : List String) (norm : Bool) (v : PyVal) {t : PTy}
    {r : Redactor} (hn : t.flags.nullable = true) (ho : t.flags.redactOuter = none)
    (hi : t.flags.redactInner = some r) :
    encode E env perms true norm t v =
      if isNone v then .ok .null else validate E env t v >>= fun _ => redactValue E r v := by
  rw [encode_flags]
  simp only [PTy.outerRedactor, hn, ho, hi, if_true, Bool.true_and]

theorem encode_unredacted (E : Ext) (env : Env) (perms : List String) (norm : Bool) (v : PyVal) {redact : Bool}
    {t : PTy} (h : redact = false ∨ t.topRedactor = none) :
    encode E env perms redact norm t v =
      if t.flags.nullable && isNone v then .ok .null else
      (if t.flags.nullable then validate E env t v else .ok v) >>= fun _ =>
        encode E env perms redact norm (t.withFlags {}) v := by
  rw [encode_flags]
  rcases h with rfl | h
  · simp only [Bool.false_eq_true, if_false, Bool.false_and]
  · unfold PTy.topRedactor at h
    cases ho : t.outerRedactor with
    | some r => rw [ho] at h; cases h
    | none =>
      rw [ho] at h
      cases hn : t.flags.nullable with
      | false => simp only [ite_self, Bool.and_false, Bool.false_eq_true, if_false]
      | true =>
        rw [hn, if_pos rfl] at h
        simp only [ite_self, h]

theorem encode_nullable_none (E : Ext) (env : Env) (perms : List String) (norm : Bool) {t : PTy}
    (h : t.flags.nullable = true) : encode E env perms false norm t .none = .ok .null := by
  rw [encode_unredacted E env perms norm _ (.inl rfl), h]
  rfl

theorem encode_validated (E : Ext) (env : Env) (perms : List String) (norm : Bool) {t : PTy} {v : PyVal}
    {v' : PyVal} (hv : validate E env t v = .ok v') (hg : (t.flags.nullable && isNoneV v) = false) :
    encode E env perms false norm t v = encode E env perms false norm (t.withFlags {}) v := by
  rw [encode_unredacted E env perms norm _ (.inl rfl), isNone_eq_isNoneV, hg, hv]
  cases t.flags.nullable <;> rfl

theorem topRedactor_cases {t : PTy} {r : Redactor} (h : t.topRedactor = some r) :
    t.outerRedactor = some r ∨
      (t.flags.nullable = true ∧ t.flags.redactOuter = none ∧ t.flags.redactInner = some r) := by
  unfold PTy.topRedactor at h
  cases ho : t.outerRedactor with
  | some r' => rw [ho] at h; exact .inl h
  | none =>
    rw [ho] at h
    cases hn : t.flags.nullable with
    | false => rw [hn] at h; cases h
    | true =>
      rw [hn, if_pos rfl] at h
      exact .inr ⟨rfl, by simpa only [PTy.outerRedactor, hn, if_true] using ho, h⟩

theorem encode_ok_flags {E : Ext} {env : Env} {perms : List String} {redact norm : Bool} {t : PTy} {v : PyVal}
    {j : JVal} (h : encode E env perms redact norm t v = .ok j) :
    (redact = true ∧ ∃ r, t.topRedactor = some r ∧ redactValue E r v = .ok j) ∨
    (t.flags.nullable = true ∧ isNone v = true ∧ j = .null) ∨
    encode E env perms redact norm (t.withFlags {}) v = .ok j := by
  have clear : (redact = false ∨ t.topRedactor = none) →
      (t.flags.nullable = true ∧ isNone v = true ∧ j = .null) ∨
        encode E env perms redact norm (t.withFlags {}) v = .ok j := fun hno => by
    rw [encode_unredacted E env perms norm v hno] at h
    cases hg : t.flags.nullable && isNone v with
    | true =>
      rw [hg, if_pos rfl] at h
      cases h
      exact .inl ⟨((Bool.and_eq_true _ _).mp hg).1, ((Bool.and_eq_true _ _).mp hg).2, rfl⟩
    | false =>
      rw [hg] at h
      cases hval : (if t.flags.nullable = true then validate E env t v else .ok v) with
      | error e => rw [hval] at h; cases h
      | ok _ => rw [hval] at h; exact .inr h
  cases redact with
  | false => exact .inr (clear (.inl rfl))
  | true =>
    cases hr : t.topRedactor with
    | none => exact .inr (clear (.inr hr))
    | some r =>
      rcases topRedactor_cases hr with ho | ⟨hn, ho, hi⟩
      · rw [encode_redact_outer E env perms norm t v r ho] at h
        exact .inl ⟨rfl, r, rfl, h⟩
      · rw [encode_redact_inner E env perms norm v hn ho hi] at h
        cases hv : isNone v with
        | true => rw [hv, if_pos rfl] at h; cases h; exact .inr (.inl ⟨hn, rfl, rfl⟩)
        | false =>
          rw [hv] at h
          cases hval : validate E env t v with
          | error e => rw [hval] at h; cases h
          | ok _ => rw [hval] at h; exact .inl ⟨rfl, r, rfl, h⟩

theorem encode_prim_bare (E : Ext) (env : Env) (perms : List String) (redact norm : Bool) {t : PTy}
    (hp : isPrimTy t = true) (v : PyVal) :
    encode E env perms redact norm (t.withFlags {}) v =
      validate E env (t.withFlags {}) v >>= fun _ => encodePrim E norm t v := by
  rw [encode.eq_def]
  simp only [flags_withFlags, withFlags_withFlags, Bool.false_eq_true, if_false, ite_self, Bool.false_and,
    Bool.and_false]
  cases t <;> first | (cases validate E env _ v <;> rfl) | cases hp

theorem encode_list_bare (E : Ext) (env : Env) (perms : List String) (redact norm : Bool) (item : PTy)
    {mn mx : Option Nat} {xs ys : List PyVal} (h1 : leOpt mn xs.length = true) (h2 : geOpt mx xs.length = true)
    (hys : validateList E env item xs = .ok ys) :
    encode E env perms redact norm (.list {} item mn mx) (.list xs) =
      (encodeList E env perms redact item xs).map .arr := by
  rw [encode.eq_def]
  simp only [PTy.flags, PTy.withFlags, validate_list_val E env _ item (.inl rfl) h1 h2, hys, Except.map,
    Bool.false_eq_true, if_false, ite_self, Bool.false_and, Bool.and_false]

theorem encode_map_bare (E : Ext) (env : Env) (perms : List String) (redact norm : Bool) (kt vt : PTy)
    {kvs ys : List (PyVal × PyVal)} (hys : validateDict E env kt vt kvs = .ok ys) :
    encode E env perms redact norm (.map {} kt vt) (.dict kvs) =
      (encodeDict E env perms redact kt vt kvs).map .obj := by
  rw [encode.eq_def]
  simp only [PTy.flags, PTy.withFlags, validate_map_val, hys, Except.map, Bool.false_eq_true, if_false, ite_self,
    Bool.false_and, Bool.and_false]

/-- What `encode_struct` / `encode_struct_tree` run before they walk the field table: without permissions
`validate_type_only` (struct) or `validate` (tree), otherwise `validate_with_permissions`. -/
def encodeGate (E : Ext) (env : Env) (perms : List String) (t : PTy) (v : PyVal) : R Unit :=
  if perms.isEmpty then
    (match t with
     | .tree .. => (validate E env t v).map fun _ => ()
     | _ => validateTypeOnly env t v)
  else validateWithPermissions E env t perms v

theorem encodeGate_struct_nil {E : Ext} {env : Env} {cls c : String} {slots : List (String × PyVal)}
    (hsub : env.structSubclass c cls = true) : encodeGate E env [] (.struct {} cls) (.struct c slots) = .ok () := by
  simp only [encodeGate, List.isEmpty_nil, if_true, validateTypeOnly_struct, structTypeOk, hsub, isNoneV,
    Bool.and_false, Bool.false_eq_true, if_false]

theorem encodeGate_tree_nil {E : Ext} {env : Env} {cls c : String} {slots : List (String × PyVal)}
    (hsub : env.structSubclass c cls = true) (hf : structFieldsOk env cls none (.struct c slots) = true) :
    encodeGate E env [] (.tree {} cls) (.struct c slots) = .ok () := by
  simp only [encodeGate, List.isEmpty_nil, if_true, validate_struct_val E env (.inr rfl) hsub hf]
  rfl

theorem encode_struct_bare (E : Ext) (env : Env) (perms : List String) (redact norm : Bool) (cls : String)
    (v : PyVal) :
    encode E env perms redact norm (.struct {} cls) v =
      encodeGate E env perms (.struct {} cls) v >>= fun _ =>
        match v, env.struct? cls with
        | .struct _ slots, some s =>
          (assembleStruct (s.fieldsFor perms) slots (encodeSlots E env perms redact (s.fieldsFor perms) slots)).map .obj
        | .struct .., none => crash "NameError"
        | _, _ => crash "Unreachable" := by
  rw [encode.eq_def]
  simp only [PTy.flags, Bool.false_eq_true, if_false, ite_self, Bool.false_and, Bool.and_false, encodeGate,
    PTy.withFlags]
  cases (if perms.isEmpty = true then validateTypeOnly env (.struct {} cls) v
    else validateWithPermissions E env (.struct {} cls) perms v) with
  | error e => rfl
  | ok _ => cases v <;> first | rfl | (cases env.struct? cls <;> rfl)

theorem encode_struct_ok {E : Ext} {env : Env} {perms : List String} {redact norm : Bool} {cls : String}
    {v : PyVal} {j : JVal} (h : encode E env perms redact norm (.struct {} cls) v = .ok j) :
    ∃ c slots s kvs, v = .struct c slots ∧ env.struct? cls = some s ∧
      assembleStruct (s.fieldsFor perms) slots (encodeSlots E env perms redact (s.fieldsFor perms) slots) = .ok kvs ∧
      j = .obj kvs := by
  rw [encode_struct_bare] at h
  cases hg : encodeGate E env perms (.struct {} cls) v with
  | error e => rw [hg] at h; cases h
  | ok _ =>
    rw [hg, R_bind_ok] at h
    cases v with
    | struct c slots =>
      cases hs : env.struct? cls with
      | none => rw [hs] at h; cases h
      | some s =>
        rw [hs] at h
        cases ha : assembleStruct (s.fieldsFor perms) slots
            (encodeSlots E env perms redact (s.fieldsFor perms) slots) with
        | error e => simp only [ha] at h; cases h
        | ok kvs => simp only [ha] at h; cases h; exact ⟨c, slots, s, kvs, rfl, rfl, ha, rfl⟩
    | _ => cases h

/-- `encode_struct` for a caller without permissions and no redaction, whatever the wrappers -/
theorem encode_struct (E : Ext) (env : Env) (norm : Bool) (fl : Flags) (cls c : String)
    (slots : List (String × PyVal)) {s : StructDef} (hs : env.struct? cls = some s)
    (hty : env.structSubclass c cls = true) (hf : structFieldsOk env cls none (.struct c slots) = true) :
    encode E env [] false norm (.struct fl cls) (.struct c slots) =
      (assembleStruct (s.fieldsFor []) slots (encodeSlots E env [] false (s.fieldsFor []) slots)).map .obj := by
  rw [encode_unredacted E env [] norm _ (.inl rfl), validate_struct_val E env (.inl rfl) hty hf]
  simp only [isNone, Bool.and_false, Bool.false_eq_true, if_false, ite_self, R_bind_ok, PTy.withFlags]
  rw [encode_struct_bare, encodeGate_struct_nil hty, R_bind_ok, hs]

/-- The assertions `encode_struct_tree` makes on the class of the instance (listed, by a single tag, not itself a tree)
are the spec's `leafTag?`. -/
theorem encode_tree_bare (E : Ext) (env : Env) (perms : List String) (redact norm : Bool) (cls : String)
    (v : PyVal) :
    encode E env perms redact norm (.tree {} cls) v =
      encodeGate E env perms (.tree {} cls) v >>= fun _ =>
        match v with
        | .struct c slots =>
          match leafTag? env cls c, env.struct? c with
          | some tag, some sd =>
            (assembleStruct (sd.fieldsFor perms) slots (encodeSlots E env perms redact (sd.fieldsFor perms) slots)).map
              fun kvs => .obj ((".tag", .str tag) :: kvs)
          | some _, none => crash "NameError"
          | none, _ => crash (if (env.struct? cls).isSome then "AssertionError" else "NameError")
        | _ => crash "Unreachable" := by
  rw [encode.eq_def]
  simp only [PTy.flags, Bool.false_eq_true, if_false, ite_self, Bool.false_and, Bool.and_false, PTy.withFlags,
    encodeGate, leafTag?]
  cases (if perms.isEmpty = true then (validate E env (.tree {} cls) v).map (fun _ => ())
      else validateWithPermissions E env (.tree {} cls) perms v) with
  | error e => rfl
  | ok _ =>
    cases v with
    | struct c slots =>
      cases env.struct? cls with
      | none => rfl
      | some s =>
        cases hf : (s.subtypes.getD []).find? (fun x => x.2.1 == c) with
        | none => simp only [hf]; rfl
        | some e =>
          obtain ⟨tags, sc, isTree⟩ := e
          -- the entry found is that of the instance's class
          obtain rfl : sc = c := by simpa using List.find?_some hf
          simp only [hf]
          rcases tags with _ | ⟨tag, _ | ⟨t2, ts⟩⟩
          · rfl
          · cases isTree
            · cases env.struct? sc <;> rfl
            · rfl
          · rfl
    | _ => rfl

theorem encode_tree_ok {E : Ext} {env : Env} {perms : List String} {redact norm : Bool} {cls : String}
    {v : PyVal} {j : JVal} (h : encode E env perms redact norm (.tree {} cls) v = .ok j) :
    ∃ c slots tag sd kvs, v = .struct c slots ∧ leafTag? env cls c = some tag ∧ env.struct? c = some sd ∧
      assembleStruct (sd.fieldsFor perms) slots (encodeSlots E env perms redact (sd.fieldsFor perms) slots) = .ok kvs ∧
      j = .obj ((".tag", .str tag) :: kvs) := by
  rw [encode_tree_bare] at h
  cases hg : encodeGate E env perms (.tree {} cls) v with
  | error e => rw [hg] at h; cases h
  | ok _ =>
    rw [hg, R_bind_ok] at h
    cases v with
    | struct c slots =>
      dsimp only at h
      cases hl : leafTag? env cls c with
      | none => rw [hl] at h; cases h
      | some tag =>
        cases hsd : env.struct? c with
        | none => rw [hl, hsd] at h; cases h
        | some sd =>
          rw [hl, hsd] at h
          cases ha : assembleStruct (sd.fieldsFor perms) slots
              (encodeSlots E env perms redact (sd.fieldsFor perms) slots) with
          | error e => simp only [ha] at h; cases h
          | ok kvs => simp only [ha] at h; cases h; exact ⟨c, slots, tag, sd, kvs, rfl, hl, hsd, ha, rfl⟩
    | _ => cases h

theorem encode_union_bare (E : Ext) (env : Env) (perms : List String) (redact norm : Bool) (cls c tag : String)
    (payload : PyVal) {u : UnionDef} (hu : env.union? cls = some u) :
    encode E env perms redact norm (.union {} cls) (.union c tag payload) =
      if env.unionSubclass cls c = true then
        if u.isTagPresent tag perms = true then
          match u.valDataType tag perms with
          | none => crash "KeyError"
          | some ft =>
            if (isVoidT ft || (ft.flags.nullable && isNoneV payload)) = true then .ok (.obj [(".tag", .str tag)])
            else encode E env perms redact false ft payload >>= fun j =>
              if isPlainStruct ft = true then
                match j with
                | .obj kvs => .ok (.obj ((".tag", .str tag) :: kvs))
                | .null => crash "TypeError"
                | _ => crash "ValueError"
              else .ok (.obj [(".tag", .str tag), (tag, j)])
        else verr "caller does not have access to tag"
      else verr "expected union type" := by
  rw [encode.eq_def]
  simp only [flags_union, withFlags_union, validateTypeOnly, unionTypeOk, hu, isNone_eq_isNoneV, Bool.false_eq_true,
    if_false, ite_self, Bool.and_false, Bool.false_and]
  by_cases h1 : env.unionSubclass cls c = true
  · by_cases h2 : u.isTagPresent tag perms = true
    · cases h3 : u.valDataType tag perms with
      | none => simp only [h1, h2, if_true, Bool.not_true, Bool.false_eq_true, if_false]
      | some ft =>
        simp only [h1, h2, if_true, Bool.not_true, Bool.false_eq_true, if_false]
        cases ft <;> cases encode E env perms redact false _ payload <;> rfl
    · simp only [Bool.not_eq_true] at h2
      simp only [h1, h2, if_true, Bool.not_false, Bool.false_eq_true, if_false]
  · simp only [h1, Bool.false_eq_true, if_false]
    rfl

end StoneVerif.Rt
