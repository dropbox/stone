import StoneVerif.Model.DeclPy
import StoneVerif.Lemmas.ListFacts
/-!
The statement lists of the python_types model (C09) before anything runs: each section in closed form (the reflection blocks
cut into the pieces the import proof runs one by one) and the module-level names it binds, what a successful `find…` gives, and what needs no interpreter state of the callers of a type (`IsReflCaller`),
of `qual` and of `tyRefs`.
-/
namespace StoneVerif.DeclPy

@[simp] theorem globals_cls (n : Name) (b : Option Ref) (body : List Name) (c : Option (List Name)) :
    (Stmt.cls n b body c).globals = [n] := by
  simp [Stmt.globals, Stmt.defines]

@[simp] theorem globals_imp (m : Name) : (Stmt.imp m).globals = [m] := by simp [Stmt.globals, Stmt.defines]
@[simp] theorem globals_assign_none (t : Name) (c : Option Ref) (u : List Ref) :
    (Stmt.assign t none c u).globals = [t] := by simp [Stmt.globals, Stmt.defines]
@[simp] theorem globals_assign_some (t a : Name) (c : Option Ref) (u : List Ref) :
    (Stmt.assign t (some a) c u).globals = [] := by simp [Stmt.globals, Stmt.defines]
@[simp] theorem globals_expr (u : List Ref) : (Stmt.expr u).globals = [] := by simp [Stmt.globals, Stmt.defines]

def noGlobal : Stmt → Bool
  | .assign _ (some _) _ _ => true
  | .expr _ => true
  | _ => false

def Stmt.isImp : Stmt → Bool
  | .imp _ => true
  | _ => false

theorem noGlobal_globals {s : Stmt} (h : noGlobal s = true) : s.globals = [] := by
  cases s with
  | imp m => cases h
  | cls n b body c => cases h
  | assign t a c u => cases a with
    | none => cases h
    | some a => rfl
  | expr u => rfl

theorem noGlobal_not_imp {s : Stmt} (h : noGlobal s = true) : s.isImp = false := by
  cases s with
  | imp m => cases h
  | _ => rfl

theorem flatMap_globals_of_noGlobal {l : List Stmt} (h : l.all noGlobal = true) :
    l.flatMap Stmt.globals = [] :=
  List.flatMap_eq_nil_iff.2 fun s hs => noGlobal_globals (List.all_eq_true.1 h s hs)

theorem all_ite {α} (c : Prop) [Decidable c] (a b : List α) (p : α → Bool) :
    (if c then a else b).all p = if c then a.all p else b.all p := by split <;> rfl

theorem forall_mem_ite {α} {c : Prop} [Decidable c] {a b : List α} {P : α → Prop} (ha : ∀ x ∈ a, P x)
    (hb : ∀ x ∈ b, P x) : ∀ x ∈ (if c then a else b), P x := by split <;> assumption

/-- `attr f` holds the validator of `f`, `self f` is what its assignment evaluates on the class besides the type -/
def fieldVals (c cur : Name) (attr redact : Field → Name) (self : Field → Ref) (fs : List Field) : List Stmt :=
  fs.flatMap fun f =>
    [Stmt.assign c (some (attr f)) none (self f :: tyRefs cur f.ty)]
    ++ (if f.redact then [Stmt.assign c (some (redact f)) none [here c (some (attr f))]] else [])

/-- `parent_omitted_callers`, of the struct and of the union generator alike -/
def sParentCallers (api : Api) (d : DataType) : List Name :=
  dedup (ancestorCallers api api.nTypes (api.parentOf d))

def sCallers (api : Api) (d : DataType) : List (Option Name) :=
  sortCallers (none :: (dedup (d.ownCallers ++ sParentCallers api d)).map some)

def pref (cur : Name) (d : DataType) (attr : String) : List Ref :=
  match baseRef cur d with
  | some p => [{ p with attr := some attr }]
  | none => []

/-- `caller_in_parent` -/
def cipB (api : Api) (d : DataType) (oc : Option Name) : Bool :=
  d.parent.isSome && (oc.isNone || match oc with | some x => (sParentCallers api d).contains x | none => false)

/-- `is_public or omitted_caller in child_omitted_callers` -/
def ownB (d : DataType) (oc : Option Name) : Bool :=
  oc.isNone || match oc with | some x => d.ownCallers.contains x | none => false

def sFieldRefs (d : DataType) (oc : Option Name) : List Ref :=
  (d.fields.filter (·.caller == oc)).map fun f => here (fmtClass d.name) (some (fmtVar f.name ++ ".validator"))

def sCallerBody (api : Api) (cur : Name) (d : DataType) (oc : Option Name) : List Stmt :=
  let c := fmtClass d.name
  let pre := callerPrefix oc
  let names := pre ++ "_field_names_"
  let allNames := "_all" ++ pre ++ "_field_names_"
  let flds := pre ++ "_fields_"
  let allFlds := "_all" ++ pre ++ "_fields_"
  let all (attr : String) (own : List Ref) : Stmt :=
    .assign c (some attr) none (here c :: (if cipB api d oc then pref cur d attr else []) ++ own)
  if isTreeMember api d then
    (if ownB d oc then [Stmt.assign c (some names) none [here c]] else [])
    ++ [all allNames [here c (some names)]] ++ [Stmt.assign c (some flds) none (here c :: sFieldRefs d oc)]
    ++ [all allFlds [here c (some flds)]]
  else [all allNames [], all allFlds (sFieldRefs d oc)]

def sSubs (cur : Name) (d : DataType) : List Stmt :=
  if d.hasSubtypes then
    [Stmt.assign (fmtClass d.name) (some "_tag_to_subtype_") none
        (here (fmtClass d.name) :: d.subtypes.flatMap fun (sns, sn) => tyRefs cur (.user sns sn)),
     Stmt.assign (fmtClass d.name) (some "_pytype_to_tag_and_subtype_") none
        (here (fmtClass d.name) :: (d.subtypes.map fun (_, sn) => here (fmtClass sn))
          ++ d.subtypes.flatMap fun (sns, sn) => tyRefs cur (.user sns sn)),
     Stmt.assign (fmtClass d.name) (some "_is_catch_all_") none [here (fmtClass d.name)]]
  else []

theorem structRefl_eq (api : Api) (cur : Name) (d : DataType) :
    structReflStmts api cur d
      = fieldVals (fmtClass d.name) cur (fun f => fmtVar f.name ++ ".validator")
          (fun f => fmtVar f.name ++ ".validator._redact") (fun f => here (fmtClass d.name) (some (fmtVar f.name)))
          d.fields
        ++ (sCallers api d).flatMap (sCallerBody api cur d) ++ sSubs cur d := by
  -- the model tests `caller_in_parent` around the statement where the class is in a subtype tree, inside it otherwise
  have inside : ∀ (b : Bool) (t : Name) (a : Option Name) (x : Ref) (p e : List Ref),
      (if b then [Stmt.assign t a none (x :: p ++ e)] else [Stmt.assign t a none (x :: e)])
        = [Stmt.assign t a none (x :: (if b then p else []) ++ e)] := by
    intro b; cases b <;> intros <;> rfl
  refine congrArg (· ++ _) (congrArg (_ ++ ·) (congrArg (List.flatMap · _) (funext fun oc => ?_)))
  unfold sCallerBody
  dsimp only
  congr 1
  · rw [inside, inside]; rfl
  · rw [List.append_nil]; rfl

/-- `'_tagmap' if is_public else '_{}_tagmap'.format(omitted_caller)` -/
def tagmapName : Option Name → String
  | none => "_tagmap"
  | some x => "_" ++ x ++ "_tagmap"

def uPerm (api : Api) (d : DataType) : List Stmt :=
  if (dedup (d.ownCallers ++ sParentCallers api d)).isEmpty then []
  else [Stmt.assign (fmtClass d.name) (some "_permissioned_tagmaps") none [here (fmtClass d.name)]]

def uCallerBody (api : Api) (cur : Name) (d : DataType) (oc : Option Name) : List Stmt :=
  [Stmt.assign (fmtClass d.name) (some (tagmapName oc)) none
    (here (fmtClass d.name) :: (d.fields.filter (·.caller == oc)).map
      fun f => here (fmtClass d.name) (some ("_" ++ fmtVar f.name ++ "_validator")))]
  ++ (if cipB api d oc then match baseRef cur d with
        | some p => [Stmt.expr [here (fmtClass d.name) (some (tagmapName oc)), { p with attr := some (tagmapName oc) }]]
        | none => []
      else [])

def uSymbols (d : DataType) : List Stmt :=
  (d.fields.filter (·.ty.isVoid)).map fun f =>
    Stmt.assign (fmtClass d.name) (some (fmtFunc f.name)) none
      [here (fmtClass d.name), here (fmtClass d.name) (some "_tagmap")]

theorem unionRefl_eq (api : Api) (cur : Name) (d : DataType) :
    unionReflStmts api cur d
      = fieldVals (fmtClass d.name) cur (fun f => "_" ++ fmtVar f.name ++ "_validator")
          (fun f => "_" ++ fmtVar f.name ++ "_validator" ++ "._redact") (fun _ => here (fmtClass d.name)) d.fields
        ++ uPerm api d ++ (sCallers api d).flatMap (uCallerBody api cur d) ++ uSymbols d := rfl

theorem fieldVals_noGlobal (c cur : Name) (attr redact : Field → Name) (self : Field → Ref) (fs : List Field) :
    (fieldVals c cur attr redact self fs).all noGlobal = true := by
  simp [fieldVals, List.all_flatMap, all_ite, noGlobal]

theorem sCallerBody_noGlobal (api : Api) (cur : Name) (d : DataType) (oc : Option Name) :
    (sCallerBody api cur d oc).all noGlobal = true := by
  unfold sCallerBody
  dsimp only
  split
  · split <;> rfl
  · rfl

theorem uCallerBody_noGlobal (api : Api) (cur : Name) (d : DataType) (oc : Option Name) :
    (uCallerBody api cur d oc).all noGlobal = true := by
  unfold uCallerBody
  cases baseRef cur d <;> simp [all_ite, noGlobal]

theorem structRefl_noGlobal (api : Api) (cur : Name) (d : DataType) :
    (structReflStmts api cur d).all noGlobal = true := by
  simp [structRefl_eq, List.all_flatMap, fieldVals_noGlobal, sCallerBody_noGlobal, sSubs, all_ite, noGlobal]

theorem unionRefl_noGlobal (api : Api) (cur : Name) (d : DataType) :
    (unionReflStmts api cur d).all noGlobal = true := by
  simp [unionRefl_eq, List.all_flatMap, fieldVals_noGlobal, uCallerBody_noGlobal, uPerm, uSymbols, all_ite, noGlobal]

def defaultUses (cur : Name) (d : DataType) (f : Field) : Option (Name × List Ref) :=
  match f.dflt with
  | none => none
  | some .lit => some (fmtVar f.name ++ ".default", [here (fmtClass d.name) (some (fmtVar f.name))])
  | some (.tag t tag) =>
    some (fmtVar f.name ++ ".default", here (fmtClass d.name) (some (fmtVar f.name)) :: tagRef cur t tag)

theorem defaultStmts_eq (cur : Name) (d : DataType) :
    defaultStmts cur d
      = (d.fields.filterMap (defaultUses cur d)).map fun x => Stmt.assign (fmtClass d.name) (some x.1) none x.2 := by
  simp only [defaultStmts, List.map_filterMap]
  congr 1
  funext f
  unfold defaultUses
  cases f.dflt with
  | none => rfl
  | some v => cases v <;> rfl

theorem defaultUses_refs {cur : Name} {d : DataType} {f : Field} {x : Name × List Ref}
    (h : defaultUses cur d f = some x) {r : Ref} (hr : r ∈ x.2) :
    r = here (fmtClass d.name) (some (fmtVar f.name))
      ∨ ∃ t tag, f.dflt = some (.tag t tag) ∧ r ∈ tagRef cur t tag := by
  unfold defaultUses at h
  cases hd : f.dflt with
  | none => rw [hd] at h; cases h
  | some v =>
    rw [hd] at h
    cases v with
    | lit => injection h with h; subst h; exact Or.inl (List.mem_singleton.mp hr)
    | tag t tag =>
      injection h with h; subst h
      exact (List.mem_cons.mp hr).imp id fun hr => ⟨t, tag, rfl, hr⟩

theorem defaultStmts_noGlobal (cur : Name) (d : DataType) :
    (defaultStmts cur d).all noGlobal = true := by
  rw [defaultStmts_eq, List.all_map]
  exact List.all_eq_true.mpr fun _ _ => rfl

theorem globals_importStmts (ns : Namespace) :
    (importStmts ns).flatMap Stmt.globals = ns.imports.map fmtNamespace := by
  simp only [importStmts, List.flatMap_map, globals_imp, ← List.map_eq_flatMap]

theorem globals_annStmts (ns : Namespace) :
    (annStmts ns).flatMap Stmt.globals = ns.annTypes.map (fmtClass ·.name) := by
  simp only [annStmts, annTypeStmts, List.flatMap_assoc, List.flatMap_singleton, globals_cls, ← List.map_eq_flatMap]

def classBody (d : DataType) : List Name :=
  if d.isStruct then
    ["__slots__", "_has_required_fields", "__init__"] ++ d.fields.map (fmtFunc ·.name true)
      ++ ["_process_custom_annotations"]
  else
    (if d.catchAll || d.parent.isNone then ["_catch_all"] else [])
      ++ (d.fields.filter (·.ty.isVoid)).map (fmtVar ·.name)
      ++ (d.fields.filter (fun f => !f.ty.isVoid)).map (fmtFunc ·.name true)
      ++ d.fields.map (fun f => "is_" ++ fmtFunc f.name)
      ++ (d.fields.filter (fun f => !f.ty.isVoid)).map (fun f => "get_" ++ fmtFunc f.name)
      ++ ["_process_custom_annotations"]

def classCtor (api : Api) (d : DataType) : Option (List Name) :=
  if d.isStruct then some ((allFieldsStruct api d).map (fmtVar ·.name true)) else none

theorem classStmts_eq (api : Api) (ns : Namespace) :
    classStmts api ns = ns.types.flatMap fun d =>
      [.cls (fmtClass d.name) (baseRef ns.name d) (classBody d) (classCtor api d),
       .assign (fmtClass d.name ++ "_validator") none none [here (fmtClass d.name)]] := by
  unfold classStmts
  congr 1
  funext d
  unfold classBody classCtor
  split <;> rfl

theorem mem_classBody {d : DataType} {f : Field} (hf : f ∈ d.fields) {a : Name}
    (ha : a ∈ memberAttrs d.isStruct f) : a ∈ classBody d := by
  unfold classBody
  unfold memberAttrs at ha
  by_cases hs : d.isStruct = true
  · rw [if_pos hs] at ha ⊢
    rw [List.mem_singleton.mp ha]
    exact List.mem_append_left _ (List.mem_append_right _ (List.mem_map.mpr ⟨f, hf, rfl⟩))
  · rw [if_neg hs] at ha ⊢
    -- catch-all ++ void tags ++ typed constructors ++ `is_` ++ `get_` ++ [`_process_custom_annotations`]
    simp only [List.mem_append, List.mem_map, List.mem_filter]
    by_cases hv : f.ty.isVoid = true
    · rw [if_pos hv] at ha
      rcases List.mem_cons.mp ha with rfl | ha
      · exact Or.inl (Or.inl (Or.inr ⟨f, hf, rfl⟩))
      · exact Or.inl (Or.inl (Or.inl (Or.inl (Or.inr ⟨f, ⟨hf, hv⟩, (List.mem_singleton.mp ha).symm⟩))))
    · rw [if_neg hv] at ha
      have hv' : (!f.ty.isVoid) = true := by simpa using hv
      rcases List.mem_cons.mp ha with rfl | ha
      · exact Or.inl (Or.inl (Or.inr ⟨f, hf, rfl⟩))
      · rcases List.mem_cons.mp ha with rfl | ha
        · exact Or.inl (Or.inr ⟨f, ⟨hf, hv'⟩, rfl⟩)
        · exact Or.inl (Or.inl (Or.inl (Or.inr ⟨f, ⟨hf, hv'⟩, (List.mem_singleton.mp ha).symm⟩)))

theorem globals_classStmts (api : Api) (ns : Namespace) :
    (classStmts api ns).flatMap Stmt.globals
      = ns.types.flatMap (fun d => [fmtClass d.name, fmtClass d.name ++ "_validator"]) := by
  simp only [classStmts_eq, List.flatMap_assoc, List.flatMap_cons, List.flatMap_nil, globals_cls,
    globals_assign_none, List.append_nil, List.singleton_append]

def Ty.named : Ty → Option (Name × Name)
  | .user ns n => some (ns, n)
  | .alias ns n => some (ns, n)
  | _ => none

theorem Ty.named_cases {t : Ty} {ns n : Name} (h : t.named = some (ns, n)) : t = .user ns n ∨ t = .alias ns n := by
  cases t with
  | user a b => injection h with h; injection h with h1 h2; subst h1 h2; exact Or.inl rfl
  | alias a b => injection h with h; injection h with h1 h2; subst h1 h2; exact Or.inr rfl
  | _ => cases h

theorem Ty.named_validator {cur : Name} {t : Ty} {p : Name × Name} (h : t.named = some p) :
    qual cur p.1 (fmtClass p.2 ++ "_validator") ∈ tyRefs cur t := by
  cases t with
  | user a b => injection h with h; subst h; exact List.mem_singleton.mpr rfl
  | alias a b => injection h with h; subst h; exact List.mem_singleton.mpr rfl
  | _ => cases h

theorem aliasEndsInUser_named {api : Api} {n : Nat} {t : Ty} (h : aliasEndsInUser api n t = true) :
    ∃ p, t.named = some p := by
  cases t with
  | user ns nm => exact ⟨_, rfl⟩
  | alias ns nm => exact ⟨_, rfl⟩
  | _ => cases n <;> cases h

theorem tagRef_eq (cur : Name) (t : Ty) (tag : Name) :
    tagRef cur t tag = (t.named.map fun p => qual cur p.1 (fmtClass p.2) (some (fmtVar tag))).toList := by
  cases t <;> rfl

theorem aliasStmts_eq (api : Api) (cur : Name) (a : Alias) :
    aliasStmts api cur a
      = [Stmt.assign (fmtClass a.name ++ "_validator") none
            (a.ty.named.map fun p => qual cur p.1 (fmtClass p.2 ++ "_validator")) (tyRefs cur a.ty)]
        ++ (if a.redact then [Stmt.assign (fmtClass a.name ++ "_validator") (some "_redact") none
              [here (fmtClass a.name ++ "_validator")]] else [])
        ++ (if aliasEndsInUser api api.nAliases a.ty then
              (a.ty.named.map fun p => Stmt.assign (fmtClass a.name) none (some (qual cur p.1 (fmtClass p.2)))
                [qual cur p.1 (fmtClass p.2)]).toList
            else []) := by
  unfold aliasStmts Ty.named
  cases a.ty <;> rfl

theorem globals_aliasStmts (api : Api) (cur : Name) (a : Alias) :
    (aliasStmts api cur a).flatMap Stmt.globals
      = (fmtClass a.name ++ "_validator") :: (if aliasEndsInUser api api.nAliases a.ty then [fmtClass a.name] else []) := by
  rw [aliasStmts_eq]
  by_cases he : aliasEndsInUser api api.nAliases a.ty = true
  · obtain ⟨p, hp⟩ := aliasEndsInUser_named he
    by_cases hr : a.redact = true <;> simp [he, hp, hr]
  · by_cases hr : a.redact = true <;> simp [he, hr]

theorem globals_aliasSection (api : Api) (ns : Namespace) :
    (aliasSection api ns).flatMap Stmt.globals
      = ns.aliases.flatMap (fun a => (fmtClass a.name ++ "_validator") ::
          (if aliasEndsInUser api api.nAliases a.ty then [fmtClass a.name] else [])) := by
  simp only [aliasSection, List.flatMap_assoc, globals_aliasStmts]

theorem reflStmts_noGlobal (api : Api) (ns : Namespace) : (reflStmts api ns).all noGlobal = true := by
  simp [reflStmts, List.all_flatMap, all_ite, structRefl_noGlobal, unionRefl_noGlobal]

theorem defaultSection_noGlobal (ns : Namespace) : (defaultSection ns).all noGlobal = true := by
  simp [defaultSection, List.all_flatMap, all_ite, defaultStmts_noGlobal]

theorem globals_reflStmts (api : Api) (ns : Namespace) : (reflStmts api ns).flatMap Stmt.globals = [] :=
  flatMap_globals_of_noGlobal (reflStmts_noGlobal api ns)

theorem globals_defaultSection (ns : Namespace) : (defaultSection ns).flatMap Stmt.globals = [] :=
  flatMap_globals_of_noGlobal (defaultSection_noGlobal ns)

theorem globals_routeStmts (cur : Name) (rs : List Route) :
    (routeStmts cur rs).flatMap Stmt.globals = rs.map (fun r => fmtFunc r.name false r.version) ++ ["ROUTES"] := by
  simp only [routeStmts, List.flatMap_append, List.flatMap_map, List.flatMap_cons, List.flatMap_nil,
    globals_assign_none, List.append_nil, ← List.map_eq_flatMap]

theorem globals_pyTypesStmts (api : Api) (ns : Namespace) :
    (pyTypesStmts api ns).flatMap Stmt.globals = bindNames api ns := by
  simp only [pyTypesStmts, List.flatMap_append, globals_importStmts, globals_annStmts, globals_classStmts,
    globals_aliasSection, globals_reflStmts, globals_defaultSection, globals_routeStmts, bindNames,
    List.nil_append, List.append_assoc]

def bodyStmts (api : Api) (ns : Namespace) : List Stmt :=
  annStmts ns ++ (classStmts api ns ++ (aliasSection api ns ++ (reflStmts api ns ++ (defaultSection ns
    ++ routeStmts ns.name ns.routes))))

theorem pyTypesStmts_eq (api : Api) (ns : Namespace) : pyTypesStmts api ns = importStmts ns ++ bodyStmts api ns := by
  simp only [pyTypesStmts, bodyStmts, List.append_assoc]

theorem body_noimp (api : Api) (ns : Namespace) : ∀ s ∈ bodyStmts api ns, s.isImp = false := by
  have hng : ∀ {l : List Stmt}, l.all noGlobal = true → ∀ s ∈ l, s.isImp = false :=
    fun h s hs => noGlobal_not_imp (List.all_eq_true.mp h s hs)
  have nothing : ∀ s ∈ ([] : List Stmt), s.isImp = false := fun _ hs => nomatch hs
  refine List.forall_mem_append.2 ⟨List.forall_mem_flatMap.2 fun _ _ => List.forall_mem_singleton.2 rfl,
    List.forall_mem_append.2 ⟨?_, List.forall_mem_append.2 ⟨List.forall_mem_flatMap.2 fun a _ => ?_,
    List.forall_mem_append.2 ⟨hng (reflStmts_noGlobal api ns), List.forall_mem_append.2
    ⟨hng (defaultSection_noGlobal ns), List.forall_mem_append.2
    ⟨List.forall_mem_map.2 fun _ _ => rfl, List.forall_mem_singleton.2 rfl⟩⟩⟩⟩⟩⟩
  · rw [classStmts_eq]
    exact List.forall_mem_flatMap.2 fun _ _ => List.forall_mem_cons.2 ⟨rfl, List.forall_mem_singleton.2 rfl⟩
  · rw [aliasStmts_eq]
    refine List.forall_mem_append.2 ⟨List.forall_mem_append.2 ⟨List.forall_mem_singleton.2 rfl,
      forall_mem_ite (List.forall_mem_singleton.2 rfl) nothing⟩, forall_mem_ite (fun s hs => ?_) nothing⟩
    obtain ⟨_, _, rfl⟩ := Option.map_eq_some_iff.1 (Option.mem_toList.1 hs)
    rfl

theorem baseRef_eq_expectedBase (cur : Name) (d : DataType) : baseRef cur d = expectedBase cur d := by
  unfold baseRef expectedBase
  cases d.parent with
  | none => rfl
  | some p => obtain ⟨pns, pn⟩ := p; simp [qual]

theorem mem_pyTypes_of_mem_class {api : Api} {ns : Namespace} {s : Stmt} (h : s ∈ classStmts api ns) :
    s ∈ pyTypesStmts api ns := by
  simp only [pyTypesStmts, List.mem_append, h, true_or, or_true]

theorem mem_pyTypes_of_mem_routes {api : Api} {ns : Namespace} {s : Stmt} (h : s ∈ routeStmts ns.name ns.routes) :
    s ∈ pyTypesStmts api ns := by
  simp only [pyTypesStmts, List.mem_append, h, or_true]

theorem mem_pyTypes_of_mem_alias {api : Api} {ns : Namespace} {s : Stmt} (h : s ∈ aliasSection api ns) :
    s ∈ pyTypesStmts api ns := by
  simp only [pyTypesStmts, List.mem_append, h, true_or, or_true]

theorem findNs_spec {api : Api} {rns : Name} {n : Namespace} (h : api.findNs rns = some n) :
    n ∈ api.namespaces ∧ n.name = rns :=
  find?_key_some (fun n : Namespace => n.name) h

theorem findType_spec {api : Api} {rns rn : Name} {d : DataType} (h : api.findType rns rn = some d) :
    ∃ nsm ∈ api.namespaces, nsm.name = rns ∧ d ∈ nsm.types ∧ d.name = rn := by
  unfold Api.findType at h
  cases hn : api.findNs rns with
  | none => simp [hn] at h
  | some ns' =>
    rw [hn] at h
    exact ⟨ns', (findNs_spec hn).1, (findNs_spec hn).2, find?_key_some (fun d : DataType => d.name) h⟩

theorem findAlias_spec {api : Api} {rns rn : Name} {a : Alias} (h : api.findAlias rns rn = some a) :
    ∃ nsm ∈ api.namespaces, nsm.name = rns ∧ a ∈ nsm.aliases ∧ a.name = rn := by
  unfold Api.findAlias at h
  cases hn : api.findNs rns with
  | none => simp [hn] at h
  | some ns' =>
    rw [hn] at h
    exact ⟨ns', (findNs_spec hn).1, (findNs_spec hn).2, find?_key_some (fun a : Alias => a.name) h⟩

theorem fmtFunc_true_eq_fmtVar {n : Name} (h : noReserved (fmtVar n) = true) : fmtFunc n true = fmtVar n := by
  simp only [noReserved, fmtVar, Bool.false_eq_true, if_false, Bool.not_eq_true'] at h
  simp [fmtFunc, fmtVar, renameIfReserved]
  intro hmem
  simp [List.contains_eq_mem, hmem] at h

theorem mem_dedup {l : List Name} {x : Name} : x ∈ dedup l ↔ x ∈ l := by
  induction l with
  | nil => rfl
  | cons a l ih =>
    rw [dedup, List.mem_cons]
    split
    · rw [ih]; exact ⟨.inr, fun h => h.elim (fun e => e ▸ List.contains_iff_mem.mp ‹_›) id⟩
    · rw [List.mem_cons, ih]

theorem mem_insertCaller {x y : Option Name} {l : List (Option Name)} : y ∈ insertCaller x l ↔ y = x ∨ y ∈ l := by
  induction l with
  | nil => simp [insertCaller]
  | cons z zs ih =>
    unfold insertCaller
    split
    · exact List.mem_cons
    · rw [List.mem_cons, ih, List.mem_cons, or_left_comm]

theorem mem_sortCallers {y : Option Name} {l : List (Option Name)} : y ∈ sortCallers l ↔ y ∈ l := by
  induction l with
  | nil => simp [sortCallers]
  | cons z zs ih =>
    rw [sortCallers, List.foldr_cons, mem_insertCaller, List.mem_cons]
    exact or_congr_right ih

theorem ancestorCallers_succ {api : Api} : ∀ (k : Nat) (po : Option DataType) (x : Name),
    x ∈ ancestorCallers api k po → x ∈ ancestorCallers api (k + 1) po := by
  intro k
  induction k with
  | zero => intro po x h; simp [ancestorCallers] at h
  | succ k ih =>
    intro po x h
    cases po with
    | none => simp [ancestorCallers] at h
    | some p =>
      simp only [ancestorCallers, List.mem_append] at h ⊢
      rcases h with h | h
      · exact Or.inl h
      · exact Or.inr (ih _ _ h)

theorem ancestorCallers_none {api : Api} : ∀ (k : Nat), ancestorCallers api k none = []
  | 0 => rfl
  | _ + 1 => rfl

theorem mem_ancestorCallers_some {api : Api} {k : Nat} {p : DataType} {x : Name}
    (h : x ∈ ancestorCallers api k (some p)) : x ∈ p.ownCallers ∨ x ∈ ancestorCallers api k (api.parentOf p) := by
  cases k with
  | zero => simp [ancestorCallers] at h
  | succ k =>
    simp only [ancestorCallers, List.mem_append] at h
    exact h.imp_right (ancestorCallers_succ _ _ _)

def IsReflCaller (api : Api) (d : DataType) (oc : Option Name) : Prop :=
  oc = none ∨ ∃ x, oc = some x ∧ (x ∈ d.ownCallers ∨ x ∈ ancestorCallers api api.nTypes (api.parentOf d))

theorem mem_sCallers {api : Api} {d : DataType} {oc : Option Name} : oc ∈ sCallers api d ↔ IsReflCaller api d oc := by
  simp only [sCallers, sParentCallers, mem_sortCallers, List.mem_cons, List.mem_map, mem_dedup, List.mem_append,
    IsReflCaller]
  constructor
  · rintro (h | ⟨x, hx, rfl⟩)
    · exact Or.inl h
    · exact Or.inr ⟨x, rfl, hx⟩
  · rintro (h | ⟨x, rfl, hx⟩)
    · exact Or.inl h
    · exact Or.inr ⟨x, hx, rfl⟩

theorem parent_isReflCaller {api : Api} {d P : DataType} (hpo : api.parentOf d = some P) {x : Name}
    (hx : x ∈ ancestorCallers api api.nTypes (api.parentOf d)) : IsReflCaller api P (some x) :=
  Or.inr ⟨x, rfl, mem_ancestorCallers_some (hpo ▸ hx)⟩

theorem cipB_parent {api : Api} {d P : DataType} {oc : Option Name} (h : cipB api d oc = true)
    (hpo : api.parentOf d = some P) : IsReflCaller api P oc := by
  cases oc with
  | none => exact Or.inl rfl
  | some x =>
    simp only [cipB, Bool.and_eq_true, Option.isNone_some, Bool.false_or, List.contains_eq_mem,
      decide_eq_true_eq] at h
    exact parent_isReflCaller hpo (mem_dedup.mp h.2)

theorem qual_attr (cur rns nm : Name) (attr : Option Name) : (qual cur rns nm attr).attr = attr := by
  unfold qual; split <;> rfl

theorem qual_with_attr (cur rns nm : Name) (a : Name) :
    { qual cur rns nm with attr := some a } = qual cur rns nm (some a) := by
  unfold qual; split <;> rfl

theorem tyRefs_eq (cur : Name) (t : Ty) :
    tyRefs cur t = t.mentions.map fun m => qual cur m.2.1 (fmtClass m.2.2 ++ "_validator") := by
  induction t with
  | map k v ihk ihv => simp only [tyRefs, Ty.mentions, List.map_append, ihk, ihv]
  | list t ih => exact ih
  | nullable t ih => exact ih
  | _ => rfl

end StoneVerif.DeclPy
