import StoneVerif.Model.Order
/-!
C12's orders; Python's stable `sorted(.., key=..)` is `sortBy`. A stable sort only sees, for every key `k`, the
sub-sequence `cls key k l` of items with that key: it keeps these (`cls_sortBy`) and an ordered list is determined by
them (`eq_of_sorted_of_classEq`), so lists with the same sub-sequences (`ClassEq`) sort alike (`sortBy_congr`); `dedupTy`
and `addImported` act inside the sub-sequences. Also: a cache and an output directory that held something before the run.
-/
namespace StoneVerif.Order

structure TotalLe {κ : Type} (le : κ → κ → Bool) : Prop where
  total : ∀ a b, le a b = true ∨ le b a = true
  trans : ∀ a b c, le a b = true → le b c = true → le a c = true
  antisymm : ∀ a b, le a b = true → le b a = true → a = b

theorem TotalLe.refl {κ : Type} {le : κ → κ → Bool} (h : TotalLe le) (a : κ) : le a a = true := by
  cases h.total a a <;> assumption

theorem TotalLe.pairwise_mergeSort {α κ : Type} {le : κ → κ → Bool} (h : TotalLe le) (key : α → κ) (l : List α) :
    (l.mergeSort fun a b => le (key a) (key b)).Pairwise fun a b => le (key a) (key b) = true :=
  List.pairwise_mergeSort (le := fun a b => le (key a) (key b)) (fun _ _ _ => h.trans _ _ _)
    (fun a b => (Bool.or_eq_true _ _).mpr (h.total (key a) (key b))) l

theorem strLe_totalLe : TotalLe strLe where
  total a b := by
    simp only [strLe, decide_eq_true_eq]; exact String.le_total a b
  trans a b c := by
    simp only [strLe, decide_eq_true_eq]; exact String.le_trans
  antisymm a b := by
    simp only [strLe, decide_eq_true_eq]; exact String.le_antisymm

/-- Python's tuple comparison -/
theorem TotalLe.lex {κ₁ κ₂ : Type} [DecidableEq κ₁] {le₁ : κ₁ → κ₁ → Bool} {le₂ : κ₂ → κ₂ → Bool}
    (h₁ : TotalLe le₁) (h₂ : TotalLe le₂) :
    TotalLe fun a b : κ₁ × κ₂ => if a.1 = b.1 then le₂ a.2 b.2 else le₁ a.1 b.1 where
  total a b := by
    by_cases h : a.1 = b.1
    · simp only [h, if_true]; exact h₂.total _ _
    · have h' : ¬ b.1 = a.1 := fun e => h e.symm
      simp only [h, h', if_false]; exact h₁.total _ _
  trans a b c := by
    obtain ⟨a1, a2⟩ := a
    obtain ⟨b1, b2⟩ := b
    obtain ⟨c1, c2⟩ := c
    dsimp only
    by_cases h1 : a1 = b1 <;> by_cases h2 : b1 = c1
    · subst h1; subst h2
      simp only [↓reduceIte]; exact h₂.trans _ _ _
    · subst h1
      simp only [h2, ↓reduceIte]
      intro _ hbc; exact hbc
    · subst h2
      simp only [h1, ↓reduceIte]
      intro hab _; exact hab
    · simp only [h1, h2, ↓reduceIte]
      intro hab hbc
      by_cases h3 : a1 = c1
      · subst h3
        exact absurd (h₁.antisymm _ _ hbc hab) h2
      · simp only [h3, ↓reduceIte]; exact h₁.trans _ _ _ hab hbc
  antisymm a b := by
    by_cases h : a.1 = b.1
    · simp only [h, if_true]
      intro h1 h2
      exact Prod.ext h (h₂.antisymm _ _ h1 h2)
    · have h' : ¬ b.1 = a.1 := fun e => h e.symm
      simp only [h, h', if_false]
      intro h1 h2
      exact absurd (h₁.antisymm _ _ h1 h2) h

theorem natLe_totalLe : TotalLe fun a b : Nat => decide (a ≤ b) where
  total a b := by simp only [decide_eq_true_eq]; exact Nat.le_total a b
  trans a b c := by simp only [decide_eq_true_eq]; exact Nat.le_trans
  antisymm a b := by simp only [decide_eq_true_eq]; exact Nat.le_antisymm

theorem pairLe_totalLe : TotalLe pairLe := strLe_totalLe.lex natLe_totalLe

theorem strPairLe_totalLe : TotalLe strPairLe := strLe_totalLe.lex strLe_totalLe

section
variable {α κ : Type} [DecidableEq κ] (key : α → κ) (le : κ → κ → Bool)

def cls (k : κ) (l : List α) : List α := l.filter fun x => decide (key x = k)

def ClassEq (l₁ l₂ : List α) : Prop := ∀ k, cls key k l₁ = cls key k l₂

def SortedBy (l : List α) : Prop := l.Pairwise fun a b => le (key a) (key b) = true

variable {key le}

@[simp] theorem cls_nil (k : κ) : cls key k ([] : List α) = [] := rfl

theorem cls_cons (k : κ) (a : α) (l : List α) :
    cls key k (a :: l) = (if key a = k then [a] else []) ++ cls key k l := by
  unfold cls
  by_cases h : key a = k <;> simp [h]

theorem cls_append (k : κ) (l₁ l₂ : List α) : cls key k (l₁ ++ l₂) = cls key k l₁ ++ cls key k l₂ := by
  simp [cls, List.filter_append]

theorem mem_cls {k : κ} {x : α} {l : List α} : x ∈ cls key k l ↔ x ∈ l ∧ key x = k := by
  simp [cls, List.mem_filter]

omit [DecidableEq κ] in
theorem mem_insertBy {a x : α} {l : List α} : x ∈ insertBy key le a l ↔ x = a ∨ x ∈ l := by
  induction l with
  | nil => simp [insertBy]
  | cons b l ih =>
    unfold insertBy
    split
    · simp
    · simp only [List.mem_cons, ih]
      constructor
      · rintro (h | h | h) <;> simp [h]
      · rintro (h | h | h) <;> simp [h]

omit [DecidableEq κ] in
theorem mem_sortBy {x : α} {l : List α} : x ∈ sortBy key le l ↔ x ∈ l := by
  induction l with
  | nil => simp [sortBy]
  | cons a l ih => simp [sortBy, mem_insertBy, ih]

omit [DecidableEq κ] in
theorem insertBy_append {a : α} {l₁ l₂ : List α} (h : ∀ b ∈ l₁, le (key a) (key b) = false) :
    insertBy key le a (l₁ ++ l₂) = l₁ ++ insertBy key le a l₂ := by
  induction l₁ with
  | nil => rfl
  | cons b l ih =>
    simp only [List.cons_append, insertBy, h b List.mem_cons_self, Bool.false_eq_true, if_false,
      ih fun c hc => h c (List.mem_cons_of_mem _ hc)]

omit [DecidableEq κ] in
/-- all stable sorts agree (`List.mergeSort_cons` is insertion) -/
theorem sortBy_eq_mergeSort (h : TotalLe le) (l : List α) :
    sortBy key le l = l.mergeSort fun a b => le (key a) (key b) := by
  induction l with
  | nil => simp [sortBy]
  | cons a l ih =>
    obtain ⟨l₁, l₂, h1, h2, h3⟩ := List.mergeSort_cons (le := fun a b => le (key a) (key b))
      (fun _ _ _ => h.trans _ _ _) (fun a b => (Bool.or_eq_true _ _).mpr (h.total (key a) (key b))) a l
    rw [sortBy, ih, h2, h1, insertBy_append fun b hb => by simpa using h3 b hb]
    cases l₂ with
    | nil => rfl
    | cons b t =>
      have hs := h.pairwise_mergeSort key (a :: l)
      rw [h1] at hs
      have : le (key a) (key b) = true :=
        List.rel_of_pairwise_cons (List.pairwise_append.1 hs).2.1 List.mem_cons_self
      simp only [insertBy, this, if_true]

omit [DecidableEq κ] in
theorem sorted_sortBy (h : TotalLe le) (l : List α) : SortedBy key le (sortBy key le l) := by
  rw [sortBy_eq_mergeSort h]
  exact h.pairwise_mergeSort key l

theorem cls_sortBy (h : TotalLe le) (k : κ) (l : List α) : cls key k (sortBy key le l) = cls key k l := by
  rw [sortBy_eq_mergeSort h]
  have hs : (cls key k l).Sublist (l.mergeSort fun a b => le (key a) (key b)) :=
    List.sublist_mergeSort (le := fun a b => le (key a) (key b)) (fun _ _ _ => h.trans _ _ _)
      (fun a b => (Bool.or_eq_true _ _).mpr (h.total (key a) (key b)))
      (List.pairwise_of_forall_mem_list fun a ha b hb => by
        show le (key a) (key b) = true
        rw [(mem_cls.1 ha).2, (mem_cls.1 hb).2]; exact h.refl k)
      List.filter_sublist
  have h1 := hs.filter fun x => decide (key x = k)
  simp only [cls, List.filter_filter, Bool.and_self] at h1
  exact (h1.eq_of_length ((List.mergeSort_perm l _).filter _).length_eq.symm).symm

theorem eq_nil_of_cls_nil {l : List α} (h : ∀ k, cls key k l = []) : l = [] := by
  cases l with
  | nil => rfl
  | cons b t =>
    have := h (key b)
    rw [cls_cons] at this
    simp at this

theorem eq_of_sorted_of_classEq (h : TotalLe le) {l₁ l₂ : List α}
    (h₁ : SortedBy key le l₁) (h₂ : SortedBy key le l₂) (he : ClassEq key l₁ l₂) : l₁ = l₂ := by
  induction l₁ generalizing l₂ with
  | nil =>
    exact (eq_nil_of_cls_nil (l := l₂) fun k => (he k).symm).symm
  | cons a t₁ ih =>
    cases l₂ with
    | nil => exact eq_nil_of_cls_nil (l := a :: t₁) fun k => he k
    | cons b t₂ =>
      unfold SortedBy at h₁ h₂
      rw [List.pairwise_cons] at h₁ h₂
      -- each head occurs in the other list; were the keys different, each would stand behind the other's head
      have hmem : ∀ {x y : α} {s t : List α}, ClassEq key (x :: s) (y :: t) → x = y ∨ x ∈ t := fun {x y s t} he => by
        have : x ∈ cls key (key x) (y :: t) := by rw [← he]; simp [cls_cons]
        exact List.mem_cons.1 (mem_cls.1 this).1
      have hk : key a = key b := by
        rcases hmem he with rfl | ha2
        · rfl
        rcases hmem (fun k => (he k).symm) with rfl | hb1
        · rfl
        exact h.antisymm _ _ (h₁.1 b hb1) (h₂.1 a ha2)
      have hab : a = b := by
        have := he (key a)
        rw [cls_cons, cls_cons] at this
        simp [hk] at this
        exact this.1
      subst hab
      congr 1
      apply ih h₁.2 h₂.2
      intro k
      have := he k
      rw [cls_cons, cls_cons] at this
      exact List.append_cancel_left this

theorem sortBy_congr (h : TotalLe le) {l₁ l₂ : List α} (he : ClassEq key l₁ l₂) :
    sortBy key le l₁ = sortBy key le l₂ := by
  apply eq_of_sorted_of_classEq h (sorted_sortBy h l₁) (sorted_sortBy h l₂)
  intro k
  rw [cls_sortBy h, cls_sortBy h, he k]

theorem classEq_of_perm_of_inj {l₁ l₂ : List α} (hp : l₁.Perm l₂)
    (hinj : ∀ a ∈ l₁, ∀ b ∈ l₁, key a = key b → a = b) : ClassEq key l₁ l₂ := by
  intro k
  -- a class is one item repeated: it is sorted for any relation, and sorted permutations are equal
  refine (hp.filter _).eq_of_pairwise (le := fun _ _ => True) (fun a b ha hb _ _ => ?_)
    (List.pairwise_of_forall fun _ _ => trivial) (List.pairwise_of_forall fun _ _ => trivial)
  have ha' := mem_cls.mp ha
  have hb' := mem_cls.mp ((hp.filter _).symm.subset hb)
  exact hinj a ha'.1 b hb'.1 (ha'.2.trans hb'.2.symm)

theorem sortBy_eq_of_perm_of_inj (h : TotalLe le) {l₁ l₂ : List α} (hp : l₁.Perm l₂)
    (hinj : ∀ a ∈ l₁, ∀ b ∈ l₁, key a = key b → a = b) : sortBy key le l₁ = sortBy key le l₂ :=
  sortBy_congr h (classEq_of_perm_of_inj hp hinj)

theorem ClassEq.refl (l : List α) : ClassEq key l l := fun _ => rfl

theorem ClassEq.append {a₁ a₂ b₁ b₂ : List α} (ha : ClassEq key a₁ a₂) (hb : ClassEq key b₁ b₂) :
    ClassEq key (a₁ ++ b₁) (a₂ ++ b₂) := by
  intro k; rw [cls_append, cls_append, ha k, hb k]

theorem ClassEq.filter {l₁ l₂ : List α} (p : α → Bool) (h : ClassEq key l₁ l₂) :
    ClassEq key (l₁.filter p) (l₂.filter p) := by
  have comm : ∀ k (l : List α), cls key k (l.filter p) = (cls key k l).filter p := fun k l => by
    unfold cls
    rw [List.filter_filter, List.filter_filter]
    exact List.filter_congr fun x _ => Bool.and_comm _ _
  intro k
  rw [comm, comm, h k]

theorem ClassEq.foldl_perm {β : Type} {f : List α → β → List α}
    (hcongr : ∀ x s₁ s₂, ClassEq key s₁ s₂ → ClassEq key (f s₁ x) (f s₂ x))
    (hswap : ∀ x y s, ClassEq key (f (f s x) y) (f (f s y) x)) {l₁ l₂ : List β} (hp : l₁.Perm l₂) :
    ∀ s₁ s₂, ClassEq key s₁ s₂ → ClassEq key (l₁.foldl f s₁) (l₂.foldl f s₂) := by
  induction hp with
  | nil => exact fun _ _ h => h
  | cons x _ ih => exact fun s₁ s₂ h => ih _ _ (hcongr x s₁ s₂ h)
  | swap x y l =>
    intro s₁ s₂ h
    rw [List.foldl_cons, List.foldl_cons, List.foldl_cons, List.foldl_cons]
    refine List.foldl_rel (r := ClassEq key) ?_ fun z _ c c' hc => hcongr z c c' hc
    intro k
    rw [hswap y x s₁ k]
    exact hcongr y _ _ (hcongr x s₁ s₂ h) k
  | trans _ _ ih₁ ih₂ =>
    exact fun s₁ s₂ h k => (ih₁ s₁ s₁ (ClassEq.refl _) k).trans (ih₂ s₁ s₂ h k)

end

section
variable {α β κ : Type} [DecidableEq κ]

theorem cls_map (key : α → κ) (key' : β → κ) (f : α → β) (hf : ∀ x, key' (f x) = key x) (k : κ) (l : List α) :
    cls key' k (l.map f) = (cls key k l).map f := by
  simp only [cls, List.filter_map, Function.comp_def, hf]

theorem ClassEq.map {key : α → κ} {key' : β → κ} (f : α → β) (hf : ∀ x, key' (f x) = key x) {l₁ l₂ : List α}
    (h : ClassEq key l₁ l₂) : ClassEq key' (l₁.map f) (l₂.map f) := by
  intro k; rw [cls_map key key' f hf, cls_map key key' f hf, h k]

end

theorem SetOrder.perm {α : Type} {π₁ π₂ l₁ l₂ : List α} (h₁ : SetOrder π₁ l₁) (h₂ : SetOrder π₂ l₂)
    (hl : ∀ x, x ∈ l₁ ↔ x ∈ l₂) : π₁.Perm π₂ := by
  apply (List.perm_ext_iff_of_nodup h₁.1 h₂.1).mpr
  intro x
  rw [h₁.2 x, h₂.2 x, hl x]

theorem mem_dedup {α : Type} [DecidableEq α] {x : α} {l : List α} : x ∈ dedup l ↔ x ∈ l := by
  induction l with
  | nil => simp [dedup]
  | cons a l ih =>
    simp only [dedup, List.mem_cons, List.mem_filter, ih, decide_eq_true_eq]
    by_cases h : x = a <;> simp [h]

theorem nodup_dedup {α : Type} [DecidableEq α] (l : List α) : (dedup l).Nodup := by
  induction l with
  | nil => simp [dedup]
  | cons a l ih =>
    simp only [dedup, List.nodup_cons, List.mem_filter, decide_eq_true_eq]
    exact ⟨fun h => h.2 rfl, ih.filter _⟩

/-- so `SetOrder` is not vacuous -/
theorem setOrder_dedup {α : Type} [DecidableEq α] (l : List α) : SetOrder (dedup l) l :=
  ⟨nodup_dedup l, fun _ => mem_dedup⟩

theorem subsetB_iff {α : Type} [DecidableEq α] {a b : List α} : subsetB a b = true ↔ ∀ x ∈ a, x ∈ b := by
  simp [subsetB]

theorem insertBy_le_congr {α κ₁ κ₂ : Type} (key₁ : α → κ₁) (le₁ : κ₁ → κ₁ → Bool) (key₂ : α → κ₂)
    (le₂ : κ₂ → κ₂ → Bool) (a : α) (l : List α)
    (h : ∀ b ∈ l, le₁ (key₁ a) (key₁ b) = le₂ (key₂ a) (key₂ b)) :
    insertBy key₁ le₁ a l = insertBy key₂ le₂ a l := by
  induction l with
  | nil => rfl
  | cons b l ih =>
    unfold insertBy
    rw [h b List.mem_cons_self]
    split
    · rfl
    · congr 1
      exact ih fun c hc => h c (List.mem_cons_of_mem _ hc)

theorem sortBy_le_congr {α κ₁ κ₂ : Type} (key₁ : α → κ₁) (le₁ : κ₁ → κ₁ → Bool) (key₂ : α → κ₂)
    (le₂ : κ₂ → κ₂ → Bool) (l : List α)
    (h : ∀ a ∈ l, ∀ b ∈ l, le₁ (key₁ a) (key₁ b) = le₂ (key₂ a) (key₂ b)) :
    sortBy key₁ le₁ l = sortBy key₂ le₂ l := by
  induction l with
  | nil => rfl
  | cons a l ih =>
    simp only [sortBy]
    rw [ih fun x hx y hy => h x (List.mem_cons_of_mem _ hx) y (List.mem_cons_of_mem _ hy)]
    apply insertBy_le_congr
    intro b hb
    exact h a List.mem_cons_self b (List.mem_cons_of_mem _ (mem_sortBy.mp hb))

theorem sortBy_lex_tie {α κ₁ κ₂ : Type} [DecidableEq κ₁] {le₁ : κ₁ → κ₁ → Bool} {le₂ : κ₂ → κ₂ → Bool}
    (r₁ : ∀ k, le₁ k k = true) (r₂ : ∀ k, le₂ k k = true) (key₁ : α → κ₁) (key₂ : α → κ₂) (l : List α)
    (htie : ∀ a ∈ l, ∀ b ∈ l, key₁ a = key₁ b → key₂ a = key₂ b) :
    sortBy (fun x => (key₁ x, key₂ x)) (fun a b => if a.1 = b.1 then le₂ a.2 b.2 else le₁ a.1 b.1) l =
      sortBy key₁ le₁ l := by
  apply sortBy_le_congr
  intro a ha b hb
  by_cases h : key₁ a = key₁ b
  · simp only [h, if_true, htie a ha b hb h, r₁, r₂]
  · simp only [h, if_false]

theorem callerKey_inj (a b : Caller) (h : callerKey a = callerKey b) : a = b := by
  cases a <;> cases b <;> simp_all [callerKey, pyStr]

theorem pyStr_inj {π : List Caller} (hnone : some "None" ∉ π) :
    ∀ a ∈ π, ∀ b ∈ π, pyStr a = pyStr b → a = b := by
  intro a ha b hb h
  cases a <;> cases b <;> simp only [pyStr] at h
  · rfl
  · exact absurd (h ▸ hb) hnone
  · exact absurd (h ▸ ha) hnone
  · rw [h]

theorem wrapProc_key (f : String) (p : Proc) : (wrapProc f p).key = p.key := rfl

theorem dedupTyGo_congr (s₁ s₂ : List (String × String)) (l : List Proc)
    (h : ∀ p ∈ l, (p.ty ∈ s₁ ↔ p.ty ∈ s₂)) : dedupTyGo s₁ l = dedupTyGo s₂ l := by
  fun_induction dedupTyGo s₁ l generalizing s₂
  · rfl
  · rename_i p l h1 ih
    rw [dedupTyGo, if_pos ((h p List.mem_cons_self).1 h1)]
    exact ih _ fun q hq => h q (List.mem_cons_of_mem _ hq)
  · rename_i p l h1 ih
    rw [dedupTyGo, if_neg (mt (h p List.mem_cons_self).2 h1)]
    exact congrArg _ (ih _ fun q hq => by simp only [List.mem_cons, h q (List.mem_cons_of_mem _ hq)])

theorem cls_dedupTyGo (k : String × String) (seen : List (String × String)) (l : List Proc) :
    cls Proc.key k (dedupTyGo seen l) = dedupTyGo seen (cls Proc.key k l) := by
  fun_induction dedupTyGo seen l
  · rfl
  · rename_i seen p l hs ih
    rw [ih, cls_cons]
    by_cases hk : p.key = k
    · rw [if_pos hk, List.singleton_append, dedupTyGo, if_pos hs]
    · rw [if_neg hk, List.nil_append]
  · rename_i seen p l hs ih
    rw [cls_cons, cls_cons, ih]
    by_cases hk : p.key = k
    · rw [if_pos hk, List.singleton_append, List.singleton_append, dedupTyGo, if_neg hs]
    · rw [if_neg hk, List.nil_append, List.nil_append]
      -- no item of another class has the type of `p`: whether that type counts as seen is irrelevant there
      refine dedupTyGo_congr _ _ _ fun q hq => ?_
      suffices q.ty ≠ p.ty by simp [this]
      intro hty
      refine hk (.trans ?_ (mem_cls.mp hq).2)
      simp only [Proc.key, ← show q.tyNs = p.tyNs from congrArg Prod.fst hty,
        ← show q.tyName = p.tyName from congrArg Prod.snd hty]

theorem ClassEq.dedupTy {l₁ l₂ : List Proc} (h : ClassEq Proc.key l₁ l₂) :
    ClassEq Proc.key (dedupTy l₁) (dedupTy l₂) := by
  intro k
  unfold Order.dedupTy
  rw [cls_dedupTyGo, cls_dedupTyGo, h k]

/-- what `addImported .. n r` does to the entries for `n` -/
def bump (r : Reason) (n : String) (c : Imports) : Imports :=
  if c.isEmpty then [(n, r)] else c.map fun e => (e.1, e.2.or r)

theorem cls_addImported (st : Imports) (n : String) (r : Reason) (k : String) :
    cls Prod.fst k (addImported st n r) = if n = k then bump r n (cls Prod.fst k st) else cls Prod.fst k st := by
  have hnil : cls Prod.fst n st = [] ↔ ¬ st.any (fun e => e.1 == n) = true := by
    simp only [cls, List.filter_eq_nil_iff, decide_eq_true_eq, List.any_eq_true, beq_iff_eq, not_exists, not_and]
  unfold addImported
  split
  · rename_i hany
    rw [cls_map Prod.fst Prod.fst _ (fun x => by split <;> rfl)]
    split
    · rename_i hk
      subst hk
      have hne : (cls Prod.fst n st).isEmpty = false := by
        rw [Bool.eq_false_iff, Ne, List.isEmpty_iff, hnil]; exact fun h => h hany
      simp only [bump, hne, Bool.false_eq_true, if_false]
      exact List.map_congr_left fun e he => by simp [(mem_cls.1 he).2]
    · rename_i hk
      conv => rhs; rw [← List.map_id (cls Prod.fst k st)]
      exact List.map_congr_left fun e he => by
        have : e.1 ≠ n := fun h2 => hk (h2.symm.trans (mem_cls.1 he).2)
        simp [this]
  · rename_i hany
    rw [cls_append, cls_cons, cls_nil]
    split
    · rename_i hk
      subst hk
      simp [hnil.2 hany, bump]
    · rename_i hk
      simp

theorem bump_bump (r : Reason) (n : String) (c : Imports) : bump r n (bump r n c) = bump r n c := by
  have hor : ∀ x : Reason, (x.or r).or r = x.or r := by
    intro x; cases x; cases r; simp [Reason.or]
  unfold bump
  cases c with
  | nil => simp [Reason.or]
  | cons e t => simp [hor]

def writeStep (c : Cache) (w : String × String) : Cache := (w.1, w.2) :: c.filter (fun e => e.1 != w.1)

theorem overlay_eq (writes old : Cache) : overlay writes old = writes.foldl writeStep old := rfl

theorem lookup_writeStep (c : Cache) (w : String × String) (k : String) :
    lookup (writeStep c w) k = if w.1 = k then some w.2 else lookup c k := by
  unfold lookup writeStep
  split
  · next h => simp [h]
  · next h =>
    rw [List.find?_cons_of_neg (by simpa using h), List.find?_filter]
    congr 2
    funext e
    by_cases h2 : e.1 = k <;> simp [h2, Ne.symm h]

/-- the disjunction is the induction invariant -/
theorem lookup_foldl_writeStep (k : String) (ws : Cache) : ∀ c₁ c₂ : Cache,
    (k ∈ ws.map (·.1) ∨ lookup c₁ k = lookup c₂ k) →
    lookup (ws.foldl writeStep c₁) k = lookup (ws.foldl writeStep c₂) k := by
  induction ws with
  | nil => intro c₁ c₂ h; simpa using h
  | cons w ws ih =>
    intro c₁ c₂ h
    refine ih _ _ ?_
    rw [lookup_writeStep, lookup_writeStep]
    split
    · exact .inr rfl
    · next hw => exact h.imp_left fun h' => (List.mem_cons.mp h').resolve_left (Ne.symm hw)

theorem dirGet_dirPut (d : Dir) (p q : String) (b : Bytes) :
    dirGet (dirPut d p b) q = if p = q then some b else dirGet d q := by
  induction d with
  | nil => simp [dirPut, dirGet]
  | cons e d ih =>
    obtain ⟨r, c⟩ := e
    by_cases h1 : r = p
    · subst h1; by_cases h2 : r = q <;> simp [dirPut, dirGet, h2]
    · by_cases h2 : r = q
      · subst h2; simp [dirPut, dirGet, h1, Ne.symm h1]
      · simp [dirPut, dirGet, h1, h2, ih]

theorem dirGet_writeFile (d : Dir) (w : Write) (q : String) :
    dirGet (writeFile d w) q =
      if w.path = q then
        some (match w.mode with | .wb => w.out | .ab => (dirGet d w.path).getD [] ++ w.out)
      else dirGet d q := by
  cases hm : w.mode <;> simp [writeFile, hm, dirGet_dirPut]

/-- invariant: nothing is promised yet for `p`, or the directory holds what is promised so far -/
theorem build_meets_promise_aux (p : String) (b : Bytes) :
    ∀ (ws : List Write) (d : Dir) (acc : Option Bytes), (acc = none ∨ dirGet d p = acc) →
      promisedFrom acc ws p = some b → dirGet (build d ws) p = some b := by
  intro ws d acc h hp
  fun_induction promisedFrom acc ws p generalizing d <;> simp only [build, List.foldl_cons]
  · subst hp
    exact h.elim (fun h => nomatch h) id
  · rename_i acc w ws hm ih
    exact ih (writeFile d w) (Or.inr (by rw [dirGet_writeFile, if_pos rfl, hm])) hp
  · rename_i acc w ws hm ih
    refine ih (writeFile d w) ?_ hp
    cases acc with
    | none => exact Or.inl rfl
    | some a =>
      refine Or.inr ?_
      rw [dirGet_writeFile, if_pos rfl, hm, h.resolve_left nofun]
      rfl
  · rename_i w ws p hw ih
    exact ih (writeFile d w) (by rw [dirGet_writeFile, if_neg hw]; exact h) hp

theorem promisedFrom_isSome (p : String) : ∀ (ws : List Write) (acc : Option Bytes),
    (acc.isSome ∨ ∃ w ∈ ws, w.path = p ∧ w.mode = .wb) → (promisedFrom acc ws p).isSome := by
  intro ws acc h
  fun_induction promisedFrom acc ws p
  · exact h.elim id fun ⟨_, hw, _⟩ => nomatch hw
  · rename_i ih
    exact ih (Or.inl rfl)
  · rename_i acc w ws hm ih
    refine ih (h.imp (by cases acc <;> simp) ?_)
    rintro ⟨w', hw', hp', hm'⟩
    rcases List.mem_cons.mp hw' with rfl | e
    · cases hm.symm.trans hm'
    · exact ⟨w', e, hp', hm'⟩
  · rename_i w ws p hw ih
    refine ih (h.imp_right ?_)
    rintro ⟨w', hw', hp', hm'⟩
    rcases List.mem_cons.mp hw' with rfl | e
    · exact absurd hp' hw
    · exact ⟨w', e, hp', hm'⟩

end StoneVerif.Order
