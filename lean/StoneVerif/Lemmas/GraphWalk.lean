import StoneVerif.Lemmas.GraphLookup
/-! The dependency walk: one invocation (`expand`) and the invariants of `dfs`. Every statement assumes `= .ok`: that
`dfsFuel` suffices is not proved. -/
namespace StoneVerif.Graph

variable {g : Graph}

/-- what is known about a pending argument: its node (the owner of a field) lies in `T`, and a
field's doc read in the context it travels with yields what its references denote -/
def ItemOk (g : Graph) (T : Id → Prop) : Item → Prop
  | .node i => T i
  | .field o f ctx => T o ∧ ∃ no, g.node? o = some no ∧ f ∈ no.fields ∧
      parseDocs g ctx f.docRefs = .ok (specDocs g no.ns f.docRefs)

theorem expand_node_some {a : Id} {kids : List Item}
    (he : expand g (.node a) = .ok kids) : ∃ nd, g.node? a = some nd := by
  simp only [expand] at he
  split at he
  · simp at he
  · rename_i nd hnd
    exact ⟨nd, hnd⟩

theorem expand_node_spec (hda : docsAgree g = true) {a : Id} {nd : Node} (hnd : g.node? a = some nd)
    {kids : List Item} (he : expand g (.node a) = .ok kids) :
    (∀ b, Item.node b ∈ kids ↔ b ∈ nd.ownHard ∨ b ∈ docTargets g nd.ns nd.docRefs) ∧
    ∀ o f c, Item.field o f c ∈ kids ↔ nd.isType = true ∧ f ∈ nd.fields ∧ a = o ∧ nd.ns = c := by
  simp only [expand, hnd, docsAgree_node hda hnd] at he
  have hf : ∀ o f c, (∃ x ∈ nd.fields, a = o ∧ x = f ∧ nd.ns = c) ↔ f ∈ nd.fields ∧ a = o ∧ nd.ns = c :=
    fun o f c => ⟨fun ⟨_, h, e, rfl, e'⟩ => ⟨h, e, e'⟩, fun ⟨h, e, e'⟩ => ⟨f, h, e, rfl, e'⟩⟩
  simp only [← mem_specDocs (g := g)]
  unfold Node.ownHard Node.isType
  cases hk : nd.kind <;> simp only [hk] at he <;> cases he <;>
    simp [List.mem_append, List.mem_map, or_assoc, hf]
  -- a struct: the enumerated subtypes are called after the doc
  exact fun b => or_congr_right (or_assoc.symm.trans or_comm)

theorem expand_field_spec {o : Id} {f : Field} {ctx ns : String}
    (hparse : parseDocs g ctx f.docRefs = .ok (specDocs g ns f.docRefs)) {kids : List Item}
    (he : expand g (.field o f ctx) = .ok kids) :
    (∀ b, Item.node b ∈ kids ↔ b ∈ f.ty.refs ∨ b ∈ docTargets g ns f.docRefs) ∧
    ∀ o' f' c, Item.field o' f' c ∉ kids := by
  simp only [expand, hparse, Except.ok.injEq] at he
  subst he
  simp [← mem_specDocs (g := g), List.mem_append, List.mem_map]

theorem expand_sound (hwf : g.refsOk = true) (hda : docsAgree g = true) {T : Id → Prop}
    (hT : Stable (succ g) T) {it : Item} {kids : List Item}
    (hit : ItemOk g T it) (he : expand g it = .ok kids) :
    ∀ k ∈ kids, ItemOk g T k := by
  cases it with
  | node a =>
    obtain ⟨nd, hnd⟩ := expand_node_some he
    obtain ⟨h1, h2⟩ := expand_node_spec hda hnd he
    rintro (b | ⟨o, f, c⟩) hk
    · exact hT.walked hit hnd (.inr ((h1 b).1 hk))
    · obtain ⟨_, hf, rfl, rfl⟩ := (h2 o f c).1 hk
      exact ⟨hit, nd, hnd, hf, docsAgree_fields hda hnd hf⟩
  | field o f ctx =>
    obtain ⟨hTo, no, hno, hf, hparse⟩ := hit
    obtain ⟨h1, h2⟩ := expand_field_spec hparse he
    rintro (b | ⟨o', f', c⟩) hk
    · exact hT.walked hTo hno (.inl ⟨isType_of_field hwf hno hf, f, hf, (h1 b).1 hk⟩)
    · exact absurd hk (h2 _ _ _)

theorem dfs_induction (g : Graph) (P : List Item → St → Prop)
    (hskip : ∀ it rest st, st.seen.contains it.key = true → P (it :: rest) st → P rest st)
    (hvisit : ∀ it rest st kids, st.seen.contains it.key = false → expand g it = .ok kids →
        P (it :: rest) st → P (kids ++ rest) (st.visit g it)) :
    ∀ fuel stack st st', dfs g fuel stack st = .ok st' → P stack st → P [] st' := by
  intro fuel stack st st' h hp
  fun_induction dfs g fuel stack st <;> try cases h
  · exact hp
  · rename_i hseen ih
    exact ih h (hskip _ _ _ hseen hp)
  · rename_i hseen kids he ih
    exact ih h (hvisit _ _ _ kids (by simpa using hseen) he hp)

theorem key_node {it : Item} {a : Id} (h : it.key = .node a) : it = .node a := by
  cases it with
  | node i => simpa [Item.key] using h
  | field o f ctx => simp [Item.key] at h

theorem key_field {it : Item} {o : Id} {f : Field} (h : it.key = .field o f "") : ∃ ctx, it = .field o f ctx := by
  cases it with
  | node i => simp [Item.key] at h
  | field o' f' ctx =>
    simp only [Item.key, Item.field.injEq] at h
    exact ⟨ctx, by rw [h.1, h.2.1]⟩

/-- what `visit` adds to `output_types` / `output_routes` is its argument, when that is a node passing `p` -/
theorem mem_collect {out : List Id} {p : Id → Bool} {it : Item} {t : Id} :
    t ∈ (match it with
      | .node id => if p id then out ++ [id] else out
      | .field .. => out) ↔ t ∈ out ∨ (it = .node t ∧ p t = true) := by
  cases it with
  | node j =>
    by_cases hp : p j = true
    · simp only [hp, if_true, List.mem_append, List.mem_singleton, Item.node.injEq]
      exact or_congr_right ⟨fun e => ⟨e.symm, e ▸ hp⟩, fun e => e.1.symm⟩
    · simp only [hp, Item.node.injEq]
      exact ⟨Or.inl, fun h => h.elim (fun h => h) fun e => absurd (e.1 ▸ e.2) hp⟩
  | field o f ctx => simp

theorem dfs_sound (hwf : g.refsOk = true) (hda : docsAgree g = true) {T : Id → Prop}
    (hT : Stable (succ g) T) {fuel : Nat} {stack : List Item} {st st' : St}
    (h : dfs g fuel stack st = .ok st')
    (hstack : ∀ it ∈ stack, ItemOk g T it) (htypes : ∀ t ∈ st.types, T t)
    (hroutes : ∀ r ∈ st.routes, T r) :
    (∀ t ∈ st'.types, T t) ∧ (∀ r ∈ st'.routes, T r) := by
  refine (dfs_induction g
    (fun stack st => (∀ it ∈ stack, ItemOk g T it) ∧ (∀ t ∈ st.types, T t) ∧ (∀ r ∈ st.routes, T r))
    (fun it rest st _ hp => ⟨fun k hk => hp.1 k (List.mem_cons_of_mem _ hk), hp.2⟩)
    ?_ fuel stack st st' h ⟨hstack, htypes, hroutes⟩).2
  intro it rest st kids _ he hp
  have hit := hp.1 it (List.mem_cons_self ..)
  have hk := expand_sound hwf hda hT hit he
  refine ⟨fun k hk' => (List.mem_append.1 hk').elim (hk k) fun h => hp.1 k (List.mem_cons_of_mem _ h), ?_, ?_⟩
  · intro t ht
    rcases (mem_collect (p := g.isTypeId)).1 ht with h | ⟨rfl, _⟩
    · exact hp.2.1 t h
    · exact hit
  · intro r hr
    rcases (mem_collect (p := g.isRouteId)).1 hr with h | ⟨rfl, _⟩
    · exact hp.2.2 r h
    · exact hit

def Covered (seen : List Item) (stack : List Item) (k : Item) : Prop :=
  k ∈ seen ∨ k ∈ stack.map Item.key

theorem covered_nil {seen : List Item} {k : Item} : Covered seen [] k ↔ k ∈ seen := by
  simp [Covered]

theorem covered_skip {seen rest : List Item} {it k : Item} (hs : it.key ∈ seen)
    (h : Covered seen (it :: rest) k) : Covered seen rest k := by
  rcases h with h | h
  · exact Or.inl h
  · simp only [List.map_cons, List.mem_cons] at h
    rcases h with rfl | h
    · exact Or.inl hs
    · exact Or.inr h

theorem covered_visit {seen rest kids : List Item} {it k : Item}
    (h : Covered seen (it :: rest) k) : Covered (it.key :: seen) (kids ++ rest) k := by
  rcases h with h | h
  · exact Or.inl (List.mem_cons_of_mem _ h)
  · simp only [List.map_cons, List.mem_cons] at h
    rcases h with rfl | h
    · exact Or.inl (List.mem_cons_self ..)
    · exact Or.inr (by simp only [List.map_append, List.mem_append]; exact Or.inr h)

theorem covered_kid {seen rest kids : List Item} {c : Item} (h : c ∈ kids) :
    Covered seen (kids ++ rest) c.key := by
  refine Or.inr ?_
  simp only [List.map_append, List.mem_append]
  exact Or.inl (List.mem_map_of_mem h)

/-- the marked key `k` is that of an argument the walk was invoked on, and every call that invocation made is
marked or pending -/
def Done (g : Graph) (seen stack : List Item) (k : Item) : Prop :=
  ∃ it kids, it.key = k ∧ ItemOk g (fun _ => True) it ∧ expand g it = .ok kids ∧
    (∀ c ∈ kids, Covered seen stack c.key)

/-- completeness invariant of `dfs` (`stack0`: the initial stack); at the end `done` says that the marked set is closed
under the calls of `expand`, `init` that it holds the starting points -/
structure Inv (g : Graph) (stack0 : List Item) (stack : List Item) (st : St) : Prop where
  wf : ∀ it ∈ stack, ItemOk g (fun _ => True) it
  done : ∀ k ∈ st.seen, Done g st.seen stack k
  types : ∀ i, i ∈ st.types ↔ (Item.node i ∈ st.seen ∧ g.isTypeId i = true)
  routes : ∀ i, i ∈ st.routes ↔ (Item.node i ∈ st.seen ∧ g.isRouteId i = true)
  init : ∀ it ∈ stack0, Covered st.seen stack it.key

theorem visit_collects {seen : List Item} {out : List Id} {p : Id → Bool} {it : Item}
    (h : ∀ i, i ∈ out ↔ (Item.node i ∈ seen ∧ p i = true)) :
    ∀ i, i ∈ (match it with
        | .node id => if p id then out ++ [id] else out
        | .field .. => out) ↔ (Item.node i ∈ it.key :: seen ∧ p i = true) := by
  intro i
  rw [mem_collect, h i, List.mem_cons, or_and_right]
  exact or_comm.trans (or_congr_left (and_congr_left fun _ => ⟨fun e => by subst e; rfl, fun e => key_node e.symm⟩))

theorem inv_final (hwf : g.refsOk = true) (hda : docsAgree g = true) {stack0 : List Item}
    {fuel : Nat} {stack : List Item} {st st' : St} (h : dfs g fuel stack st = .ok st')
    (hinv : Inv g stack0 stack st) : Inv g stack0 [] st' := by
  refine dfs_induction g (Inv g stack0) ?_ ?_ fuel stack st st' h hinv
  · intro it rest st hseen hp
    have hs : it.key ∈ st.seen := by simpa using hseen
    refine ⟨fun k hk => hp.wf k (List.mem_cons_of_mem _ hk), ?_, hp.types, hp.routes, ?_⟩
    · intro k hk
      obtain ⟨it', kids, h1, h2, h3, h4⟩ := hp.done k hk
      exact ⟨it', kids, h1, h2, h3, fun c hc => covered_skip hs (h4 c hc)⟩
    · intro i hi
      exact covered_skip hs (hp.init i hi)
  · intro it rest st kids hseen he hp
    have hitok := hp.wf it (List.mem_cons_self ..)
    have hkids := expand_sound hwf hda (T := fun _ => True) (fun _ _ _ _ => trivial) hitok he
    refine ⟨?_, ?_, ?_, ?_, ?_⟩
    · intro k hk
      rcases List.mem_append.1 hk with h | h
      · exact hkids k h
      · exact hp.wf k (List.mem_cons_of_mem _ h)
    · intro k hk
      simp only [St.visit, List.mem_cons] at hk
      rcases hk with rfl | hk
      · exact ⟨it, kids, rfl, hitok, he, fun c hc => covered_kid hc⟩
      · obtain ⟨it', kids', h1, h2, h3, h4⟩ := hp.done k hk
        exact ⟨it', kids', h1, h2, h3, fun c hc => covered_visit (h4 c hc)⟩
    · simp only [St.visit]
      exact visit_collects (p := g.isTypeId) hp.types
    · simp only [St.visit]
      exact visit_collects (p := g.isRouteId) hp.routes
    · intro i hi
      simp only [St.visit]
      exact covered_visit (hp.init i hi)

end StoneVerif.Graph
