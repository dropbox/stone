import StoneVerif.Lemmas.FeCompileClosed
/-!
The image of a declaration does not depend on where it stands: two accepted inputs with the same declarations per
namespace (any distribution over files, any order) give every (namespace, name) the same type and the same alias.
-/
namespace StoneVerif.FeCompile

def SameDecls (fs fs' : List File) : Prop := ∀ ns d, d ∈ declsOf fs ns ↔ d ∈ declsOf fs' ns

theorem SameDecls.symm {fs fs'} (h : SameDecls fs fs') : SameDecls fs' fs := fun ns d => (h ns d).symm

namespace L

/-- under unique names (passes 1-2 succeeded) the definition found by name is found in any arrangement -/
theorem findDef_congr {E E' fs fs'} (hE : EnvOK E fs) (hE' : EnvOK E' fs') (hs : SameDecls fs fs') (ns n : String) :
    findDef fs ns n = findDef fs' ns n := by
  have one : ∀ {E' fs fs'}, EnvOK E' fs' → SameDecls fs fs' → ∀ d, findDef fs ns n = some d →
      findDef fs' ns n = some d := by
    intro E' fs fs' hE' hs d hf
    obtain ⟨hm, hn⟩ := findDef_mem hf
    have hm' := (hs ns d).mp hm
    have hl' := hE'.lookup_decl hm' hn
    rw [hE'.findDef_eq, hl']
    cases d <;> simp [declName] at hn <;> subst hn <;> rfl
  cases hf : findDef fs ns n with
  | some d => exact (one hE' hs d hf).symm
  | none =>
    cases hf' : findDef fs' ns n with
    | none => rfl
    | some d' =>
      have := one hE hs.symm d' hf'
      rw [hf] at this; cases this

theorem imported_congr {fs fs'} (hs : SameDecls fs fs') (ns q : String) : imported fs ns q = imported fs' ns q := by
  unfold imported specDecls
  rw [Bool.eq_iff_iff, List.contains_iff_mem, List.contains_iff_mem]
  exact hs ns _

theorem meaningIn_congr {E E' fs fs'} (hE : EnvOK E fs) (hE' : EnvOK E' fs') (hs : SameDecls fs fs') (ns n : String) :
    meaningIn fs ns n = meaningIn fs' ns n := by
  unfold meaningIn
  rw [findDef_congr hE hE' hs]

theorem headMeaning_congr {E E' fs fs'} (hE : EnvOK E fs) (hE' : EnvOK E' fs') (hs : SameDecls fs fs') (cur : String)
    (h : RefHead) : headMeaning fs cur h = headMeaning fs' cur h := by
  unfold headMeaning
  split
  · rw [imported_congr hs, meaningIn_congr hE hE' hs]
  · rw [meaningIn_congr hE hE' hs]

theorem denoteRef_congr {rx E E' fs fs'} (hE : EnvOK E fs) (hE' : EnvOK E' fs') (hs : SameDecls fs fs') (r : TRef) :
    ∀ (cur : String), denoteRef rx fs cur r = denoteRef rx fs' cur r := by
  induction r using TRef.induct with
  | step r ih =>
    intro cur
    rw [denoteRef_eq, denoteRef_eq, headMeaning_congr hE hE' hs]
    split
    · rename_i ens k _
      rw [optMapM_congr (fun a ha => ih a ha ens)]
    all_goals rfl

theorem denoteType_congr {rx E E' fs fs'} (hE : EnvOK E fs) (hE' : EnvOK E' fs') (hs : SameDecls fs fs')
    (ns : String) (d : TypeDecl) : denoteType rx fs ns d = denoteType rx fs' ns d := by
  have hp : denoteParent rx fs ns d = denoteParent rx fs' ns d := by
    unfold denoteParent
    split
    · rfl
    · rw [denoteRef_congr hE hE' hs]
  have hf : ∀ b, optMapM (denoteField rx fs ns b) d.fields = optMapM (denoteField rx fs' ns b) d.fields := by
    intro b
    apply optMapM_congr
    intro f _
    unfold denoteField
    split
    · rfl
    · rw [denoteRef_congr hE hE' hs]
  have ho : ∀ p, inheritsOther fs p = inheritsOther fs' p := by
    intro p
    unfold inheritsOther
    split
    · unfold isOpenUnion; rw [findDef_congr hE hE' hs]
    · rfl
  unfold denoteType
  rw [hp, hf]
  simp only [ho]

theorem type?_eq {rx E fs api} (hE : EnvOK E fs) (h : denoteCore rx fs = some api) :
    (fun k => api.type? k) = typeS rx fs :=
  ext_of_below (fun ⟨ns, n⟩ c hc => by
    unfold Api.type? at hc
    obtain ⟨o, ho, hc⟩ := Option.bind_eq_some_iff.mp hc
    obtain ⟨_, ht, _⟩ := denoteNs_eq_some (denoteNs_of_ns? h ho)
    obtain ⟨d, hd, hg⟩ := optMapM_mem ht _ (mem_of_lookup hc)
    obtain ⟨c', hdt, hg⟩ := Option.map_eq_some_iff.mp hg
    cases hg
    rw [hE.typeS_eq (hE.lookup_type hd), hdt]) fun _ hs => hasType_of_isType h (typeS_isSome hs)

theorem alias?_eq {rx E fs api} (hE : EnvOK E fs) (h : denoteCore rx fs = some api) :
    (fun k => api.alias? k) = aliasS rx fs :=
  ext_of_below (fun ⟨ns, n⟩ t hc => by
    unfold Api.alias? at hc
    obtain ⟨o, ho, hc⟩ := Option.bind_eq_some_iff.mp hc
    obtain ⟨_, _, ha, _⟩ := denoteNs_eq_some (denoteNs_of_ns? h ho)
    obtain ⟨⟨pn, pr⟩, hp, hg⟩ := optMapM_mem ha _ (mem_of_lookup hc)
    obtain ⟨t', hdt, hg⟩ := Option.map_eq_some_iff.mp hg
    cases hg
    rw [hE.aliasS_eq (hE.lookup_alias hp), hdt]) fun _ hs => hasAlias_of_isAlias h (aliasS_isSome hs)

theorem compile_order_independent {rx fs fs' api api'} (h : compileCore rx fs = .ok api) (h' : compileCore rx fs' = .ok api')
    (hs : SameDecls fs fs') (k : Key) : api.type? k = api'.type? k ∧ api.alias? k = api'.alias? k := by
  obtain ⟨E, _, _, _, hEb, _⟩ := compileCore_eq_ok h
  obtain ⟨E', _, _, _, hEb', _⟩ := compileCore_eq_ok h'
  have hE := buildEnv_envOK hEb
  have hE' := buildEnv_envOK hEb'
  have ht := congrFun (type?_eq hE (compile_denote h)) k
  have ht' := congrFun (type?_eq hE' (compile_denote h')) k
  have ha := congrFun (alias?_eq hE (compile_denote h)) k
  have ha' := congrFun (alias?_eq hE' (compile_denote h')) k
  rw [ht, ht', ha, ha']
  unfold typeS aliasS
  rw [findDef_congr hE hE' hs]
  constructor
  · split
    · exact denoteType_congr hE hE' hs _ _
    · rfl
  · split
    · exact denoteRef_congr hE hE' hs _ _
    · rfl

end L
end StoneVerif.FeCompile
