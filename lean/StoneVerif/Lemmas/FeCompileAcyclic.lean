import StoneVerif.Lemmas.FeCompileDenote
import StoneVerif.Lemmas.FeCompileGraph
/-!
Acyclicity: the notions of C02's statement (`Path`, `Api.parentEdge`, `Api.aliasEdge`), and the alias half of
`compile_acyclic` (Lemmas/FeCompileFull.lean): the targets pass 3 has set so far never contain a cycle through aliases /
List / Map / Nullable (`pass3_aliasAcyc`) -- `setAlias` searches from the new target before it enters it
(`Gr.acyclic_push`), `populate` leaves the alias table alone, and a target, once set, never changes.
The parents half is not here: `compile_acyclic` reads it off the ancestor walk of `set_attributes`.  `Topo.acyclic`
(a table that enters every type after its parent, under a new key, has no cycle of parents) stands on its own.
-/
namespace StoneVerif.FeCompile

inductive Path (R : Key → Key → Prop) : Key → Key → Prop
  | single {a b} : R a b → Path R a b
  | cons {a b c} : R a b → Path R b c → Path R a c

def Api.parentEdge (api : Api) (a b : Key) : Prop := (api.type? a).bind (·.parent) = some b

def Api.aliasEdge (api : Api) (a b : Key) : Prop := ∃ t, api.alias? a = some t ∧ b ∈ t.aliases

namespace L

inductive Reach (R : Key → Key → Prop) : Key → Key → Prop
  | refl {a} : Reach R a a
  | cons {a b c} : R a b → Reach R b c → Reach R a c

theorem Reach.trans {R a b c} (h1 : Reach R a b) (h2 : Reach R b c) : Reach R a c := by
  induction h1 with
  | refl => exact h2
  | cons hr _ ih => exact .cons hr (ih h2)

theorem path_toGr {R : Key → Key → Prop} {succ : Key → List Key} (h : ∀ a b, R a b → b ∈ succ a) {a b}
    (p : Path R a b) : Gr.Path succ a b := by
  induction p with
  | single hr => exact .single (h _ _ hr)
  | cons hr _ ih => exact .cons (h _ _ hr) ih

def edgeP (done : List (Key × CType)) (a b : Key) : Prop := (done.lookup a).bind (·.parent) = some b

def Topo : List (Key × CType) → Prop
  | [] => True
  | (k, c) :: rest => (∀ p, c.parent = some p → (rest.lookup p).isSome) ∧ rest.lookup k = none ∧ Topo rest

/-- position counted from the end of the first entry under `k` (0 = absent) -/
def rank : List (Key × CType) → Key → Nat
  | [], _ => 0
  | (k, _) :: rest, x => if x == k then rest.length + 1 else rank rest x

theorem rank_le : ∀ (l : List (Key × CType)) (x : Key), rank l x ≤ l.length
  | [], _ => by simp [rank]
  | (k, _) :: rest, x => by
    simp only [rank, List.length_cons]
    split
    · omega
    · have := rank_le rest x; omega

theorem Topo.edge_target : ∀ {l : List (Key × CType)}, Topo l → ∀ {a b}, edgeP l a b → (l.lookup b).isSome
  | [], _, a, b, h => by simp [edgeP] at h
  | (k, c) :: rest, ht, a, b, h => by
    obtain ⟨hp, hk, hrest⟩ := ht
    unfold edgeP at h
    rw [List.lookup_cons] at h
    have key : (rest.lookup b).isSome := by
      split at h
      · exact hp b (by simpa using h)
      · exact hrest.edge_target (a := a) h
    exact lookup_isSome_cons key

theorem Topo.rank_lt : ∀ {l : List (Key × CType)}, Topo l → ∀ {a b}, edgeP l a b → rank l b < rank l a
  | [], _, a, b, h => by simp [edgeP] at h
  | (k, c) :: rest, ht, a, b, h => by
    obtain ⟨hp, hk, hrest⟩ := ht
    unfold edgeP at h
    rw [List.lookup_cons] at h
    -- the target is in `rest`, so it is not the new key
    have hbk : (rest.lookup b).isSome → (b == k) = false := by
      intro hb
      rw [beq_eq_false_iff_ne]
      rintro rfl
      rw [hk] at hb; cases hb
    split at h
    · rename_i hak
      simp only [rank, hak, hbk (hp b (by simpa using h)), ↓reduceIte, Bool.false_eq_true]
      have := rank_le rest b
      omega
    · rename_i hak
      have hak' : (a == k) = false := by simpa using hak
      simp only [rank, hak', hbk (hrest.edge_target (a := a) h), Bool.false_eq_true, ↓reduceIte]
      exact hrest.rank_lt h

theorem Topo.acyclic {l : List (Key × CType)} (ht : Topo l) (k : Key) : ¬ Path (edgeP l) k k := by
  have : ∀ {a b}, Path (edgeP l) a b → rank l b < rank l a := by
    intro a b p
    induction p with
    | single hr => exact ht.rank_lt hr
    | cons hr _ ih => have := ht.rank_lt hr; omega
  intro p
  have := this p
  omega

theorem aliasSucc_cons (k : Key) (t : Ty) (A : AliasMap) (x : Key) :
    aliasSucc (lookOf ((k, t) :: A)) x = if x == k then t.aliases else aliasSucc (lookOf A) x := by
  unfold aliasSucc lookOf
  rw [List.lookup_cons]
  cases x == k <;> rfl

theorem pass3_aliasAcyc {rx E fs st} (hE : EnvOK E fs) (h : pass3 rx E = .ok st) :
    Gr.Acyclic (aliasSucc (lookOf st.aliases)) := by
  refine pass3Nss_induct (P := fun st => Gr.Acyclic (aliasSucc (lookOf st.aliases))) ?_ ?_
    (Gr.acyclic_of_no_edge fun _ => rfl) (pass3_eq_ok h).1
  · intro st ns n r st' hP _ h
    obtain ⟨t, _, hno, rfl⟩ := setAlias_eq_ok h
    refine Gr.acyclic_push (a := (ns, n)) hP ?_ ?_
    · intro x hx y hy
      rw [aliasSucc_cons, if_neg (by simpa using hx)] at hy
      exact hy
    · intro m hm
      rw [aliasSucc_cons, if_pos (beq_self_eq_true _)] at hm
      exact Gr.search_no _ (Gr.anyTri_no_iff.mp hno m hm)
  · intro st ns d st' hP hd _ h
    refine populate_induct (P := fun st => Gr.Acyclic (aliasSucc (lookOf st.aliases))) (fun hP _ _ => hP)
      (fun hP _ _ hs => ?_) _ hP (hE.lookup_type (hE.files ▸ hd)) h
    obtain ⟨_, _, ha⟩ := populateStep_done hs
    rw [ha]; exact hP

end L
end StoneVerif.FeCompile
