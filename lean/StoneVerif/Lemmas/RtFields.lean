import StoneVerif.Lemmas.RtModelDecode
/-!
The table loop of `decode_struct_fields` (`finishFields`) as one independent step per field (`fieldStep`), the results
collected in table order (`runFields`); the two agree on a table with distinct names, started on slots that hold none
of them (`finishFields_run_from`; from no slots, `finishFields_run`). C06 does not take the loop apart
(`DecL.finishFields_inv` carries an invariant through it); C06 and C08 describe an assignment by the slots it leaves
(`V8.slotsAfter`).
-/
namespace StoneVerif.Rt

/-- what `Attribute.__set__` stores (`none`: the attribute ends up unset) -/
def storeVal (E : Ext) (env : Env) (f : FieldDef) (x : PyVal) : R (Option PyVal) :=
  if f.attrNullable && isNoneV x then .ok none
  else if f.attrUserDefined then (validateTypeOnly env f.ty x).map fun _ => some x
  else (validate E env f.ty x).map some

/-- what `Attribute.__set__` checks -/
def AttrOK (E : Ext) (env : Env) (f : FieldDef) (y : PyVal) : Prop :=
  if f.attrUserDefined then validateTypeOnly env f.ty y = .ok () else validate E env f.ty y = .ok y

/-- one iteration of `decode_struct_fields` for field `f` -/
def fieldStep (E : Ext) (env : Env) (children : List (String × R PyVal)) (f : FieldDef) : R (Option PyVal) :=
  match childLookup f.name children with
  | some (.error e) => .error e
  | some (.ok v) => storeVal E env f v
  | none => if hasDefault env f.ty then storeVal E env f (getDefault f.ty) else .ok none

def addSlot (name : String) (o : Option PyVal) (tl : List (String × PyVal)) : List (String × PyVal) :=
  match o with
  | some y => (name, y) :: tl
  | none => tl

def runFields (E : Ext) (env : Env) (children : List (String × R PyVal)) : List FieldDef → R (List (String × PyVal))
  | [] => .ok []
  | f :: rest =>
    match fieldStep E env children f with
    | .error e => .error e
    | .ok o => match runFields E env children rest with
      | .error e => .error e
      | .ok tl => .ok (addSlot f.name o tl)

theorem storeVal_ok {E : Ext} {env : Env} {f : FieldDef} {y : PyVal}
    (hn : isNoneV y = false ∨ f.attrNullable = false) (hok : AttrOK E env f y) :
    storeVal E env f y = .ok (some y) := by
  have key : (f.attrNullable && isNoneV y) = false := by rcases hn with hn | hn <;> simp [hn]
  unfold AttrOK at hok
  rw [storeVal, key, if_neg Bool.false_ne_true]
  by_cases hu : f.attrUserDefined = true
  · rw [if_pos hu] at hok ⊢; rw [hok]; rfl
  · rw [if_neg hu] at hok ⊢; rw [hok]; rfl

theorem attrSet_storeVal (E : Ext) (env : Env) (f : FieldDef) (slots : List (String × PyVal)) (x : PyVal)
    (hfresh : lookupSlot f.name slots = none) :
    attrSet E env f slots x = match storeVal E env f x with
      | .error e => .error e
      | .ok o => .ok (slots ++ addSlot f.name o []) := by
  rw [attrSet_eq]
  unfold storeVal
  split
  · simp [addSlot, delSlot_fresh hfresh]
  · split
    · cases validateTypeOnly env f.ty x with
      | error e => rfl
      | ok u => simp [Except.map, addSlot, setSlot_fresh _ hfresh]
    · cases validate E env f.ty x with
      | error e => rfl
      | ok u => simp [Except.map, addSlot, setSlot_fresh _ hfresh]

theorem lookupSlot_addSlot_ne (n k : String) (o : Option PyVal) (h : (k == n) = false) :
    lookupSlot n (addSlot k o []) = none := by
  cases o <;> simp [addSlot, lookupSlot, h]

theorem finishFields_cons_fresh (E : Ext) (env : Env) (f : FieldDef) (rest : List FieldDef)
    (children : List (String × R PyVal)) (slots : List (String × PyVal)) (hfresh : lookupSlot f.name slots = none) :
    finishFields E env (f :: rest) children slots =
      match fieldStep E env children f with
      | .error e => .error e
      | .ok o => finishFields E env rest children (slots ++ addSlot f.name o []) := by
  rw [finishFields_cons]
  unfold fieldStep
  cases hc : childLookup f.name children with
  | none =>
    simp only []
    split
    · rw [attrSet_storeVal E env f slots _ hfresh]
      cases storeVal E env f (getDefault f.ty) <;> rfl
    · simp [addSlot]
  | some r =>
    cases r with
    | error e => rfl
    | ok v =>
      simp only []
      rw [attrSet_storeVal E env f slots _ hfresh]
      cases storeVal E env f v <;> rfl

theorem finishFields_run_from (E : Ext) (env : Env) (children : List (String × R PyVal)) :
    ∀ (fields : List FieldDef) (slots : List (String × PyVal)),
    (fields.map (·.name)).Nodup → (∀ f ∈ fields, lookupSlot f.name slots = none) →
    finishFields E env fields children slots =
      match runFields E env children fields with
      | .error e => .error e
      | .ok tl => .ok (slots ++ tl)
  | [], slots, _, _ => by simp [finishFields, runFields]
  | f :: rest, slots, hnd, hfresh => by
    obtain ⟨hf, hnd'⟩ := List.nodup_cons.1 hnd
    rw [finishFields_cons_fresh E env f rest children slots (hfresh f List.mem_cons_self)]
    simp only [runFields]
    cases fieldStep E env children f with
    | error e => rfl
    | ok o =>
      simp only []
      rw [finishFields_run_from E env children rest _ hnd' (fun g hg => by
        rw [lookupSlot_append, hfresh g (List.mem_cons_of_mem _ hg), Option.none_or]
        exact lookupSlot_addSlot_ne _ _ _ (by simpa using fun h => hf (List.mem_map.mpr ⟨g, hg, h.symm⟩)))]
      cases runFields E env children rest with
      | error e => rfl
      | ok tl => cases o <;> simp [addSlot]

theorem finishFields_run (E : Ext) (env : Env) (children : List (String × R PyVal)) (fields : List FieldDef)
    (hnd : (fields.map (·.name)).Nodup) : finishFields E env fields children [] = runFields E env children fields := by
  rw [finishFields_run_from E env children fields [] hnd (fun _ _ => rfl)]
  cases runFields E env children fields <;> rfl

theorem runFields_cons_ok {E : Ext} {env : Env} {children : List (String × R PyVal)} {f : FieldDef} {rest : List FieldDef}
    {slots : List (String × PyVal)} (h : runFields E env children (f :: rest) = .ok slots) :
    ∃ o tl, fieldStep E env children f = .ok o ∧ runFields E env children rest = .ok tl ∧ slots = addSlot f.name o tl := by
  simp only [runFields] at h
  split at h
  · cases h
  · rename_i o ho
    split at h
    · cases h
    · rename_i tl htl
      cases h
      exact ⟨o, tl, ho, htl, rfl⟩

theorem fieldStep_child_ok {E : Ext} {env : Env} {children : List (String × R PyVal)} {f : FieldDef} {o : Option PyVal}
    (h : fieldStep E env children f = .ok o) {r : R PyVal} (hr : childLookup f.name children = some r) : ∃ v, r = .ok v := by
  unfold fieldStep at h
  rw [hr] at h
  cases r with
  | error e => cases h
  | ok v => exact ⟨v, rfl⟩

theorem lookupSlot_runFields_of_not_mem (E : Ext) (env : Env) (children : List (String × R PyVal)) (n : String) :
    ∀ (fields : List FieldDef) (slots : List (String × PyVal)), runFields E env children fields = .ok slots →
    n ∉ fields.map (·.name) → lookupSlot n slots = none
  | [], slots, h, _ => by simp [runFields] at h; subst h; rfl
  | f :: rest, slots, h, hn => by
    obtain ⟨o, tl, -, htl, rfl⟩ := runFields_cons_ok h
    simp only [List.map, List.mem_cons, not_or] at hn
    have ih := lookupSlot_runFields_of_not_mem E env children n rest tl htl hn.2
    have hne : (f.name == n) = false := by simpa using fun h => hn.1 h.symm
    cases o <;> simp [addSlot, lookupSlot, hne, ih]

theorem runFields_steps (E : Ext) (env : Env) (children : List (String × R PyVal)) :
    ∀ (fields : List FieldDef) (slots : List (String × PyVal)), runFields E env children fields = .ok slots →
    (fields.map (·.name)).Nodup →
    ∀ f ∈ fields, fieldStep E env children f = .ok (lookupSlot f.name slots)
  | [], _, _, _, f, hf => by cases hf
  | f0 :: rest, slots, h, hnd, f, hf => by
    obtain ⟨hf0, hnd'⟩ := List.nodup_cons.1 hnd
    obtain ⟨o, tl, ho, htl, rfl⟩ := runFields_cons_ok h
    rcases List.mem_cons.mp hf with rfl | hf'
    · rw [ho]
      cases o with
      | some y => simp [addSlot, lookupSlot]
      | none => simp [addSlot, lookupSlot_runFields_of_not_mem E env children f.name rest tl htl hf0]
    · have ih := runFields_steps E env children rest tl htl hnd' f hf'
      rw [ih]
      have hne : (f0.name == f.name) = false := by
        simpa using fun h => hf0 (List.mem_map.mpr ⟨f, hf', h.symm⟩)
      cases o <;> simp [addSlot, lookupSlot, hne]

theorem runFields_of_steps (E : Ext) (env : Env) (children : List (String × R PyVal)) (o : FieldDef → Option PyVal) :
    ∀ (fields : List FieldDef), (∀ f ∈ fields, fieldStep E env children f = .ok (o f)) →
    runFields E env children fields = .ok (fields.filterMap fun f => (o f).map fun y => (f.name, y))
  | [], _ => rfl
  | f :: rest, h => by
    simp only [runFields, h f List.mem_cons_self,
      runFields_of_steps E env children o rest (fun g hg => h g (List.mem_cons_of_mem _ hg))]
    cases ho : o f <;> simp [addSlot, ho]

end StoneVerif.Rt
