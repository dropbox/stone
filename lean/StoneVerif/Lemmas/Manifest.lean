import StoneVerif.Model.Manifest
import StoneVerif.Lemmas.Path
/-! Manifest run vs real run: both refuse the same requests, before any file is written, and log the same names; only the real
run touches files, and it writes exactly the files it logs. -/
namespace StoneVerif.Manifest
open StoneVerif.Path

theorem joinSep_ne_dot (a : Str) (rest : List Str) (ha : Proper a) : joinSep [sep] (a :: rest) ≠ dot := by
  cases rest with
  | nil => simpa [joinSep] using ha.2.1
  | cons b r =>
    intro e
    simp only [joinSep] at e
    have : (a ++ [sep] ++ joinSep [sep] (b :: r)).length = 1 := by rw [e]; rfl
    have ha1 : a.length ≥ 1 := by
      cases a with
      | nil => exact absurd rfl ha.1
      | cons _ _ => simp
    simp at this; omega

theorem accepted_comps (cwd root p r : Str) (hcwd : isAbs cwd = true)
    (h : relativeOutputPath cwd root p = .ok r) :
    absComps cwd p = absComps cwd root ++ compsOfRel r := by
  rw [relativeOutputPath_spec cwd root p hcwd] at h
  by_cases hpre : absComps cwd root <+: absComps cwd p
  · simp only [hpre, if_true] at h
    have hr : r = relOf (absComps cwd root) (absComps cwd p) := by cases h; rfl
    obtain ⟨t, ht⟩ := hpre
    have hPp := absComps_proper cwd p hcwd
    rw [← ht] at hr hPp ⊢
    simp only [relOf, List.drop_left] at hr
    cases t with
    | nil => subst hr; simp [compsOfRel]
    | cons a rest =>
      have hprop : ∀ w ∈ a :: rest, Proper w := fun w hw => hPp w (by simp at hw ⊢; right; exact hw)
      simp only [] at hr
      subst hr
      have hne := joinSep_ne_dot a rest (hprop a (by simp))
      simp only [compsOfRel, hne, if_false]
      rw [splitOn_joinSep sep (a :: rest) (by simp) (fun w hw => (hprop w hw).2.2.2)]
  · simp [hpre] at h

theorem writeFile_spec (fs : FS) (k : List Str) (ap : Bool) (c : Str) :
    writeFile fs k ap c = .ok { fs with files := upsert fs.files k ap c } ∨ writeFile fs k ap c = .error .io := by
  unfold writeFile
  cases isDir fs k <;> cases isDir fs k.dropLast <;> simp

theorem commit_refused_iff (m : Bool) (cfg : Cfg) (st : RunState) (p : Str) (mk ap : Bool) (c : Str) :
    (commit m cfg st p mk ap c).2 = some .refused ↔ relativeOutputPath cfg.cwd cfg.root p = .error () := by
  unfold commit
  cases hv : relativeOutputPath cfg.cwd cfg.root p with
  | error e => simp
  | ok r =>
    cases m with
    | true => simp
    | false =>
      simp only [Bool.false_eq_true, if_false]
      rcases writeFile_spec (if mk then mkdirs st.fs (absComps cfg.cwd p).dropLast else st.fs) (absComps cfg.cwd p) ap c
        with h | h <;> simp [h]

theorem commit_refused_unchanged (m : Bool) (cfg : Cfg) (st st' : RunState) (p : Str) (mk ap : Bool) (c : Str)
    (h : commit m cfg st p mk ap c = (st', some .refused)) : st' = st := by
  have hv := (commit_refused_iff m cfg st p mk ap c).1 (by rw [h])
  unfold commit at h
  rw [hv] at h
  exact (Prod.mk.inj h).1.symm

theorem commit_manifest_files (cfg : Cfg) (st : RunState) (p : Str) (mk ap : Bool) (c : Str) :
    (commit true cfg st p mk ap c).1.fs = st.fs := by
  unfold commit; split <;> simp

theorem mkdirs_files (fs : FS) (c : List Str) : (mkdirs fs c).files = fs.files := rfl

theorem step_manifest_files (cfg : Cfg) (st : RunState) (op : Op) :
    (step true cfg st op).1.fs.files = st.fs.files := by
  cases op <;> simp [step, commit_manifest_files, mkdirs_files]

theorem run_cons_ok {m : Bool} {cfg : Cfg} {st st' : RunState} {op : Op} {ops : List Op} :
    run m cfg st (op :: ops) = (st', none) ↔
      ∃ st1, step m cfg st op = (st1, none) ∧ run m cfg st1 ops = (st', none) := by
  rw [run]
  cases hs : step m cfg st op with
  | mk st1 e1 => cases e1 <;> simp

theorem run_manifest_files (cfg : Cfg) (ops : List Op) : ∀ st, (run true cfg st ops).1.fs.files = st.fs.files := by
  induction ops with
  | nil => intro st; rfl
  | cons op ops ih =>
    intro st
    simp only [run]
    have := step_manifest_files cfg st op
    split
    · next st' heq => rw [ih st']; rw [heq] at this; exact this
    · next st' e heq => rw [heq] at this; exact this

/-- `D`: directories known to exist in both runs -/
def DirsInclude (D : List (List Str)) (fs : FS) : Prop := ∀ d ∈ D, d ∈ fs.dirs

theorem mkdirs_mono {fs : FS} {c d : List Str} (h : d ∈ fs.dirs) : d ∈ (mkdirs fs c).dirs := by
  simp [mkdirs, h]

theorem commit_real_ok {cfg : Cfg} {st st' : RunState} {p : Str} {mk ap : Bool} {c : Str}
    (h : commit false cfg st p mk ap c = (st', none)) :
    ∃ r, relativeOutputPath cfg.cwd cfg.root p = .ok r ∧
      st' = { fs := { (if mk then mkdirs st.fs (absComps cfg.cwd p).dropLast else st.fs) with
                files := upsert st.fs.files (absComps cfg.cwd p) ap c },
              log := st.log ++ [r] } := by
  unfold commit at h
  cases hv : relativeOutputPath cfg.cwd cfg.root p with
  | error e => rw [hv] at h; cases h
  | ok r =>
    rw [hv] at h
    simp only [Bool.false_eq_true, if_false] at h
    rcases writeFile_spec (if mk then mkdirs st.fs (absComps cfg.cwd p).dropLast else st.fs) (absComps cfg.cwd p) ap c
      with hw | hw <;> rw [hw] at h
    · exact ⟨r, rfl, by rw [← (Prod.mk.inj h).1]; cases mk <;> rfl⟩
    · cases h

theorem commit_pair (cfg : Cfg) (D : List (List Str)) (stR stM stR' : RunState) (p : Str) (mk ap : Bool) (c : Str)
    (hlog : stR.log = stM.log) (hR : DirsInclude D stR.fs) (hM : DirsInclude D stM.fs)
    (h : commit false cfg stR p mk ap c = (stR', none)) :
    ∃ stM', commit true cfg stM p mk ap c = (stM', none) ∧ stR'.log = stM'.log ∧
      DirsInclude D stR'.fs ∧ DirsInclude D stM'.fs := by
  obtain ⟨r, hv, rfl⟩ := commit_real_ok h
  refine ⟨{ stM with log := stM.log ++ [r] }, by simp [commit, hv], by simp [hlog], fun d hd => ?_, hM⟩
  cases mk with
  | true => exact mkdirs_mono (hR d hd)
  | false => exact hR d hd

/-- every `copy_to_path` destination is a directory that exists before the run (the way the built-in
backends call it: `obj_c_types` into `Resources/` after creating it, `swift_types` into the target folder) -/
def CopyIntoExisting (cfg : Cfg) (D : List (List Str)) (ops : List Op) : Prop :=
  ∀ srcName content dst, Op.copy srcName content dst ∈ ops → absComps cfg.cwd dst ≠ [] ∧ absComps cfg.cwd dst ∈ D

theorem isDir_of_include (D : List (List Str)) (fs : FS) (h : DirsInclude D fs) (c : List Str) (hc : c ∈ D) :
    isDir fs c = true := by
  simp [isDir, h c hc]

theorem step_pair (cfg : Cfg) (D : List (List Str)) (stR stM stR' : RunState) (op : Op)
    (hcopy : CopyIntoExisting cfg D [op])
    (hlog : stR.log = stM.log) (hR : DirsInclude D stR.fs) (hM : DirsInclude D stM.fs)
    (h : step false cfg stR op = (stR', none)) :
    ∃ stM', step true cfg stM op = (stM', none) ∧ stR'.log = stM'.log ∧
      DirsInclude D stR'.fs ∧ DirsInclude D stM'.fs := by
  cases op with
  | out rel ap c => exact commit_pair cfg D stR stM stR' _ _ _ _ hlog hR hM h
  | copy srcName c dst =>
    have hd := (hcopy srcName c dst (by simp)).2
    simp only [step, isDir_of_include D _ hR _ hd, isDir_of_include D _ hM _ hd, if_true] at h ⊢
    exact commit_pair cfg D stR stM stR' _ _ _ _ hlog hR hM h
  | swiftWrite c f =>
    simp only [step] at h ⊢
    exact commit_pair cfg D { stR with fs := mkdirs stR.fs (absComps cfg.cwd cfg.root) }
      { stM with fs := mkdirs stM.fs (absComps cfg.cwd cfg.root) } stR' _ _ _ _ hlog
      (fun d hd => mkdirs_mono (hR d hd)) (fun d hd => mkdirs_mono (hM d hd)) h

theorem run_pair (cfg : Cfg) (D : List (List Str)) (ops : List Op) : ∀ (stR stM stR' : RunState),
    CopyIntoExisting cfg D ops → stR.log = stM.log → DirsInclude D stR.fs → DirsInclude D stM.fs →
    run false cfg stR ops = (stR', none) →
    ∃ stM', run true cfg stM ops = (stM', none) ∧ stR'.log = stM'.log := by
  induction ops with
  | nil =>
    intro stR stM stR' _ hlog _ _ h
    cases h
    exact ⟨stM, rfl, hlog⟩
  | cons op ops ih =>
    intro stR stM stR' hcopy hlog hR hM h
    obtain ⟨st1, hs, h⟩ := run_cons_ok.1 h
    obtain ⟨stM1, hm1, hl1, hR1, hM1⟩ := step_pair cfg D stR stM st1 op
      (fun s c d hmem => hcopy s c d (by simp at hmem; simp [hmem])) hlog hR hM hs
    obtain ⟨stM', hm', hl'⟩ := ih st1 stM1 stR' (fun s c d hmem => hcopy s c d (by simp [hmem])) hl1 hR1 hM1 h
    exact ⟨stM', run_cons_ok.2 ⟨stM1, hm1, hm'⟩, hl'⟩

def keys (fs : FS) : List (List Str) := fs.files.map (·.1)

theorem mem_keys_upsert (files : List (List Str × Str)) (k k' : List Str) (ap : Bool) (c : Str) :
    k' ∈ (upsert files k ap c).map (·.1) ↔ k' ∈ files.map (·.1) ∨ k' = k := by
  induction files with
  | nil => simp [upsert]
  | cons kv rest ih =>
    simp only [upsert]
    split
    · next h => simp [h, or_comm]
    · simp only [List.map_cons, List.mem_cons, ih, or_assoc]

/-- every logged name is a file below the root, and every file is one of `K0` (those present at the start) or logged -/
def LogMatches (cfg : Cfg) (K0 : List (List Str)) (st : RunState) : Prop :=
  (∀ r ∈ st.log, absComps cfg.cwd cfg.root ++ compsOfRel r ∈ keys st.fs) ∧
  (∀ k ∈ keys st.fs, k ∈ K0 ∨ ∃ r ∈ st.log, k = absComps cfg.cwd cfg.root ++ compsOfRel r)

theorem commit_real_inv (cfg : Cfg) (hcwd : isAbs cfg.cwd = true) (K0 : List (List Str)) (st st' : RunState)
    (p : Str) (mk ap : Bool) (c : Str) (hinv : LogMatches cfg K0 st)
    (h : commit false cfg st p mk ap c = (st', none)) : LogMatches cfg K0 st' := by
  obtain ⟨r, hv, rfl⟩ := commit_real_ok h
  have hc := accepted_comps cfg.cwd cfg.root p r hcwd hv
  have hk : ∀ k', k' ∈ (upsert st.fs.files (absComps cfg.cwd p) ap c).map (·.1)
      ↔ k' ∈ keys st.fs ∨ k' = absComps cfg.cwd p := fun k' => mem_keys_upsert _ _ _ _ _
  constructor
  · intro r' hr'
    show _ ∈ (upsert st.fs.files (absComps cfg.cwd p) ap c).map (·.1)
    rw [hk]
    rcases List.mem_append.1 hr' with hr' | hr'
    · exact Or.inl (hinv.1 r' hr')
    · rw [List.mem_singleton.1 hr']; exact Or.inr hc.symm
  · intro k' hk'
    rcases (hk k').1 hk' with hk'' | rfl
    · rcases hinv.2 k' hk'' with h0 | ⟨r', hr', e⟩
      · exact Or.inl h0
      · exact Or.inr ⟨r', List.mem_append_left _ hr', e⟩
    · exact Or.inr ⟨r, by simp, hc⟩

theorem step_real_inv (cfg : Cfg) (hcwd : isAbs cfg.cwd = true) (K0 : List (List Str)) (st st' : RunState)
    (op : Op) (hinv : LogMatches cfg K0 st) (h : step false cfg st op = (st', none)) : LogMatches cfg K0 st' := by
  cases op with
  | out rel ap c => exact commit_real_inv cfg hcwd K0 st st' (join2 cfg.root rel) true ap c hinv h
  | copy srcName c dst =>
    exact commit_real_inv cfg hcwd K0 st st' (if isDir st.fs (absComps cfg.cwd dst) then join2 dst srcName else dst)
      false false c hinv h
  | swiftWrite c f =>
    exact commit_real_inv cfg hcwd K0 { st with fs := mkdirs st.fs (absComps cfg.cwd cfg.root) } st'
      (join2 cfg.root f) false false c hinv h

theorem run_real_inv (cfg : Cfg) (hcwd : isAbs cfg.cwd = true) (K0 : List (List Str)) (ops : List Op) :
    ∀ (st st' : RunState), LogMatches cfg K0 st → run false cfg st ops = (st', none) → LogMatches cfg K0 st' := by
  induction ops with
  | nil => intro st st' hinv h; cases h; exact hinv
  | cons op ops ih =>
    intro st st' hinv h
    obtain ⟨st1, hs, h⟩ := run_cons_ok.1 h
    exact ih st1 st' (step_real_inv cfg hcwd K0 st st1 op hinv hs) h

theorem mem_insertSorted (x y : Str) (l : List Str) : y ∈ insertSorted x l ↔ y = x ∨ y ∈ l := by
  induction l with
  | nil => simp [insertSorted]
  | cons z zs ih =>
    simp only [insertSorted]
    split
    · next h => subst h; simp
    · split
      · simp
      · simp [ih]; constructor <;> (intro h; rcases h with h | h | h <;> simp [h])

theorem mem_sortDedup (y : Str) (l : List Str) : y ∈ sortDedup l ↔ y ∈ l := by
  induction l with
  | nil => simp [sortDedup]
  | cons x xs ih =>
    have : sortDedup (x :: xs) = insertSorted x (sortDedup xs) := rfl
    rw [this, mem_insertSorted, ih]; simp

end StoneVerif.Manifest
