import StoneVerif.Lemmas.FeCompileDenote
/-!
Closure of the specification-level image: every (namespace, name) a type expression, a parent link or an
enumerated-subtype link of `denoteCore fs` mentions is a data type / alias that `denoteCore fs` holds in that namespace;
then `Faithful`: the members of each of its types are, position by position, the declared ones.
-/
namespace StoneVerif.FeCompile.L
open StoneVerif.FeParams (TyKind TyVal)

def GoodTy (fs : List File) (t : Ty) : Prop := (∀ k ∈ t.users, IsType fs k) ∧ (∀ k ∈ t.aliases, IsAlias fs k)

theorem GoodTy.prim {fs} (v : TyVal) : GoodTy fs (.prim v) := ⟨by simp [Ty.users], by simp [Ty.aliases]⟩
theorem GoodTy.void {fs} : GoodTy fs tyVoid := GoodTy.prim _
theorem GoodTy.nullable {fs t} (h : GoodTy fs t) : GoodTy fs (.nullable t) := ⟨by simpa [Ty.users] using h.1, by simpa [Ty.aliases] using h.2⟩

theorem GoodTy.user {fs k} (h : IsType fs k) : GoodTy fs (.user k) :=
  ⟨by intro x hx; simp [Ty.users] at hx; subst hx; exact h, by simp [Ty.aliases]⟩

theorem GoodTy.alias {fs k} (h : IsAlias fs k) : GoodTy fs (.alias k) :=
  ⟨by simp [Ty.users], by intro x hx; simp [Ty.aliases] at hx; subst hx; exact h⟩

theorem GoodTy.nullableMeaning {fs t} (h : GoodTy fs t) (hd : RefHead) : GoodTy fs (nullableMeaning hd t) := by
  unfold FeCompile.nullableMeaning
  split
  · exact h.nullable
  · exact h

theorem mkTy_good {fs tv} : ∀ {tys : List Ty}, (∀ t ∈ tys, GoodTy fs t) → GoodTy fs (mkTy tv tys) := by
  intro tys h
  unfold mkTy
  split
  · rename_i e
    have := h e (by simp)
    exact ⟨by simpa [Ty.users] using this.1, by simpa [Ty.aliases] using this.2⟩
  · rename_i k v
    have h1 := h k (by simp)
    have h2 := h v (by simp)
    refine ⟨?_, ?_⟩
    · intro x hx
      simp only [Ty.users, List.mem_append] at hx
      rcases hx with hx | hx
      · exact h1.1 x hx
      · exact h2.1 x hx
    · intro x hx
      simp only [Ty.aliases, List.mem_append] at hx
      rcases hx with hx | hx
      · exact h1.2 x hx
      · exact h2.2 x hx
  · exact GoodTy.prim _

theorem builtinMeaning_good {fs rx k tys lits kw t} (h : builtinMeaning rx k tys lits kw = some t)
    (hg : ∀ t ∈ tys, GoodTy fs t) : GoodTy fs t := by
  unfold builtinMeaning at h
  split at h
  · cases h; exact mkTy_good hg
  · cases h

theorem meaningIn_cases {fs ns name m} (h : meaningIn fs ns name = some m) :
    (∃ k, m = .builtin k) ∨ (m = .user (ns, name) ∧ IsType fs (ns, name)) ∨ (m = .alias (ns, name) ∧ IsAlias fs (ns, name)) := by
  unfold meaningIn at h
  split at h
  · rename_i d hf
    cases h
    obtain ⟨hm, hn⟩ := findDef_mem hf
    simp [declName] at hn
    exact Or.inr (Or.inl ⟨rfl, d, hm, hn⟩)
  · rename_i n r hf
    cases h
    obtain ⟨hm, hn⟩ := findDef_mem hf
    simp [declName] at hn
    subst hn
    exact Or.inr (Or.inr ⟨rfl, r, hm⟩)
  · cases hk : TyKind.ofName? name with
    | none => simp [hk] at h
    | some k => simp [hk] at h; exact Or.inl ⟨k, h.symm⟩

theorem headMeaning_cases {fs cur h ens m} (hm : headMeaning fs cur h = some (ens, m)) :
    (∃ k, m = .builtin k) ∨ (m = .user (ens, h.name) ∧ IsType fs (ens, h.name)) ∨
      (m = .alias (ens, h.name) ∧ IsAlias fs (ens, h.name)) := by
  unfold headMeaning at hm
  split at hm
  · rename_i q _
    split at hm
    · cases hq : meaningIn fs q h.name with
      | none => simp [hq] at hm
      | some m' =>
        simp [hq] at hm
        obtain ⟨rfl, rfl⟩ := hm
        exact meaningIn_cases hq
    · cases hm
  · cases hq : meaningIn fs cur h.name with
    | none => simp [hq] at hm
    | some m' =>
      simp [hq] at hm
      obtain ⟨rfl, rfl⟩ := hm
      exact meaningIn_cases hq

theorem denoteRef_good {rx fs} (r : TRef) : ∀ {cur t}, denoteRef rx fs cur r = some t → GoodTy fs t := by
  induction r using TRef.induct with
  | step r ih =>
    intro cur t hd
    rw [denoteRef_eq] at hd
    split at hd
    · rename_i ens k hm
      split at hd
      · rename_i tys htys
        cases hb : builtinMeaning rx k tys r.lits r.head.kw with
        | none => simp [hb] at hd
        | some t0 =>
          simp [hb] at hd
          subst hd
          refine (builtinMeaning_good hb fun ta hta => ?_).nullableMeaning r.head
          obtain ⟨a, ha, hda⟩ := optMapM_mem htys ta hta
          exact ih a ha hda
      · cases hd
    · rename_i ens k hm
      split at hd
      · cases hd
        rcases headMeaning_cases hm with ⟨_, he⟩ | ⟨he, hi⟩ | ⟨he, _⟩
        · cases he
        · cases he; exact (GoodTy.user hi).nullableMeaning r.head
        · cases he
      · cases hd
    · rename_i ens k hm
      split at hd
      · cases hd
        rcases headMeaning_cases hm with ⟨_, he⟩ | ⟨he, _⟩ | ⟨he, hi⟩
        · cases he
        · cases he
        · cases he; exact (GoodTy.alias hi).nullableMeaning r.head
      · cases hd
    · cases hd

theorem denoteField_good {rx fs ns b f c} (h : denoteField rx fs ns b f = some c) : GoodTy fs c.ty := by
  unfold denoteField at h
  split at h
  · cases h; exact GoodTy.void
  · rename_i r _
    obtain ⟨t, hd, rfl⟩ := Option.map_eq_some_iff.mp h
    exact denoteRef_good r hd

theorem denoteParent_good {rx fs ns d p} (h : denoteParent rx fs ns d = some (some p)) : IsType fs p := by
  unfold denoteParent at h
  split at h
  · cases h
  · rename_i r _
    split at h
    · rename_i k hd
      cases h
      exact (denoteRef_good r hd).1 p (by simp [Ty.users])
    · cases h

theorem denoteType_good {rx fs ns d c} (h : denoteType rx fs ns d = some c) :
    (∀ f ∈ c.fields, GoodTy fs f.ty) ∧ (∀ p, c.parent = some p → IsType fs p) := by
  unfold denoteType at h
  split at h
  · rename_i parent fields hp hf
    have hfields : ∀ f ∈ fields, GoodTy fs f.ty := by
      intro f hm
      obtain ⟨af, _, haf⟩ := optMapM_mem hf f hm
      exact denoteField_good haf
    have hpar : ∀ p, parent = some p → IsType fs p := by
      intro p hpp; subst hpp; exact denoteParent_good hp
    split at h
    · cases h; exact ⟨hfields, hpar⟩
    · cases h
      refine ⟨?_, hpar⟩
      intro f hm
      simp only at hm
      split at hm
      · simp only [List.mem_append, List.mem_singleton] at hm
        rcases hm with hm | rfl
        · exact hfields f hm
        · exact GoodTy.void
      · exact hfields f hm
  · cases h

theorem denoteRoute_good {rx fs ns r c} (h : denoteRoute rx fs ns r = some c) :
    GoodTy fs c.arg ∧ GoodTy fs c.result ∧ GoodTy fs c.error := by
  unfold denoteRoute at h
  split at h
  · rename_i a b e ha hb he
    cases h
    refine ⟨denoteRef_good _ ha, denoteRef_good _ hb, ?_⟩
    cases hre : r.error with
    | none => simp [hre] at he
    | some re => simp [hre] at he; exact denoteRef_good _ he
  · cases h

theorem subDen_good {rx fs ns p q} (h : subDen rx fs ns p = some q) : IsType fs q.2 := by
  unfold subDen at h
  split at h
  · rename_i k hd
    cases h
    exact (denoteRef_good _ hd).1 k (by simp [Ty.users])
  · cases h

structure NsGood (fs : List File) (ns : String) (o : NsOut) : Prop where
  name : o.name = ns
  tys : ∀ t ∈ o.tys, GoodTy fs t
  links : ∀ k ∈ o.links, IsType fs k
  hasTypes : ∀ d, Decl.type d ∈ declsOf fs ns → (o.types.lookup d.name).isSome
  hasAliases : ∀ n r, Decl.alias n r ∈ declsOf fs ns → (o.aliases.lookup n).isSome

theorem denoteNs_eq_some {rx fs ns o} (h : denoteNs rx fs ns = some o) :
    o.name = ns ∧
    optMapM (fun d => (denoteType rx fs ns d).map fun c => (d.name, c)) (typeDecls (declsOf fs ns)) = some o.types ∧
    optMapM (fun (p : String × TRef) => (denoteRef rx fs ns p.2).map fun t => (p.1, t)) (aliasDecls (declsOf fs ns)) =
      some o.aliases ∧
    optMapM (denoteRoute rx fs ns) (routeDecls (declsOf fs ns)) = some o.routes ∧
    ∃ enums, optMapM (denoteEnum rx fs ns) (typeDecls (declsOf fs ns)) = some enums ∧ o.enums = enums.filterMap id := by
  unfold denoteNs specDecls at h
  simp only at h
  split at h
  · rename_i types aliases routes enums ht ha hr he
    cases h
    exact ⟨rfl, ht, ha, hr, enums, he, rfl⟩
  · cases h

theorem denoteNs_good {rx fs ns o} (h : denoteNs rx fs ns = some o) : NsGood fs ns o := by
  obtain ⟨hname, ht, ha, hr, enums, he, hen⟩ := denoteNs_eq_some h
  refine ⟨hname, ?_, ?_, ?_, ?_⟩
  · intro t hm
    simp only [NsOut.tys, List.mem_append, List.mem_flatMap, List.mem_map] at hm
    rcases hm with (⟨p, hp, f, hf, rfl⟩ | ⟨p, hp, rfl⟩) | ⟨c, hc, hm⟩
    · obtain ⟨d, _, hd⟩ := optMapM_mem ht p hp
      obtain ⟨c, hdt, rfl⟩ := Option.map_eq_some_iff.mp hd
      exact (denoteType_good hdt).1 f hf
    · obtain ⟨q, _, hq⟩ := optMapM_mem ha p hp
      obtain ⟨t, hdr, rfl⟩ := Option.map_eq_some_iff.mp hq
      exact denoteRef_good _ hdr
    · obtain ⟨r, _, hrr⟩ := optMapM_mem hr c hc
      have := denoteRoute_good hrr
      simp only [List.mem_cons, List.mem_nil_iff, or_false] at hm
      rcases hm with rfl | rfl | rfl
      · exact this.1
      · exact this.2.1
      · exact this.2.2
  · intro k hm
    simp only [NsOut.links, hen, List.mem_append, List.mem_filterMap, List.mem_flatMap, List.mem_map] at hm
    rcases hm with ⟨p, hp, hpk⟩ | ⟨p, hp, q, hq, rfl⟩
    · obtain ⟨d, _, hd⟩ := optMapM_mem ht p hp
      obtain ⟨c, hdt, rfl⟩ := Option.map_eq_some_iff.mp hd
      exact (denoteType_good hdt).2 k hpk
    · simp only [id] at hp
      obtain ⟨e, hem, rfl⟩ := hp
      obtain ⟨d, _, hd⟩ := optMapM_mem he _ hem
      unfold denoteEnum at hd
      split at hd
      · rename_i subs ca _
        cases hs : optMapM (subDen rx fs ns) subs with
        | none => simp [hs] at hd
        | some l =>
          simp [hs] at hd
          subst hd
          obtain ⟨x, _, hx⟩ := optMapM_mem hs q hq
          exact subDen_good hx
      · cases hd
  · intro d hd
    obtain ⟨y, hy, hg⟩ := optMapM_of_mem ht d (mem_typeDecls.mpr hd)
    obtain ⟨c, hdt, rfl⟩ := Option.map_eq_some_iff.mp hg
    exact lookup_isSome_of_mem hy
  · intro n r hd
    obtain ⟨y, hy, hg⟩ := optMapM_of_mem ha (n, r) (mem_aliasDecls.mpr hd)
    obtain ⟨t, hdr, rfl⟩ := Option.map_eq_some_iff.mp hg
    exact lookup_isSome_of_mem hy

theorem denoteCore_eq_some {rx fs api} (h : denoteCore rx fs = some api) :
    optMapM (denoteNs rx fs) (nsNames fs []) = some api.nss := by
  unfold denoteCore at h
  obtain ⟨outs, ho, rfl⟩ := Option.map_eq_some_iff.mp h
  exact ho

theorem ns?_of_denote {rx fs api ns} (h : denoteCore rx fs = some api) (hn : ns ∈ nsNames fs []) :
    ∃ o, api.ns? ns = some o ∧ NsGood fs ns o := by
  have ho := denoteCore_eq_some h
  obtain ⟨o, hom, hden⟩ := optMapM_of_mem ho ns hn
  have hgood := denoteNs_good hden
  unfold Api.ns?
  cases hf : api.nss.find? (fun x => x.name == ns) with
  | none =>
    rw [List.find?_eq_none] at hf
    have := hf o hom
    simp [hgood.name] at this
  | some o' =>
    obtain ⟨hm', hp'⟩ := find?_key_some NsOut.name hf
    obtain ⟨ns', _, hden'⟩ := optMapM_mem ho o' hm'
    have hgood' := denoteNs_good hden'
    have : ns' = ns := by rw [← hgood'.name, hp']
    subst this
    exact ⟨o', rfl, hgood'⟩

theorem denoteNs_of_ns? {rx fs api ns o} (h : denoteCore rx fs = some api) (ho : api.ns? ns = some o) :
    denoteNs rx fs ns = some o := by
  unfold Api.ns? at ho
  obtain ⟨hmem, hname⟩ := find?_key_some NsOut.name ho
  obtain ⟨ns', _, hden⟩ := optMapM_mem (denoteCore_eq_some h) o hmem
  have := (denoteNs_eq_some hden).1
  rw [hname] at this
  subst this
  exact hden

theorem hasType_of_isType {rx fs api k} (h : denoteCore rx fs = some api) (hk : IsType fs k) : api.hasType k = true := by
  obtain ⟨d, hd, hn⟩ := hk
  obtain ⟨o, ho, hg⟩ := ns?_of_denote h (ns_of_decl hd)
  unfold Api.hasType Api.type?
  rw [ho]
  simp only [Option.bind_some]
  rw [← hn]
  exact hg.hasTypes d hd

theorem hasAlias_of_isAlias {rx fs api k} (h : denoteCore rx fs = some api) (hk : IsAlias fs k) : api.hasAlias k = true := by
  obtain ⟨r, hd⟩ := hk
  obtain ⟨o, ho, hg⟩ := ns?_of_denote h (ns_of_decl hd)
  unfold Api.hasAlias Api.alias?
  rw [ho]
  simp only [Option.bind_some]
  exact hg.hasAliases k.2 r hd

theorem denote_closed {rx fs api} (h : denoteCore rx fs = some api) : api.closed = true := by
  have hall : ∀ o ∈ api.nss, ∃ ns, NsGood fs ns o := by
    intro o hm
    obtain ⟨ns, _, hden⟩ := optMapM_mem (denoteCore_eq_some h) o hm
    exact ⟨ns, denoteNs_good hden⟩
  unfold Api.closed
  simp only [Bool.and_eq_true, List.all_eq_true, Api.tys, Api.links, List.mem_flatMap]
  refine ⟨?_, ?_⟩
  · rintro t ⟨o, ho, ht⟩
    obtain ⟨ns, hg⟩ := hall o ho
    have := hg.tys t ht
    exact ⟨fun k hk => hasType_of_isType h (this.1 k hk), fun k hk => hasAlias_of_isAlias h (this.2 k hk)⟩
  · rintro k ⟨o, ho, hk⟩
    obtain ⟨ns, hg⟩ := hall o ho
    exact hasType_of_isType h (hg.links k hk)

end StoneVerif.FeCompile.L

namespace StoneVerif.FeCompile

inductive Matched {α β} (R : α → β → Prop) : List α → List β → Prop
  | nil : Matched R [] []
  | cons {a b l l'} : R a b → Matched R l l' → Matched R (a :: l) (b :: l')

/-- the compiled member `c` is the declared member `f` of a type of namespace `ns`: same name, and its type is what
the declared type expression denotes (`Void` for a tag declared without one) -/
def MemberOf (rx : String → Bool) (fs : List File) (ns : String) (f : AField) (c : CField) : Prop :=
  c.name = f.name ∧ match f.ty with
    | some r => denoteRef rx fs ns r = some c.ty
    | none => c.ty = tyVoid

/-- the compiled type `c` has exactly the declared members of `d`, in declaration order, plus only the implicit
`other` (open unions only) -/
def MembersOf (rx : String → Bool) (fs : List File) (ns : String) (d : TypeDecl) (c : CType) : Prop :=
  ∃ members, Matched (MemberOf rx fs ns) d.fields members ∧
    c.fields = members ++ (if c.catchAll then [otherField] else []) ∧
    (c.catchAll = true → d.kind = .union false)

/-- every namespace (order of first mention) lists exactly its declared types (declaration order) with exactly
their declared members -/
def Faithful (rx : String → Bool) (fs : List File) (api : Api) : Prop :=
  Matched (fun ns (o : NsOut) => o.name = ns ∧
      Matched (fun (d : TypeDecl) (p : String × CType) => p.1 = d.name ∧ MembersOf rx fs ns d p.2)
        (typeDecls (declsOf fs ns)) o.types ∧
      Matched (fun (a : String × TRef) (p : String × Ty) => p.1 = a.1 ∧ denoteRef rx fs ns a.2 = some p.2)
        (aliasDecls (declsOf fs ns)) o.aliases)
    (nsNames fs []) api.nss

namespace L

theorem optMapM_matched {α β} {g : α → Option β} : ∀ {l : List α} {l'}, optMapM g l = some l' →
    Matched (fun x y => g x = some y) l l'
  | [], l', h => by simp only [optMapM] at h; cases h; exact .nil
  | x :: l, l', h => by
    obtain ⟨y, ys, hy, hys, rfl⟩ := optMapM_cons_some.mp h
    exact .cons hy (optMapM_matched hys)

theorem matched_imp {α β} {R S : α → β → Prop} (h : ∀ a b, R a b → S a b) : ∀ {l l'}, Matched R l l' → Matched S l l'
  | _, _, .nil => .nil
  | _, _, .cons hr ht => .cons (h _ _ hr) (matched_imp h ht)

theorem denoteField_member {rx fs ns b f c} (h : denoteField rx fs ns b f = some c) : MemberOf rx fs ns f c := by
  unfold denoteField at h
  unfold MemberOf
  split at h
  · rename_i hty
    cases h
    simp [hty]
  · rename_i r hty
    obtain ⟨t, hd, rfl⟩ := Option.map_eq_some_iff.mp h
    simp [hty, hd]

theorem denoteType_members {rx fs ns d c} (h : denoteType rx fs ns d = some c) : MembersOf rx fs ns d c := by
  obtain ⟨fields, hf, heq, hc⟩ := denoteType_fields h
  exact ⟨fields, matched_imp (fun a b hab => denoteField_member hab) (optMapM_matched hf), heq, hc⟩

theorem denoteNs_faithful {rx fs ns o} (h : denoteNs rx fs ns = some o) :
    o.name = ns ∧
      Matched (fun (d : TypeDecl) (p : String × CType) => p.1 = d.name ∧ MembersOf rx fs ns d p.2)
        (typeDecls (declsOf fs ns)) o.types ∧
      Matched (fun (a : String × TRef) (p : String × Ty) => p.1 = a.1 ∧ denoteRef rx fs ns a.2 = some p.2)
        (aliasDecls (declsOf fs ns)) o.aliases := by
  obtain ⟨hname, ht, ha, _⟩ := denoteNs_eq_some h
  refine ⟨hname, ?_, ?_⟩
  · refine matched_imp ?_ (optMapM_matched ht)
    intro d p hd
    obtain ⟨c, hdt, rfl⟩ := Option.map_eq_some_iff.mp hd
    exact ⟨rfl, denoteType_members hdt⟩
  · refine matched_imp ?_ (optMapM_matched ha)
    intro a p hd
    obtain ⟨t, hdr, rfl⟩ := Option.map_eq_some_iff.mp hd
    exact ⟨rfl, hdr⟩

theorem denote_faithful {rx fs api} (h : denoteCore rx fs = some api) : Faithful rx fs api :=
  matched_imp (fun _ _ hno => denoteNs_faithful hno) (optMapM_matched (denoteCore_eq_some h))

end L
end StoneVerif.FeCompile
