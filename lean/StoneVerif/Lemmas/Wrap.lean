import StoneVerif.Model.Wrap
/-! `textwrap.fill` keeps every word, in order. The chunks alternate between white space and other text (`AltFrom`), so
of two neighbours one is white space (`Spaced`); then the words of a concatenation are the words of the chunks
(`words_flatten`), and every step of the loop drops all-white chunks only (`lineStep_spec`). -/
namespace StoneVerif.Wrap

def AllWs (x : Str) : Prop := ∀ c ∈ x, isPySpace c = true

theorem splitBy_eq (p : Char → Bool) (s : Str) : splitBy p s = List.splitOnP p s := by
  fun_induction splitBy p s <;> simp_all [List.splitOnP_cons_eq_if_modifyHead]

theorem splitBy_append_ws (p : Char → Bool) (a b : Str) (c : Char) (hc : p c = true) :
    splitBy p (a ++ c :: b) = splitBy p a ++ splitBy p b := by
  rw [splitBy_eq, splitBy_eq, splitBy_eq, List.splitOnP_append_cons a b hc]

theorem words_append_ws (a b : Str) (c : Char) (hc : isPySpace c = true) :
    words (a ++ c :: b) = words a ++ words b := by
  simp [words, splitBy_append_ws _ a b c hc]

theorem words_ws_cons (c : Char) (b : Str) (hc : isPySpace c = true) : words (c :: b) = words b := by
  simp [words, splitBy, hc]

theorem words_nil : words [] = [] := by simp [words, splitBy]

theorem words_allWs_append (x b : Str) (h : AllWs x) : words (x ++ b) = words b := by
  induction x with
  | nil => rfl
  | cons c cs ih =>
    simp only [List.cons_append]
    rw [words_ws_cons _ _ (h c (by simp))]
    exact ih (fun d hd => h d (by simp [hd]))

theorem words_allWs (x : Str) (h : AllWs x) : words x = [] := by
  have := words_allWs_append x [] h
  simpa [words_nil] using this

theorem words_append_headWs (a : Str) (c : Char) (t : Str) (hc : isPySpace c = true) :
    words (a ++ c :: t) = words a ++ words (c :: t) := by
  rw [words_append_ws a t c hc, words_ws_cons c t hc]

def Ws1 (x : Str) : Prop := x ≠ [] ∧ AllWs x

/-- of any two neighbouring chunks one is non-empty white space -/
def Spaced : List Str → Prop
  | [] => True
  | [_] => True
  | x :: y :: r => (Ws1 x ∨ Ws1 y) ∧ Spaced (y :: r)

def chunkWords (cs : List Str) : List Str := cs.flatMap words

theorem Spaced.tail (x : Str) (r : List Str) (h : Spaced (x :: r)) : Spaced r := by
  cases r with
  | nil => trivial
  | cons y r' => exact h.2

theorem Spaced.of_append (a b : List Str) (h : Spaced (a ++ b)) : Spaced a ∧ Spaced b := by
  induction a with
  | nil => exact ⟨trivial, h⟩
  | cons x xs ih =>
    have ht := Spaced.tail x (xs ++ b) h
    have := ih ht
    refine ⟨?_, this.2⟩
    cases xs with
    | nil => trivial
    | cons y ys => exact ⟨h.1, this.1⟩

theorem words_flatten (cs : List Str) (h : Spaced cs) : words cs.flatten = chunkWords cs := by
  induction cs with
  | nil => simp [chunkWords, words_nil]
  | cons x rest ih =>
    have ihr := ih (Spaced.tail x rest h)
    cases rest with
    | nil => simp [chunkWords]
    | cons y r =>
      simp only [List.flatten_cons, chunkWords, List.flatMap_cons] at ihr ⊢
      rcases h.1 with hx | hy
      · rw [words_allWs_append x _ hx.2, words_allWs x hx.2, ihr]; simp
      · obtain ⟨hne, hws⟩ := hy
        cases y with
        | nil => exact absurd rfl hne
        | cons c t =>
          rw [List.cons_append, words_append_headWs x c (t ++ r.flatten) (hws c (by simp))]
          exact congrArg _ ihr

theorem isBlank_allWs (c : Str) (h : isBlank c = true) : AllWs c := by
  intro d hd
  simp [isBlank] at h
  exact h d hd

theorem takeFit_append (w : Int) (n : Nat) (l : List Str) : (takeFit w n l).1 ++ (takeFit w n l).2 = l := by
  induction l generalizing n with
  | nil => simp [takeFit]
  | cons c cs ih =>
    simp only [takeFit]; split
    · simp [ih]
    · simp

theorem chunkWords_append (a b : List Str) : chunkWords (a ++ b) = chunkWords a ++ chunkWords b := by simp [chunkWords]

theorem dropLeading_spec (started : Bool) (l : List Str) (h : Spaced l) :
    Spaced (dropLeading started l) ∧ chunkWords (dropLeading started l) = chunkWords l := by
  cases l with
  | nil => exact ⟨trivial, rfl⟩
  | cons c cs =>
    simp only [dropLeading]
    split
    · next hb =>
      simp at hb
      refine ⟨Spaced.tail c cs h, ?_⟩
      simp [chunkWords, words_allWs c (isBlank_allWs c hb.1)]
    · exact ⟨h, rfl⟩

theorem longWord_append (w : Int) (cur rest : List Str) :
    (longWord w cur rest).1 ++ (longWord w cur rest).2 = cur ++ rest := by
  fun_cases longWord w cur rest <;> simp_all

theorem dropTrailing_spec (cur : List Str) (h : Spaced cur) :
    Spaced (dropTrailing cur) ∧ chunkWords (dropTrailing cur) = chunkWords cur := by
  unfold dropTrailing
  split
  · next l hl =>
    split
    · next hb =>
      have e : cur = cur.dropLast ++ [l] := by
        obtain ⟨ys, hys⟩ := List.getLast?_eq_some_iff.1 hl
        rw [hys]; simp
      have hg := Spaced.of_append cur.dropLast [l] (e ▸ h)
      refine ⟨hg.1, ?_⟩
      conv => rhs; rw [e]
      rw [chunkWords_append]
      simp [chunkWords, words_allWs l (isBlank_allWs l hb)]
    · exact ⟨h, rfl⟩
  · exact ⟨h, rfl⟩

theorem lineStep_spec (w : Int) (started : Bool) (l : List Str) (h : Spaced l) :
    Spaced (lineStep w started l).1 ∧ Spaced (lineStep w started l).2 ∧
      chunkWords (lineStep w started l).1 ++ chunkWords (lineStep w started l).2 = chunkWords l := by
  have hdef : lineStep w started l =
      (dropTrailing (longWord w (takeFit w 0 (dropLeading started l)).1 (takeFit w 0 (dropLeading started l)).2).1,
        (longWord w (takeFit w 0 (dropLeading started l)).1 (takeFit w 0 (dropLeading started l)).2).2) := rfl
  rw [hdef]
  have h1 := dropLeading_spec started l h
  generalize dropLeading started l = l1 at *
  have h2 := takeFit_append w 0 l1
  have h3 := longWord_append w (takeFit w 0 l1).1 (takeFit w 0 l1).2
  generalize longWord w (takeFit w 0 l1).1 (takeFit w 0 l1).2 = r2 at *
  have e : r2.1 ++ r2.2 = l1 := by rw [h3, h2]
  have hg := Spaced.of_append r2.1 r2.2 (e ▸ h1.1)
  have h4 := dropTrailing_spec r2.1 hg.1
  refine ⟨h4.1, hg.2, ?_⟩
  show chunkWords (dropTrailing r2.1) ++ chunkWords r2.2 = chunkWords l
  rw [h4.2, ← chunkWords_append, e, h1.2]

theorem wrapLoop_spec (w : Int) (ini sub : Str) (started : Bool) (l : List Str) (hg : Spaced l) :
    (∀ ln ∈ wrapLoop w ini sub started l, Spaced ln.2) ∧
      (wrapLoop w ini sub started l).flatMap (fun ln => chunkWords ln.2) = chunkWords l := by
  fun_induction wrapLoop w ini sub started l with
  | case1 => simp [chunkWords]
  | case2 started c cs indent r _ hne ih =>
    have hs := lineStep_spec (w - (indent.length : Int)) started (c :: cs) hg
    obtain ⟨ih1, ih2⟩ := ih hs.2.1
    refine ⟨?_, ?_⟩
    · intro ln hln
      rcases List.mem_cons.mp hln with rfl | hln
      · exact hs.1
      · exact ih1 ln hln
    · rw [List.flatMap_cons, ih2]
      exact hs.2.2
  | case3 started c cs indent r _ hne ih =>
    have hs := lineStep_spec (w - (indent.length : Int)) started (c :: cs) hg
    have hr1 : r.1 = [] := by simpa using hne
    obtain ⟨ih1, ih2⟩ := ih hs.2.1
    refine ⟨ih1, ?_⟩
    rw [ih2, ← hs.2.2]
    show chunkWords r.2 = chunkWords r.1 ++ chunkWords r.2
    rw [hr1]; rfl

theorem wrapLoop_indents (w : Int) (ini sub : Str) (started : Bool) (l : List Str) :
    (started = true → ∀ ln ∈ wrapLoop w ini sub started l, ln.1 = sub) ∧
    (started = false → ∀ hd tl, wrapLoop w ini sub started l = hd :: tl → hd.1 = ini ∧ ∀ ln ∈ tl, ln.1 = sub) := by
  fun_induction wrapLoop w ini sub started l with
  | case1 => simp
  | case2 started c cs indent r _ hne ih =>
    have hsub := ih.1 rfl
    refine ⟨fun hst ln hln => ?_, fun hst hd tl e => ?_⟩
    · rcases List.mem_cons.mp hln with rfl | hln
      · simp [indent, hst]
      · exact hsub ln hln
    · obtain ⟨rfl, rfl⟩ := List.cons.inj e
      exact ⟨by simp [indent, hst], hsub⟩
  | case3 started c cs indent r _ hne ih => exact ih

theorem isTwSpace_isPySpace (c : Char) (h : isTwSpace c = true) : isPySpace c = true := by
  unfold isTwSpace at h
  unfold isPySpace
  simp only [Bool.or_eq_true, Bool.and_eq_true, decide_eq_true_eq, beq_iff_eq] at h
  rcases h with h | h
  · simp [h]
  · simp [h]

def Homog (b : Bool) (x : Str) : Prop := x ≠ [] ∧ ∀ c ∈ x, isTwSpace c = b

/-- non-empty chunks, alternately white (`isTwSpace`) and not, the first one white iff `b` -/
def AltFrom : Bool → List Str → Prop
  | _, [] => True
  | b, x :: r => Homog b x ∧ AltFrom (!b) r

theorem chunks_alt (cs : Str) : ∀ c, AltFrom (isTwSpace c) (chunks (c :: cs)) := by
  induction cs with
  | nil => intro c; simp [chunks, AltFrom, Homog]
  | cons d ds ih =>
    intro c
    have hd := ih d
    rw [chunks]
    generalize chunks (d :: ds) = L at *
    match L, hd with
    | [], _ => simp [AltFrom, Homog]
    | [] :: rest, hd => exact absurd rfl hd.1.1
    | (e :: w) :: rest, hd =>
      have he : isTwSpace e = isTwSpace d := hd.1.2 e (by simp)
      simp only []
      split
      · next heq =>
        refine ⟨⟨by simp, ?_⟩, ?_⟩
        · intro x hx
          simp at hx
          rcases hx with rfl | rfl | hx
          · rfl
          · exact heq.symm
          · rw [hd.1.2 x (by simp [hx]), heq, he]
        · rw [heq, he]; exact hd.2
      · next hne =>
        refine ⟨⟨by simp, by simp⟩, ?_⟩
        have : (!isTwSpace c) = isTwSpace d := by
          rw [← he]; cases h1 : isTwSpace c <;> cases h2 : isTwSpace e <;> simp_all
        rw [this]; exact hd

theorem altFrom_spaced (b : Bool) (l : List Str) (h : AltFrom b l) : Spaced l := by
  induction l generalizing b with
  | nil => trivial
  | cons x r ih =>
    cases r with
    | nil => trivial
    | cons y r' =>
      refine ⟨?_, ih (!b) h.2⟩
      have hx := h.1
      have hy := h.2.1
      cases b with
      | true => exact Or.inl ⟨hx.1, fun c hc => isTwSpace_isPySpace c (hx.2 c hc)⟩
      | false => exact Or.inr ⟨hy.1, fun c hc => isTwSpace_isPySpace c (by simpa using hy.2 c hc)⟩

theorem chunks_spaced (s : Str) : Spaced (chunks s) := by
  cases s with
  | nil => simp [chunks, Spaced]
  | cons c cs => exact altFrom_spaced _ _ (chunks_alt cs c)

theorem chunks_flatten (s : Str) : (chunks s).flatten = s := by
  fun_induction chunks s <;> simp_all

theorem splitBy_map (p : Char → Bool) (f : Char → Char) (h1 : ∀ c, p (f c) = p c) (h2 : ∀ c, p c = false → f c = c)
    (l : Str) : splitBy p (l.map f) = splitBy p l := by
  induction l with
  | nil => rfl
  | cons c cs ih =>
    simp only [List.map_cons, splitBy, h1, ih]
    split
    · rfl
    · next hc => simp at hc; rw [h2 c hc]

theorem words_map_trSpace (l : Str) : words (l.map trSpace) = words l := by
  unfold words
  rw [splitBy_map]
  · intro c
    unfold trSpace
    split
    · next h => rw [isTwSpace_isPySpace c h]; rfl
    · rfl
  · intro c hc
    unfold trSpace
    split
    · next h => rw [isTwSpace_isPySpace c h] at hc; cases hc
    · rfl

/-- expanding tabs puts white space where white space was: the words are the same, whatever stands in front -/
theorem words_expandTabs (s : Str) : ∀ (pre : Str) (col : Nat),
    words (pre ++ expandTabs 8 col s) = words (pre ++ s) := by
  induction s with
  | nil => intro pre col; rfl
  | cons c cs ih =>
    intro pre col
    rw [expandTabs]
    by_cases ht : c = '\t'
    · subst ht
      obtain ⟨k, hk⟩ : ∃ k, 8 - col % 8 = k + 1 := ⟨8 - col % 8 - 1, by omega⟩
      simp only [if_true, show (8 : Nat) > 0 by omega, hk, List.replicate_succ, List.cons_append]
      rw [words_append_ws pre _ ' ' (by decide), words_append_ws pre cs '\t' (by decide),
        words_allWs_append _ _ (fun d hd => by rw [List.eq_of_mem_replicate hd]; decide)]
      exact congrArg _ (ih [] _)
    · simp only [ht, if_false]
      by_cases hs : isPySpace c = true
      · have h0 := fun col => ih [] col
        simp only [List.nil_append] at h0
        split <;> rw [words_append_ws pre _ c hs, words_append_ws pre cs c hs, h0]
      · have h1 := fun col => ih (pre ++ [c]) col
        simp only [List.append_assoc, List.singleton_append] at h1
        split
        · next hnl => rcases hnl with rfl | rfl <;> exact absurd (by decide) hs
        · exact h1 _

theorem words_munge (s : Str) : words (munge s) = words s := by
  unfold munge
  rw [words_map_trSpace]
  exact words_expandTabs s [] 0

end StoneVerif.Wrap
