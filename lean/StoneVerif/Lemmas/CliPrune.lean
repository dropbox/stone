import StoneVerif.Model.Cli
import StoneVerif.Lemmas.ListFacts
/-! Lemmas about the `-w` / `-b` / `-f` / `-a` pruning of `cli.main` and `add_route` (C19). -/
namespace StoneVerif.Cli

theorem lookup_map_snd {κ α β} [BEq κ] (g : α → β) (k : κ) (l : List (κ × α)) :
    (l.map fun kv => (kv.1, g kv.2)).lookup k = (l.lookup k).map g := by
  induction l with
  | nil => rfl
  | cons kv rest ih =>
    obtain ⟨k', v⟩ := kv
    simp only [List.map_cons, List.lookup_cons]
    cases k == k' <;> simp [ih]

theorem dictSet_map_snd {κ α β} [DecidableEq κ] (g : α → β) (k : κ) (v : α) (l : List (κ × α)) :
    dictSet k (g v) (l.map fun kv => (kv.1, g kv.2)) = (dictSet k v l).map fun kv => (kv.1, g kv.2) := by
  induction l with
  | nil => rfl
  | cons kv rest ih =>
    obtain ⟨k', v'⟩ := kv
    simp only [List.map_cons, dictSet]
    by_cases h : k' = k <;> simp [h, ih]

/-- what `add_route` does to the two by-name tables -/
def tblAdd (t : List (Name × Route) × List (Name × List (Int × Route))) (r : Route) :
    List (Name × Route) × List (Name × List (Int × Route)) :=
  (if r.version = 1 then dictSet r.name r t.1 else t.1,
   dictSet r.name (dictSet r.version r ((t.2.lookup r.name).getD [])) t.2)

/-- `add_route` in a loop: the routes are appended, the tables depend on the tables only, name and types stay -/
theorem foldl_addRoute (rs : List Route) (ns : Namespace) :
    rs.foldl Namespace.addRoute ns =
      { ns with routes := ns.routes ++ rs
                routeByName := (rs.foldl tblAdd (ns.routeByName, ns.routesByName)).1
                routesByName := (rs.foldl tblAdd (ns.routeByName, ns.routesByName)).2 } := by
  induction rs generalizing ns with
  | nil => simp
  | cons r rs ih => rw [List.foldl_cons, ih]; simp [Namespace.addRoute, tblAdd]

/-- a namespace with the route list `rs` and the tables `add_route` builds for it -/
def indexed (n : Name) (rs : List Route) (d : List Name) : Namespace :=
  { name := n, routes := rs, routeByName := (index rs).1, routesByName := (index rs).2, dataTypes := d }

theorem foldl_addRoute_clear (rs : List Route) (ns : Namespace) :
    rs.foldl Namespace.addRoute ns.clearRoutes = indexed ns.name rs ns.dataTypes := by
  rw [foldl_addRoute, indexed, index, foldl_addRoute]; rfl

def Namespace.mapRoutes (g : Route → Route) (ns : Namespace) : Namespace :=
  { ns with
    routes := ns.routes.map g
    routeByName := ns.routeByName.map fun kv => (kv.1, g kv.2)
    routesByName := ns.routesByName.map fun kv => (kv.1, kv.2.map fun vr => (vr.1, g vr.2)) }

theorem restrict_eq_mapRoutes (keep : List Name) (ns : Namespace) :
    ns.restrict keep = ns.mapRoutes (Route.restrict keep) := rfl

theorem mapRoutes_addRoute (g : Route → Route) (hn : ∀ r, (g r).name = r.name)
    (hv : ∀ r, (g r).version = r.version) (ns : Namespace) (r : Route) :
    (ns.addRoute r).mapRoutes g = (ns.mapRoutes g).addRoute (g r) := by
  obtain ⟨n, rs, t1, t2, d⟩ := ns
  simp only [Namespace.addRoute, Namespace.mapRoutes, hn, hv, Namespace.mk.injEq, true_and,
    List.map_append, List.map_cons, List.map_nil, and_true]
  refine ⟨?_, ?_⟩
  · by_cases h : r.version = 1
    · simp only [h, if_true]
      exact (dictSet_map_snd g r.name r t1).symm
    · simp [h]
  · rw [lookup_map_snd (fun (vs : List (Int × Route)) => vs.map fun vr => (vr.1, g vr.2)) r.name t2]
    rw [← dictSet_map_snd (fun (vs : List (Int × Route)) => vs.map fun vr => (vr.1, g vr.2))]
    congr 1
    rw [← dictSet_map_snd g]
    cases List.lookup r.name t2 <;> simp

theorem restrict_addRoute (keep : List Name) (ns : Namespace) (r : Route) :
    (ns.addRoute r).restrict keep = (ns.restrict keep).addRoute (r.restrict keep) := by
  simp only [restrict_eq_mapRoutes]
  exact mapRoutes_addRoute (Route.restrict keep) (fun _ => rfl) (fun _ => rfl) ns r

theorem restrict_foldl_addRoute (keep : List Name) (rs : List Route) (ns : Namespace) :
    (rs.foldl Namespace.addRoute ns).restrict keep =
      (rs.map (Route.restrict keep)).foldl Namespace.addRoute (ns.restrict keep) := by
  rw [List.foldl_map]
  exact (List.foldl_hom (Namespace.restrict keep) fun ns r => (restrict_addRoute keep ns r).symm).symm

theorem restrict_indexed (keep : List Name) (n : Name) (d : List Name) (rs : List Route) :
    (indexed n rs d).restrict keep = indexed n (rs.map (Route.restrict keep)) d := by
  have h := foldl_addRoute_clear rs ⟨n, [], [], [], d⟩
  have h' := foldl_addRoute_clear (rs.map (Route.restrict keep)) ⟨n, [], [], [], d⟩
  simp only at h h'
  rw [← h, restrict_foldl_addRoute, ← h']
  rfl

theorem lookup_dictSet {κ ν} [DecidableEq κ] [BEq κ] [LawfulBEq κ] (k k' : κ) (v : ν) (l : List (κ × ν)) :
    List.lookup k' (dictSet k v l) = if k' = k then some v else List.lookup k' l := by
  induction l with
  | nil => simp [dictSet, lookup_cons_eq]
  | cons kv rest ih =>
    obtain ⟨k0, v0⟩ := kv
    by_cases h0 : k0 = k
    · subst h0
      simp only [dictSet, if_true, lookup_cons_eq]
      by_cases h : k' = k0 <;> simp [h]
    · simp only [dictSet, h0, if_false, lookup_cons_eq, ih]
      by_cases h1 : k' = k0
      · subst h1
        have : ¬ k' = k := h0
        simp [this]
      · simp [h1]

/-- `route_by_name[n]` -/
def look1 (n : Name) (ns : Namespace) : Option Route := ns.routeByName.lookup n

/-- `routes_by_name[n].at_version[v]` -/
def look2 (n : Name) (v : Int) (ns : Namespace) : Option Route :=
  (ns.routesByName.lookup n).bind fun d => d.lookup v

theorem look1_addRoute (n : Name) (ns : Namespace) (r : Route) :
    look1 n (ns.addRoute r) = if (decide (r.name = n) && decide (r.version = 1)) = true then some r else look1 n ns := by
  simp only [look1, Namespace.addRoute]
  by_cases hv : r.version = 1
  · simp only [hv, if_true, lookup_dictSet]
    by_cases hn : n = r.name
    · subst hn; simp
    · have : ¬ r.name = n := fun e => hn e.symm
      simp [hn, this]
  · simp [hv]

theorem look2_addRoute (n : Name) (v : Int) (ns : Namespace) (r : Route) :
    look2 n v (ns.addRoute r) =
      if (decide (r.name = n) && decide (r.version = v)) = true then some r else look2 n v ns := by
  simp only [look2, Namespace.addRoute, lookup_dictSet]
  by_cases hn : n = r.name
  · subst hn
    simp only [if_true, Option.bind_some, lookup_dictSet, decide_true, Bool.true_and, decide_eq_true_eq]
    by_cases hv : v = r.version
    · subst hv; simp
    · have : ¬ r.version = v := fun e => hv e.symm
      simp only [hv, this, if_false]
      cases List.lookup r.name ns.routesByName <;> simp
  · have : ¬ r.name = n := fun e => hn e.symm
    simp [hn, this]

theorem consistent_eq_indexed {ns : Namespace} (h : ns.Consistent) :
    ns = indexed ns.name ns.routes ns.dataTypes := by
  obtain ⟨n, rs, t1, t2, d⟩ := ns
  simp only [Namespace.Consistent] at h
  simp [indexed, ← h]

theorem filterRoutes_eq (e : Expr) (ns : Namespace) :
    ns.filterRoutes e = indexed ns.name (ns.routes.filter fun r => e.eval r.attrs) ns.dataTypes := by
  simp only [Namespace.filterRoutes]
  exact foldl_addRoute_clear _ ns

/-- the `-w` block then the `-b` block on one namespace -/
def wbStage (o : Opts) (ns : Namespace) : Namespace :=
  let ns1 := if o.whitelist ≠ [] ∧ ns.name ∉ o.whitelist then ns.clearRoutes else ns
  if ns1.name ∈ o.blacklist then ns1.clearRoutes else ns1

/-- the `-f` block on one namespace -/
def filterStage (f : Option Expr) (ns : Namespace) : Namespace :=
  match f with
  | none => ns
  | some e => ns.filterRoutes e

/-- what the four blocks of `main` do to one namespace -/
def nsPipeline (o : Opts) (f : Option Expr) (keep : List Name) (ns : Namespace) : Namespace :=
  Namespace.restrict keep (filterStage f (wbStage o ns))

theorem wbStage_eq (o : Opts) (ns : Namespace) :
    wbStage o ns = if hidden o ns.name = true then ns.clearRoutes else ns := by
  unfold wbStage
  have hname : (if o.whitelist ≠ [] ∧ ns.name ∉ o.whitelist then ns.clearRoutes else ns).name = ns.name := by
    split <;> rfl
  simp only [hname]
  by_cases hw : o.whitelist ≠ [] ∧ ns.name ∉ o.whitelist
  · have hh : hidden o ns.name = true := by simp [hidden, hw.1, hw.2]
    rw [if_pos hw, if_pos hh]
    split <;> rfl
  · rw [if_neg hw]
    by_cases hb : ns.name ∈ o.blacklist
    · have hh : hidden o ns.name = true := by simp [hidden, hb]
      rw [if_pos hb, if_pos hh]
    · have hh : ¬ (hidden o ns.name = true) := by
        simp only [hidden, Bool.or_eq_true, Bool.and_eq_true, decide_eq_true_eq, Bool.not_eq_true', decide_eq_false_iff_not]
        rintro (⟨h1, h2⟩ | h3)
        · exact hw ⟨h1, h2⟩
        · exact hb h3
      rw [if_neg hb, if_neg hh]

theorem filter_pass_none (rs : List Route) : rs.filter (pass none) = rs :=
  List.filter_eq_self.2 fun _ _ => rfl

theorem filterStage_indexed (f : Option Expr) (n : Name) (rs : List Route) (d : List Name) :
    filterStage f (indexed n rs d) = indexed n (rs.filter (pass f)) d := by
  cases f with
  | none => rw [filter_pass_none]; rfl
  | some e => exact filterRoutes_eq e _

theorem nsPipeline_eq (o : Opts) (f : Option Expr) (keep : List Name) {ns : Namespace} (h : ns.Consistent) :
    nsPipeline o f keep ns = ns.pruned o f keep := by
  have hwb : wbStage o ns = indexed ns.name (if hidden o ns.name then [] else ns.routes) ns.dataTypes := by
    rw [wbStage_eq]
    split
    · rfl
    · exact consistent_eq_indexed h
  rw [nsPipeline, hwb, filterStage_indexed, restrict_indexed, Namespace.pruned]
  cases hidden o ns.name <;> rfl

theorem hasNamespace_map (api : Api) (g : Namespace → Namespace) (hg : ∀ ns, (g ns).name = ns.name) (n : Name) :
    Api.hasNamespace { api with namespaces := api.namespaces.map g } n = api.hasNamespace n := by
  simp only [Api.hasNamespace, List.any_map]
  congr 1
  funext ns
  simp [hg]

theorem all_known {l : List Name} {api : Api} (h : l.find? (fun n => !api.hasNamespace n) = none) :
    ∀ n ∈ l, api.hasNamespace n = true := fun n hn => by
  simpa using List.find?_eq_none.mp h n hn

theorem stageWhitelist_ok {w : List Name} {api api1 : Api} (h : stageWhitelist w api = .ok api1) :
    (∀ n ∈ w, api.hasNamespace n = true) ∧
    api1 = { api with namespaces := api.namespaces.map fun ns =>
      if w ≠ [] ∧ ns.name ∉ w then ns.clearRoutes else ns } := by
  unfold stageWhitelist at h
  by_cases hw : w = []
  · subst hw
    simp only [if_true, Except.ok.injEq] at h
    subst h
    simp
  · simp only [hw, if_false] at h
    cases hf : w.find? (fun n => !api.hasNamespace n) with
    | some n => simp [hf] at h
    | none =>
      simp only [hf, Except.ok.injEq] at h
      subst h
      exact ⟨all_known hf, by simp [hw]⟩

theorem stageBlacklist_ok {b : List Name} {api api2 : Api} (h : stageBlacklist b api = .ok api2) :
    (∀ n ∈ b, api.hasNamespace n = true) ∧
    api2 = { api with namespaces := api.namespaces.map fun ns =>
      if ns.name ∈ b then ns.clearRoutes else ns } := by
  unfold stageBlacklist at h
  cases hf : b.find? (fun n => !api.hasNamespace n) with
  | some n => simp [hf] at h
  | none =>
    simp only [hf, Except.ok.injEq] at h
    subst h
    exact ⟨all_known hf, rfl⟩

theorem eraseDups_eq_nil_iff {α} [BEq α] (l : List α) : l.eraseDups = [] ↔ l = [] := by
  cases l with
  | nil => simp
  | cons a l => simp [List.eraseDups_cons]

theorem stageAttrs_ok {a : List Name} {api api' : Api} (h : stageAttrs a api = .ok api') :
    (∀ n ∈ wantedAttrs a api.allFields, n ∈ api.allFields) ∧
    api' = { namespaces := api.namespaces.map (Namespace.restrict (wantedAttrs a api.allFields))
             schema := api.schema.filter (fun n => n ∈ wantedAttrs a api.allFields)
             schemaByName := api.schemaByName.filter (fun n => n ∈ wantedAttrs a api.allFields)
             schemaInherited := api.schemaInherited } := by
  unfold stageAttrs at h
  simp only at h
  split at h
  · simp at h
  · rename_i hl
    simp only [Except.ok.injEq] at h
    refine ⟨?_, h.symm⟩
    have hl' := (eraseDups_eq_nil_iff _).mp (by simpa using hl)
    intro n hn
    have := List.filter_eq_nil_iff.mp hl' n hn
    simpa using this

theorem stageFilter_schema (f : Option Expr) (api : Api) :
    (stageFilter f api).schema = api.schema ∧ (stageFilter f api).schemaByName = api.schemaByName ∧
      (stageFilter f api).schemaInherited = api.schemaInherited := by
  cases f <;> exact ⟨rfl, rfl, rfl⟩

theorem prune_ok {o : Opts} {api api' : Api} (h : prune o api = .ok api') :
    ∃ f, stageParse o = .ok f ∧
      (∀ n ∈ o.whitelist, api.hasNamespace n = true) ∧
      (∀ n ∈ o.blacklist, api.hasNamespace n = true) ∧
      (∀ n ∈ wantedAttrs o.attributes api.allFields, n ∈ api.allFields) ∧
      api' = { namespaces := api.namespaces.map (nsPipeline o f (wantedAttrs o.attributes api.allFields))
               schema := api.schema.filter (fun n => n ∈ wantedAttrs o.attributes api.allFields)
               schemaByName := api.schemaByName.filter (fun n => n ∈ wantedAttrs o.attributes api.allFields)
               schemaInherited := api.schemaInherited } := by
  unfold prune at h
  cases hp : stageParse o with
  | error e => simp [hp, bind, Except.bind] at h
  | ok f =>
    cases hw : stageWhitelist o.whitelist api with
    | error e => simp [hp, hw, bind, Except.bind] at h
    | ok api1 =>
      cases hb : stageBlacklist o.blacklist api1 with
      | error e => simp [hp, hw, hb, bind, Except.bind] at h
      | ok api2 =>
        simp only [hp, hw, hb, bind, Except.bind] at h
        obtain ⟨hw1, hw2⟩ := stageWhitelist_ok hw
        obtain ⟨hb1, hb2⟩ := stageBlacklist_ok hb
        obtain ⟨ha1, ha2⟩ := stageAttrs_ok h
        have e1 : (stageFilter f api2).schema = api.schema := by rw [(stageFilter_schema f api2).1, hb2, hw2]
        have e2 : (stageFilter f api2).schemaByName = api.schemaByName := by
          rw [(stageFilter_schema f api2).2.1, hb2, hw2]
        have e3 : (stageFilter f api2).schemaInherited = api.schemaInherited := by
          rw [(stageFilter_schema f api2).2.2, hb2, hw2]
        have hall : (stageFilter f api2).allFields = api.allFields := by
          simp [Api.allFields, e1, e3]
        refine ⟨f, rfl, hw1, fun n hn => ?_, by simpa [hall] using ha1, ?_⟩
        · have := hb1 n hn
          rwa [hw2, hasNamespace_map api _ (fun ns => by split <;> rfl)] at this
        · rw [ha2, hall, e1, e2, e3]
          congr 1
          cases f <;> (simp only [stageFilter, hb2, hw2, List.map_map]; exact List.map_congr_left fun ns _ => rfl)

theorem prune_eq_spec {o : Opts} {api api' : Api} (hc : api.Consistent) (h : prune o api = .ok api') :
    ∃ f, stageParse o = .ok f ∧ api' = pruneSpec o f api := by
  obtain ⟨f, hf, _, _, _, rfl⟩ := prune_ok h
  refine ⟨f, hf, ?_⟩
  simp only [pruneSpec]
  congr 1
  apply List.map_congr_left
  intro ns hns
  exact nsPipeline_eq o f _ (hc ns hns)

/-- what `pruneSpec` shows of every namespace: name and data types as they were, the routes unless `hidden`, the
tables of exactly those routes -/
theorem pruneSpec_view (o : Opts) (f : Option Expr) (api : Api) :
    (pruneSpec o f api).namespaces.map (·.name) = api.namespaces.map (·.name) ∧
    (pruneSpec o f api).namespaces.map (·.dataTypes) = api.namespaces.map (·.dataTypes) ∧
    (pruneSpec o f api).namespaces.map (fun ns => (ns.routes, ns.routeByName, ns.routesByName)) =
      api.namespaces.map (fun ns =>
        let rs := if hidden o ns.name then []
          else (ns.routes.filter (pass f)).map (Route.restrict (wantedAttrs o.attributes api.allFields))
        (rs, (index rs).1, (index rs).2)) := by
  simp [pruneSpec, Namespace.pruned, List.map_map, Function.comp_def]

theorem prune_error_of_filter {o : Opts} {api : Api} {fe} (h : stageParse o = .error fe) :
    ∃ err, prune o api = .error err := by
  refine error_of_not_ok fun api' hr => ?_
  obtain ⟨f, hf, _⟩ := prune_ok hr
  simp [h] at hf

end StoneVerif.Cli
