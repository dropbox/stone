import StoneVerif.Lemmas.RtCompatDocs
import StoneVerif.Lemmas.RtCompatEnv
import StoneVerif.Lemmas.RtRoundTrip.Valid
/-!
The wire form of a good value of the older spec: it is in encoder form (`tightDoc_wire`), and on it the message-level
`nvrDoc` says what the value-level `noVoidToRequired` says (`nvrDoc_wire`: an equation, since the witness that the
hypothesis is needed has it `false`).  Both by induction over good values (`RoundTrip.good_induct`), the union case through
the four shapes of its wire form (`WireUnion`).
-/
namespace StoneVerif.Rt.Compat
open StoneVerif.Rt.RoundTrip (Good good_induct isLeaf)

theorem nvSlots_iff (ρ : Rho) (A B : Env) (fa : List FieldDef) : ∀ slots : List (String × PyVal),
    nvSlots ρ A B fa slots = true ↔ ∀ kx ∈ slots, (match fa.find? (·.name == kx.1) with
      | some f => noVoidToRequired ρ A B f.ty kx.2
      | none => true) = true
  | [] => by simp [nvSlots]
  | (k, x) :: rest => by
    simp only [nvSlots, Bool.and_eq_true, List.forall_mem_cons, nvSlots_iff ρ A B fa rest]
    exact Iff.rfl

theorem mem_pick_wire_of_slot {E : Ext} {A : Env} {fields : List FieldDef} {slots : List (String × PyVal)}
    (hnds : (slots.map (·.1)).Nodup) {k : String} {x : PyVal} {f : FieldDef}
    (hx : (k, x) ∈ slots) (hf : fields.find? (·.name == k) = some f) (hnn : isNoneV x = false) :
    (k, wire E A f.ty x) ∈ pick fields (wireSlots E A fields slots) := by
  obtain ⟨hm, hn⟩ := find_name_some hf
  subst hn
  unfold pick
  refine List.mem_filterMap.2 ⟨f, hm, ?_⟩
  rw [lookupW_wireSlots E A fields _ hf, RoundTrip.firstSet_eq_lookupSlot hnds, lookupSlot_of_mem hnds hx]
  simp [hnn]

theorem tightMembers_pick {E : Ext} {A : Env} {fields : List FieldDef} {slots : List (String × PyVal)}
    (ih : ∀ k x f, (k, x) ∈ slots → fields.find? (·.name == k) = some f → tightDoc A f.ty (wire E A f.ty x) = true) :
    tightMembers A (tableOf fields) (pick fields (wireSlots E A fields slots)) = true := by
  rw [tightMembers_iff]
  rintro ⟨k, j⟩ hkj
  obtain ⟨f, x, hf, hx, _, rfl⟩ := mem_pick_wire hkj
  simp only [tableOf_find, hf, Option.map_some]
  exact ih k x f hx hf

theorem tightMembers_tag_cons {A : Env} {fields : List FieldDef} (h : ∀ f ∈ fields, f.name ≠ ".tag") (x : JVal)
    (rest : List (String × JVal)) :
    tightMembers A (tableOf fields) ((".tag", x) :: rest) = tightMembers A (tableOf fields) rest := by
  simp only [tightMembers, tableOf_find_tag h, beq_self_eq_true, Bool.true_and]

theorem jsonLookup_tag_cons (x : JVal) (rest : List (String × JVal)) :
    jsonLookup ".tag" ((".tag", x) :: rest) = some x := by
  simp [jsonLookup]

theorem findSub_leaf {A : Env} (hwf : envWF A = true) {cls c tag : String} {s : StructDef}
    (hs : A.struct? cls = some s) (h : leafTag? A cls c = some tag) :
    findSub [tag] (s.subtypes.getD []) = some ([tag], c, false) := by
  unfold findSub
  exact find?_tag_of_leafTag hwf hs h

theorem valid_leaf {E : Ext} {A : Env} {t : PTy} {v : PyVal} (h : validB E A t v = true) (hl : isLeaf v = true) :
    v = .none ∨ (isPrimTy t = true ∧ isVoidT t = false) := by
  cases validB_leaf hl h <;> first | exact .inl rfl | exact .inr ⟨rfl, rfl⟩

theorem tightDoc_wire_leaf {E : Ext} {A : Env} (t : PTy) (v : PyVal) (g : Good E A t v) (hl : isLeaf v = true) :
    tightDoc A t (wire E A t v) = true := by
  rcases valid_leaf g.valid hl with rfl | ⟨hp, hv⟩
  · unfold wire; exact tightDoc_null A t
  · exact tightDoc_prim A hp hv _

theorem tightDoc_wire_union {E : Ext} {A : Env} (hwf : envWF A = true) {fl : Flags} {cls c tag : String}
    {payload : PyVal} {td : TagDef} (htd : publicTag? A cls tag = some td) (gp : Good E A td.ty payload)
    (ihp : tightDoc A td.ty (wire E A td.ty payload) = true) :
    tightDoc A (.union fl cls) (wire E A (.union fl cls) (.union c tag payload)) = true := by
  have htag' : (tag == ".tag") = false := by simpa using publicTag_ne_dotTag hwf htd
  generalize hj : wire E A (.union fl cls) (.union c tag payload) = j
  cases WireUnion.of_valid htd gp.valid hj with
  | void hv => rw [tightDoc_union_void A fl cls (jsonLookup_tag_cons _ _) htd hv]; rfl
  | unset hv =>
    by_cases hp : isPlainStruct td.ty = true
    · obtain ⟨_, _, htt⟩ := isPlainStruct_iff.1 hp
      rw [tightDoc_union_struct A fl cls (jsonLookup_tag_cons _ _) htd htt, structTable_tableOf,
        tightMembers_tag_cons (publicFields_ne_tag hwf _)]
      rfl
    · have hp : isPlainStruct td.ty = false := by simpa using hp
      rw [tightDoc_union_nested A fl cls (jsonLookup_tag_cons _ _) htd hv hp]
      simp [tightMembers, htag']
  | flat slots htt =>
    rw [htt] at ihp
    simp only [wire] at ihp
    rw [tightDoc_struct_obj] at ihp
    rw [tightDoc_union_struct A fl cls (jsonLookup_tag_cons _ _) htd htt, structTable_tableOf,
      tightMembers_tag_cons (publicFields_ne_tag hwf _)]
    exact ihp
  | nested hv hp =>
    rw [tightDoc_union_nested A fl cls (jsonLookup_tag_cons _ _) htd hv hp]
    simp [tightMembers, htag', tightDoc_withFlags, ihp]

theorem tightDoc_wire {E : Ext} {A : Env} (hwf : envWF A = true) (t : PTy) (v : PyVal) (h : Good E A t v) :
    tightDoc A t (wire E A t v) = true := by
  refine good_induct hwf (fun t v => tightDoc A t (wire E A t v) = true) tightDoc_wire_leaf ?_ ?_ ?_ ?_ ?_ t v h
  · intro fl item mn mx xs _ ih
    simp only [wire]
    rw [tightDoc_list_arr]
    have : ∀ ys : List PyVal, (∀ x ∈ ys, tightDoc A item (wire E A item x) = true) →
        tightList A item (wireList E A item ys) = true := by
      intro ys
      induction ys with
      | nil => intro _; simp [wireList, tightList]
      | cons y ys ihy =>
        intro hy
        simp only [wireList, tightList, Bool.and_eq_true]
        exact ⟨hy y List.mem_cons_self, ihy fun x hx => hy x (List.mem_cons_of_mem _ hx)⟩
    exact this xs fun x hx => (ih x hx).2
  · intro fl kt vt kvs _ ih
    simp only [wire]
    rw [tightDoc_map_obj]
    have : ∀ ys : List (PyVal × PyVal), (∀ kx ∈ ys, tightDoc A vt (wire E A vt kx.2) = true) →
        tightVals A vt (wireDict E A vt ys) = true := by
      intro ys
      induction ys with
      | nil => intro _; simp [wireDict, tightVals]
      | cons y ys ihy =>
        intro hy
        obtain ⟨k, x⟩ := y
        have hrest := ihy fun kx hx => hy kx (List.mem_cons_of_mem _ hx)
        cases k <;> simp only [wireDict, tightVals, Bool.and_eq_true] <;> try exact hrest
        exact ⟨hy _ List.mem_cons_self, hrest⟩
    exact this kvs fun kx hkx => (ih kx hkx).2.2.2
  · intro fl cls slots g ih
    obtain ⟨s, hs, hall, hnds⟩ := RoundTrip.good_struct_inv g
    simp only [wire]
    rw [tightDoc_struct_obj, structTable_tableOf]
    exact tightMembers_pick fun k x f hx hf => (ih k x f hx hf).2
  · intro fl cls c slots g ih
    obtain ⟨s, d, tag, hs, hd, _, hleaf, hall, hnds⟩ := RoundTrip.good_tree_inv g
    simp only [wire, hleaf]
    rw [tightDoc_tree_obj A fl cls _ (jsonLookup_tag_cons _ _) hs, findSub_leaf hwf hs hleaf]
    simp only
    rw [structTable_tableOf, tightMembers_tag_cons (publicFields_ne_tag hwf _)]
    exact tightMembers_pick fun k x f hx hf => (ih k x f hx hf).2
  · intro fl cls c tag payload td g htd gp ihp
    exact tightDoc_wire_union hwf htd gp ihp

theorem noVoidToRequired_none (ρ : Rho) (A B : Env) (t : PTy) : noVoidToRequired ρ A B t .none = true := by
  unfold noVoidToRequired; rfl

theorem noVoidToRequired_leaf (ρ : Rho) (A B : Env) (t : PTy) {v : PyVal} (hl : isLeaf v = true) :
    noVoidToRequired ρ A B t v = true := by
  cases v <;> simp [isLeaf] at hl <;> (unfold noVoidToRequired; rfl)

theorem voidToRequired_nonvoid (ρ : Rho) {A : Env} (B : Env) {cls tag : String} {td : TagDef}
    (htd : publicTag? A cls tag = some td) (hv : isVoidT td.ty = false) : voidToRequired ρ A B cls tag = false := by
  simp [voidToRequired, htd, hv]

theorem noVoidToRequired_union (ρ : Rho) {A : Env} (B : Env) (fl : Flags) {cls tag : String} (c : String) (payload : PyVal)
    {td : TagDef} (htd : publicTag? A cls tag = some td) :
    noVoidToRequired ρ A B (.union fl cls) (.union c tag payload) =
      if isVoidT td.ty = true then !voidToRequired ρ A B cls tag else noVoidToRequired ρ A B td.ty payload := by
  rw [noVoidToRequired]
  simp only [htd]
  by_cases hv : isVoidT td.ty = true
  · simp only [hv, if_true, voidToRequired, htd, Bool.true_and]
    cases (ρ.toB cls).bind fun cb => publicTag? B cb tag <;> simp
  · simp only [hv]
    simp

theorem nvrMembers_tag_cons {ρ : Rho} {A B : Env} {fields : List FieldDef} (h : ∀ f ∈ fields, f.name ≠ ".tag") (x : JVal)
    (rest : List (String × JVal)) :
    nvrMembers ρ A B (tableOf fields) ((".tag", x) :: rest) = nvrMembers ρ A B (tableOf fields) rest := by
  simp only [nvrMembers, tableOf_find_tag h, Bool.true_and]

theorem nvrMembers_pick {E : Ext} {ρ : Rho} {A B : Env} {fields : List FieldDef} {slots : List (String × PyVal)}
    (hnds : (slots.map (·.1)).Nodup)
    (ih : ∀ k x f, (k, x) ∈ slots → fields.find? (·.name == k) = some f →
      nvrDoc ρ A B f.ty (wire E A f.ty x) = noVoidToRequired ρ A B f.ty x) :
    nvrMembers ρ A B (tableOf fields) (pick fields (wireSlots E A fields slots)) = nvSlots ρ A B fields slots := by
  rw [Bool.eq_iff_iff, nvrMembers_iff, nvSlots_iff]
  constructor
  · rintro h ⟨k, x⟩ hx
    simp only
    cases hf : fields.find? (·.name == k) with
    | none => rfl
    | some f =>
      simp only
      by_cases hn : isNoneV x = true
      · cases x <;> simp [isNoneV] at hn
        exact noVoidToRequired_none ρ A B _
      · have := h _ (mem_pick_wire_of_slot (E := E) (A := A) hnds hx hf (by simpa using hn))
        simp only [tableOf_find, hf, Option.map_some] at this
        rw [← ih k x f hx hf]; exact this
  · rintro h ⟨k, j⟩ hkj
    obtain ⟨f, x, hf, hx, _, rfl⟩ := mem_pick_wire hkj
    simp only [tableOf_find, hf, Option.map_some]
    have := h _ hx
    simp only [hf] at this
    rw [ih k x f hx hf]; exact this

theorem nvrDoc_wire_leaf {E : Ext} (ρ : Rho) {A : Env} (B : Env) (t : PTy) (v : PyVal) (g : Good E A t v)
    (hl : isLeaf v = true) : nvrDoc ρ A B t (wire E A t v) = noVoidToRequired ρ A B t v := by
  rw [noVoidToRequired_leaf ρ A B t hl]
  rcases valid_leaf g.valid hl with rfl | ⟨hp, _⟩
  · unfold wire nvrDoc; rfl
  · exact nvrDoc_prim ρ A B hp _

theorem nvrDoc_wire_union {E : Ext} (ρ : Rho) {A : Env} (B : Env) (hwf : envWF A = true) {fl : Flags} {cls c tag : String}
    {payload : PyVal} {td : TagDef} (htd : publicTag? A cls tag = some td) (gp : Good E A td.ty payload)
    (ihp : nvrDoc ρ A B td.ty (wire E A td.ty payload) = noVoidToRequired ρ A B td.ty payload) :
    nvrDoc ρ A B (.union fl cls) (wire E A (.union fl cls) (.union c tag payload)) =
      noVoidToRequired ρ A B (.union fl cls) (.union c tag payload) := by
  have htag' : (tag == ".tag") = false := by simpa using publicTag_ne_dotTag hwf htd
  rw [noVoidToRequired_union ρ B fl c payload htd]
  generalize hj : wire E A (.union fl cls) (.union c tag payload) = j
  cases WireUnion.of_valid htd gp.valid hj with
  | void hv => rw [nvrDoc_union_void ρ A B fl cls (jsonLookup_tag_cons _ _) htd hv, if_pos hv]
  | unset hv =>
    rw [if_neg (hv ▸ Bool.false_ne_true), noVoidToRequired_none]
    by_cases hp : isPlainStruct td.ty = true
    · obtain ⟨_, _, htt⟩ := isPlainStruct_iff.1 hp
      rw [nvrDoc_union_struct ρ A B fl cls (jsonLookup_tag_cons _ _) htd htt, structTable_tableOf,
        nvrMembers_tag_cons (publicFields_ne_tag hwf _), voidToRequired_nonvoid ρ B htd hv]
      rfl
    · have hp : isPlainStruct td.ty = false := by simpa using hp
      rw [nvrDoc_union_nested ρ A B fl cls (jsonLookup_tag_cons _ _) htd hv hp, voidToRequired_nonvoid ρ B htd hv]
      simp [nvrMembers, htag']
  | flat slots htt =>
    have hv : isVoidT td.ty = false := by rw [htt]; rfl
    rw [if_neg (hv ▸ Bool.false_ne_true)]
    rw [htt] at ihp ⊢
    simp only [wire] at ihp
    rw [nvrDoc_struct_obj, structTable_tableOf] at ihp
    rw [nvrDoc_union_struct ρ A B fl cls (jsonLookup_tag_cons _ _) htd htt, structTable_tableOf,
      nvrMembers_tag_cons (publicFields_ne_tag hwf _), voidToRequired_nonvoid ρ B htd hv]
    simpa using ihp
  | nested hv hp =>
    rw [if_neg (hv ▸ Bool.false_ne_true), nvrDoc_union_nested ρ A B fl cls (jsonLookup_tag_cons _ _) htd hv hp,
      voidToRequired_nonvoid ρ B htd hv]
    simp [nvrMembers, htag', nvrDoc_withFlags, ihp]

theorem nvrDoc_wire {E : Ext} (ρ : Rho) {A : Env} (B : Env) (hwf : envWF A = true) (t : PTy) (v : PyVal)
    (h : Good E A t v) : nvrDoc ρ A B t (wire E A t v) = noVoidToRequired ρ A B t v := by
  refine good_induct hwf (fun t v => nvrDoc ρ A B t (wire E A t v) = noVoidToRequired ρ A B t v)
    (nvrDoc_wire_leaf ρ B) ?_ ?_ ?_ ?_ ?_ t v h
  · intro fl item mn mx xs _ ih
    rw [noVoidToRequired]
    simp only [wire]
    rw [nvrDoc_list_arr]
    have : ∀ ys : List PyVal, (∀ x ∈ ys, nvrDoc ρ A B item (wire E A item x) = noVoidToRequired ρ A B item x) →
        nvrList ρ A B item (wireList E A item ys) = nvList ρ A B item ys := by
      intro ys
      induction ys with
      | nil => intro _; simp [wireList, nvrList, nvList]
      | cons y ys ihy =>
        intro hy
        simp only [wireList, nvrList, nvList]
        rw [hy y List.mem_cons_self, ihy fun x hx => hy x (List.mem_cons_of_mem _ hx)]
    exact this xs fun x hx => (ih x hx).2
  · intro fl kt vt kvs _ ih
    rw [noVoidToRequired]
    simp only [wire]
    rw [nvrDoc_map_obj]
    have : ∀ ys : List (PyVal × PyVal),
        (∀ kx ∈ ys, (∃ s, kx.1 = .str s) ∧ nvrDoc ρ A B vt (wire E A vt kx.2) = noVoidToRequired ρ A B vt kx.2) →
        nvrVals ρ A B vt (wireDict E A vt ys) = nvDict ρ A B vt ys := by
      intro ys
      induction ys with
      | nil => intro _; simp [wireDict, nvrVals, nvDict]
      | cons y ys ihy =>
        intro hy
        obtain ⟨k, x⟩ := y
        obtain ⟨⟨s, hs⟩, hx⟩ := hy _ List.mem_cons_self
        simp only at hs hx
        subst hs
        simp only [wireDict, nvrVals, nvDict]
        rw [hx, ihy fun kx hkx => hy kx (List.mem_cons_of_mem _ hkx)]
    exact this kvs fun kx hkx => ⟨(ih kx hkx).1, (ih kx hkx).2.2.2⟩
  · intro fl cls slots g ih
    obtain ⟨s, hs, hall, hnds⟩ := RoundTrip.good_struct_inv g
    rw [noVoidToRequired]
    simp only [wire]
    rw [nvrDoc_struct_obj, structTable_tableOf]
    exact nvrMembers_pick hnds fun k x f hx hf => (ih k x f hx hf).2
  · intro fl cls c slots g ih
    obtain ⟨s, d, tag, hs, hd, _, hleaf, hall, hnds⟩ := RoundTrip.good_tree_inv g
    rw [noVoidToRequired]
    simp only [wire, hleaf]
    rw [nvrDoc_tree_obj ρ A B fl cls _ (jsonLookup_tag_cons _ _) hs, findSub_leaf hwf hs hleaf]
    simp only
    rw [structTable_tableOf, nvrMembers_tag_cons (publicFields_ne_tag hwf _)]
    exact nvrMembers_pick hnds fun k x f hx hf => (ih k x f hx hf).2
  · intro fl cls c tag payload td g htd gp ihp
    exact nvrDoc_wire_union ρ B hwf htd gp ihp

end StoneVerif.Rt.Compat
