import StoneVerif.Lemmas.GraphLookup
import StoneVerif.Model.Order
/-! The list algorithms that order the items of an Api: the two linearizations with the list discipline they share
(`Lin`), the route order of `normalize` as Python's order on `(name, version)`, `all_fields` against the inheritance
chain. -/
namespace StoneVerif.Graph

variable {g : Graph} {self : String} {link : Node → Option Id}

theorem linAdd_mono {f : Nat} {id : Id} {out r : List Id} (h : linAdd g self link f id out = .ok r) :
    linAdd g self link (f + 1) id out = .ok r := by
  fun_induction linAdd g self link f id out generalizing r <;> cases h
  · rename_i hin; rw [linAdd, if_pos hin]
  · rename_i hnin nd hnode hns; rw [linAdd, if_neg hnin]; simp only [hnode, if_pos hns]
  · rename_i hnin nd hnode hns p hp rp hrp ih; rw [linAdd, if_neg hnin]; simp only [hnode, if_neg hns, hp, ih hrp]
  · rename_i hnin nd hnode hns hl; rw [linAdd, if_neg hnin]; simp only [hnode, if_neg hns, hl]

theorem linAdd_new {f : Nat} {id : Id} {out r : List Id} (h : linAdd g self link f id out = .ok r) :
    ∀ y ∈ r, y ∉ out → ∃ ry, linAdd g self link f y out = .ok ry ∧ ry.length ≤ r.length := by
  have hself : ∀ y ∈ [id], ∃ ry, linAdd g self link f y out = .ok ry ∧ ry.length ≤ r.length :=
    fun y hy => by rw [List.mem_singleton.1 hy]; exact ⟨r, h, Nat.le_refl _⟩
  fun_induction linAdd g self link f id out generalizing r <;> cases h
  · exact fun y hy hn => absurd hy hn
  · exact fun y hy hn => absurd hy hn
  · rename_i rp hrp ih
    intro y hy hn
    rcases List.mem_append.1 hy with hy | hy
    · obtain ⟨ry, hry, hlen⟩ := ih hrp (fun y hy => by rw [List.mem_singleton.1 hy]; exact ⟨rp, hrp, Nat.le_refl _⟩) y hy hn
      exact ⟨ry, linAdd_mono hry, by rw [List.length_append]; omega⟩
    · exact hself y hy
  · exact fun y hy hn => (List.mem_append.1 hy).elim (fun hy => absurd hy hn) (hself y)

theorem linAdd_not_in_sub {f : Nat} {id p : Id} {out rp : List Id} (hid : id ∉ out)
    (h : linAdd g self link (f + 1) id out = .ok (rp ++ [id])) (hrp : linAdd g self link f p out = .ok rp) :
    id ∉ rp := by
  intro hmem
  -- otherwise the call on `id` would, with less fuel, have given a result no longer than `rp`
  obtain ⟨ry, hry, hlen⟩ := linAdd_new hrp id hmem hid
  cases (linAdd_mono hry).symm.trans h
  simp only [List.length_append, List.length_singleton] at hlen
  omega

/-! Both linearizations grow their result at the end only, and append an item that is not there yet once everything it
depends on (inside the namespace) is: that alone makes the result duplicate-free and puts dependencies first.
`dep a t`: `t` depends on `a`. -/

def Before (l : List Id) (p t : Id) : Prop := List.Sublist [p, t] l

theorem Before.append_right {l : List Id} {p t : Id} (h : Before l p t) (m : List Id) : Before (l ++ m) p t :=
  List.Sublist.trans h (List.sublist_append_left l m)

theorem before_snoc {l : List Id} {p t : Id} (h : p ∈ l) : Before (l ++ [t]) p t :=
  List.Sublist.append (List.singleton_sublist.2 h) (List.Sublist.refl [t])

/-- `C`: the ids the list may hold (closed under `dep`, see `linAdd_inv`) -/
structure Lin (C : Id → Prop) (dep : Id → Id → Prop) (l : List Id) : Prop where
  nodup : l.Nodup
  sub : ∀ x ∈ l, C x
  first : ∀ t ∈ l, ∀ a, dep a t → Before l a t

variable {C : Id → Prop} {dep : Id → Id → Prop}

theorem Lin.nil : Lin C dep [] :=
  ⟨List.nodup_nil, fun _ h => (nomatch h), fun _ h => (nomatch h)⟩

theorem Lin.snoc {l : List Id} {t : Id} (h : Lin C dep l) (hnot : t ∉ l) (hC : C t) (hdeps : ∀ a, dep a t → a ∈ l) :
    Lin C dep (l ++ [t]) where
  nodup := nodup_snoc h.nodup hnot
  sub x hx := by
    rcases List.mem_append.1 hx with hx | hx
    · exact h.sub x hx
    · rw [List.mem_singleton.1 hx]; exact hC
  first x hx a ha := by
    rcases List.mem_append.1 hx with hx | hx
    · exact (h.first x hx a ha).append_right _
    · rw [List.mem_singleton.1 hx] at ha ⊢; exact before_snoc (hdeps a ha)

theorem Lin.perm {ids l : List Id} (h : Lin (· ∈ ids) dep l) (hnd : ids.Nodup) (hall : ∀ x ∈ ids, x ∈ l) :
    l.Perm ids :=
  (List.perm_ext_iff_of_nodup h.nodup hnd).2 fun a => ⟨h.sub a, hall a⟩

def SameNs (g : Graph) (sf : String) (id : Id) : Prop := ∃ nd, g.node? id = some nd ∧ nd.ns = sf

def LinkDep (g : Graph) (self : String) (link : Node → Option Id) (p t : Id) : Prop :=
  ∃ nd, g.node? t = some nd ∧ link nd = some p ∧ SameNs g self p

theorem linAdd_inv {f : Nat} {id : Id} {out r : List Id} (h : linAdd g self link f id out = .ok r)
    (hC : ∀ p a, C a → LinkDep g self link p a → C p) (hid : SameNs g self id → C id)
    (hout : Lin C (LinkDep g self link) out) :
    Lin C (LinkDep g self link) r ∧ (∀ x ∈ out, x ∈ r) ∧ (SameNs g self id → id ∈ r) := by
  fun_induction linAdd g self link f id out generalizing r <;> cases h
  · rename_i hin
    exact ⟨hout, fun x hx => hx, fun _ => by simpa using hin⟩
  · rename_i nd hnode hns
    refine ⟨hout, fun x hx => hx, ?_⟩
    rintro ⟨nd', hnd', hns'⟩
    cases hnode.symm.trans hnd'
    simp [hns'] at hns
  · -- the link is followed first; the call on it does not add `id` itself
    rename_i fuel id out hnin nd hnode hns p hp rp hrp ih
    have hns' : nd.ns = self := by simpa using hns
    have hCid := hid ⟨nd, hnode, hns'⟩
    obtain ⟨s1, s2, s3⟩ := ih hrp (fun hs => hC p id hCid ⟨nd, hnode, hp, hs⟩) hout
    have h0 : linAdd g self link (fuel + 1) id out = .ok (rp ++ [id]) := by
      rw [linAdd, if_neg hnin]; simp only [hnode, if_neg hns, hp, hrp]
    refine ⟨s1.snoc (linAdd_not_in_sub (by simpa using hnin) h0 hrp) hCid ?_, fun x hx => List.mem_append_left _ (s2 x hx),
      fun _ => List.mem_append_right _ (List.mem_singleton_self _)⟩
    rintro a ⟨nd', hnd', hp', hs⟩
    cases hnode.symm.trans hnd'
    cases hp.symm.trans hp'
    exact s3 hs
  · rename_i fuel id out hnin nd hnode hns hl
    refine ⟨hout.snoc (by simpa using hnin) (hid ⟨nd, hnode, by simpa using hns⟩) ?_, fun x hx => List.mem_append_left _ hx,
      fun _ => List.mem_append_right _ (List.mem_singleton_self _)⟩
    rintro a ⟨nd', hnd', hl', _⟩
    cases hnode.symm.trans hnd'
    cases hl.symm.trans hl'

theorem linAll_inv {ids out r : List Id} (h : linAll g self link ids out = .ok r)
    (hC : ∀ p a, C a → LinkDep g self link p a → C p) (hids : ∀ x ∈ ids, C x)
    (hout : Lin C (LinkDep g self link) out) :
    Lin C (LinkDep g self link) r ∧ (∀ x ∈ out, x ∈ r) ∧ (∀ x ∈ ids, SameNs g self x → x ∈ r) := by
  fun_induction linAll g self link ids out <;> try cases h
  · exact ⟨hout, fun x hx => hx, fun x hx => (nomatch hx)⟩
  · rename_i id rest out out' hout' ih
    obtain ⟨a1, a2, a3⟩ := linAdd_inv hout' hC (fun _ => hids id (List.mem_cons_self ..)) hout
    obtain ⟨b1, b2, b3⟩ := ih h (fun x hx => hids x (List.mem_cons_of_mem _ hx)) a1
    refine ⟨b1, fun x hx => b2 x (a2 x hx), ?_⟩
    intro x hx hs
    rcases List.mem_cons.1 hx with rfl | hx
    · exact b2 _ (a3 hs)
    · exact b3 x hx hs

theorem linAll_spec {ids r : List Id} (h : linAll g self link ids [] = .ok r)
    (hclosed : ∀ a nd p np, a ∈ ids → g.node? a = some nd → link nd = some p → g.node? p = some np →
      np.ns = self → p ∈ ids) :
    (ids.Nodup → (∀ x ∈ ids, SameNs g self x) → r.Perm ids) ∧ ∀ t ∈ r, ∀ nd, g.node? t = some nd → ∀ p, link nd = some p → ∀ np, g.node? p = some np →
      np.ns = self → Before r p t := by
  obtain ⟨h1, _, h3⟩ := linAll_inv h
    (fun p a ha ⟨nd, hnd', hp, np, hnp, hns⟩ => hclosed a nd p np ha hnd' hp hnp hns) (fun x hx => hx) Lin.nil
  exact ⟨fun hnd hown => h1.perm hnd fun a ha => h3 a ha (hown a ha),
    fun t ht nd hnd' p hp np hnp hns => h1.first t ht p ⟨nd, hnd', hp, np, hnp, hns⟩⟩

theorem linAdd_total (rank : Id → Nat) (hrank : ∀ a nd p, g.node? a = some nd → link nd = some p → rank p < rank a)
    (hnodes : ∀ a nd p, g.node? a = some nd → link nd = some p → ∃ np, g.node? p = some np)
    {f : Nat} {id : Id} (hf : rank id < f) (hid : ∃ nd, g.node? id = some nd) (out : List Id) :
    ∃ r, linAdd g self link f id out = .ok r := by
  induction f generalizing id with
  | zero => omega
  | succ f ih =>
    obtain ⟨nd, hnd⟩ := hid
    simp only [linAdd, hnd]
    split
    · exact ⟨_, rfl⟩
    · split
      · exact ⟨_, rfl⟩
      · split
        · rename_i p hp
          have hr := hrank id nd p hnd hp
          obtain ⟨r, hr'⟩ := ih (id := p) (by omega) (hnodes id nd p hnd hp)
          rw [hr']
          exact ⟨_, rfl⟩
        · exact ⟨_, rfl⟩

theorem linAll_total (rank : Id → Nat) (hrank : ∀ a nd p, g.node? a = some nd → link nd = some p → rank p < rank a)
    (hnodes : ∀ a nd p, g.node? a = some nd → link nd = some p → ∃ np, g.node? p = some np)
    {ids : List Id} (hb : ∀ x ∈ ids, rank x < g.chainFuel) (hids : ∀ x ∈ ids, ∃ nd, g.node? x = some nd)
    (out : List Id) : ∃ r, linAll g self link ids out = .ok r := by
  induction ids generalizing out with
  | nil => exact ⟨out, rfl⟩
  | cons id rest ih =>
    obtain ⟨o, ho⟩ := linAdd_total (self := self) rank hrank hnodes (hb id (List.mem_cons_self ..))
      (hids id (List.mem_cons_self ..)) out
    simp only [linAll, ho]
    exact ih (fun x hx => hb x (List.mem_cons_of_mem _ hx)) (fun x hx => hids x (List.mem_cons_of_mem _ hx)) o

variable {sf : String}

def AliasDep (g : Graph) (sf : String) (a t : Id) : Prop :=
  ∃ nd, g.node? t = some nd ∧ a ∈ referencedAliases g nd.target ∧ SameNs g sf a

/-- The state of `linearize_aliases` between two calls of `add_alias`; `stack` lists the aliases that are marked and not
yet appended: the arguments of the calls in progress. -/
structure AliasInv (g : Graph) (sf : String) (C : Id → Prop) (stack : List Id) (st : LinSt) : Prop where
  lin : Lin C (AliasDep g sf) st.out
  seen : ∀ x, x ∈ st.seen ↔ x ∈ st.out ∨ x ∈ stack
  disj : ∀ x ∈ stack, x ∉ st.out

/-- what a call of `add_alias` guarantees when its argument has a smaller rank than every alias on the call stack: the
stack is as before, the output has grown and holds the argument -/
def CallOk (g : Graph) (sf : String) (C : Id → Prop) (rank : Id → Nat)
    (f : Id → LinSt → Except Err LinSt) : Prop :=
  ∀ a st st' stack, f a st = .ok st' → (SameNs g sf a → C a) → AliasInv g sf C stack st →
    (SameNs g sf a → ∀ x ∈ stack, rank a < rank x) →
    AliasInv g sf C stack st' ∧ (∀ x ∈ st.out, x ∈ st'.out) ∧ (SameNs g sf a → a ∈ st'.out)

theorem foldAdd_inv {rank : Id → Nat} {f : Id → LinSt → Except Err LinSt} (hf : CallOk g sf C rank f)
    {as stack : List Id} {st st' : LinSt} (h : foldAdd f as st = .ok st')
    (hC : ∀ a ∈ as, SameNs g sf a → C a) (hinv : AliasInv g sf C stack st)
    (hrank : ∀ a ∈ as, SameNs g sf a → ∀ x ∈ stack, rank a < rank x) :
    AliasInv g sf C stack st' ∧ (∀ x ∈ st.out, x ∈ st'.out) ∧ ∀ a ∈ as, SameNs g sf a → a ∈ st'.out := by
  fun_induction foldAdd f as st <;> try cases h
  · exact ⟨hinv, fun _ hx => hx, fun a ha => nomatch ha⟩
  · rename_i a rest st s1 hs1 ih
    obtain ⟨i1, m1, a1⟩ := hf a st s1 stack hs1 (hC a (List.mem_cons_self ..)) hinv (hrank a (List.mem_cons_self ..))
    obtain ⟨i2, m2, a2⟩ := ih h (fun b hb => hC b (List.mem_cons_of_mem _ hb)) i1
      (fun b hb => hrank b (List.mem_cons_of_mem _ hb))
    refine ⟨i2, fun x hx => m2 x (m1 x hx), fun b hb hs => ?_⟩
    rcases List.mem_cons.1 hb with rfl | hb
    · exact m2 _ (a1 hs)
    · exact a2 b hb hs

theorem aliasAdd_callOk {rank : Id → Nat}
    (hrank : ∀ x nd a, g.node? x = some nd → nd.ns = sf → a ∈ referencedAliases g nd.target →
      SameNs g sf a → rank a < rank x)
    (hC : ∀ x nd a, C x → g.node? x = some nd → a ∈ referencedAliases g nd.target → SameNs g sf a → C a)
    (fuel : Nat) : CallOk g sf C rank (aliasAdd g sf fuel) := by
  -- `aliasAdd` reads the fuel only after its `seen` / namespace tests: no `cases fuel` first
  induction fuel using Nat.strongRecOn with
  | ind fuel ih =>
    intro id st st' stack h hCid hinv hstack
    unfold aliasAdd at h
    split at h
    · rename_i hseen
      cases h
      -- marked: appended already, since nothing on the stack has a rank as small
      refine ⟨hinv, fun _ hx => hx, fun hs => ((hinv.seen id).1 (by simpa using hseen)).resolve_right fun hx => ?_⟩
      exact Nat.lt_irrefl _ (hstack hs id hx)
    · rename_i hseen
      have hunseen : id ∉ st.seen := by simpa using hseen
      split at h
      · simp at h
      · rename_i nd hnd
        split at h
        · rename_i hns
          cases h
          refine ⟨hinv, fun _ hx => hx, ?_⟩
          rintro ⟨nd', hnd', hns'⟩
          rw [hnd] at hnd'; cases hnd'
          simp [hns'] at hns
        · rename_i hns
          have hns' : nd.ns = sf := by simpa using hns
          have hsame : SameNs g sf id := ⟨nd, hnd, hns'⟩
          split at h
          · simp at h
          rename_i fuel'
          split at h
          · simp at h
          · rename_i s2 hfold
            cases h
            -- the call is in progress while the aliases its target mentions are added: `id` is on the stack
            obtain ⟨i2, m2, a2⟩ := foldAdd_inv (ih fuel' (Nat.lt_succ_self _)) (stack := id :: stack) hfold
              (fun a ha hs => hC id nd a (hCid hsame) hnd ha hs)
              ⟨hinv.lin, fun x => by simp only [List.mem_cons, hinv.seen x, or_left_comm],
                fun x hx => (List.mem_cons.1 hx).elim (fun e ho => hunseen ((hinv.seen id).2 (.inl (e ▸ ho))))
                  (hinv.disj x)⟩
              (fun a ha hs x hx => by
                have hlt := hrank id nd a hnd hns' ha hs
                rcases List.mem_cons.1 hx with rfl | hx
                · exact hlt
                · exact Nat.lt_trans hlt (hstack hsame x hx))
            refine ⟨⟨i2.lin.snoc (i2.disj id (List.mem_cons_self ..)) (hCid hsame) ?_, fun x => ?_, fun x hx => ?_⟩,
              fun x hx => List.mem_append_left _ (m2 x hx), fun _ => List.mem_append_right _ (List.mem_singleton_self _)⟩
            · rintro a ⟨ndt, hndt, ha, hs⟩
              cases hnd.symm.trans hndt
              exact a2 a ha hs
            · simp only [i2.seen x, List.mem_cons, List.mem_append, List.not_mem_nil, or_false, or_assoc]
            · intro ho
              rcases List.mem_append.1 ho with ho | ho
              · exact i2.disj x (List.mem_cons_of_mem _ hx) ho
              · exact hunseen ((hinv.seen id).2 (.inr (List.mem_singleton.1 ho ▸ hx)))

theorem linearizeAliases_spec {rank : Id → Nat} {ids out : List Id}
    (h : linearizeAliases g sf ids = .ok out)
    (hrank : ∀ x nd a, g.node? x = some nd → nd.ns = sf → a ∈ referencedAliases g nd.target →
      SameNs g sf a → rank a < rank x)
    (hclosed : ∀ x nd a, x ∈ ids → g.node? x = some nd → a ∈ referencedAliases g nd.target → SameNs g sf a →
      a ∈ ids) :
    (ids.Nodup → (∀ x ∈ ids, SameNs g sf x) → out.Perm ids) ∧ ∀ t ∈ out, ∀ a, AliasDep g sf a t → Before out a t := by
  simp only [linearizeAliases] at h
  split at h
  · simp at h
  · rename_i st hst
    cases h
    obtain ⟨i, _, hin⟩ := foldAdd_inv (aliasAdd_callOk (C := (· ∈ ids)) hrank hclosed g.chainFuel) (stack := []) hst
      (fun a ha _ => ha) ⟨Lin.nil, fun x => by simp, fun x hx => nomatch hx⟩ (fun _ _ _ x hx => nomatch hx)
    exact ⟨fun hnd hown => i.lin.perm hnd fun a ha => hin a ha (hown a ha), i.lin.first⟩

theorem foldAdd_total {f : Id → LinSt → Except Err LinSt} {as : List Id}
    (hf : ∀ a ∈ as, ∀ st, ∃ st', f a st = .ok st') : ∀ st, ∃ st', foldAdd f as st = .ok st' := by
  induction as with
  | nil => intro st; exact ⟨st, rfl⟩
  | cons a rest ih =>
    intro st
    obtain ⟨s1, hs1⟩ := hf a (List.mem_cons_self ..) st
    obtain ⟨s2, hs2⟩ := ih (fun b hb => hf b (List.mem_cons_of_mem _ hb)) s1
    exact ⟨s2, by simp only [foldAdd, hs1, hs2]⟩

theorem aliasAdd_total {rank : Id → Nat}
    (hrank : ∀ x nd a, g.node? x = some nd → nd.ns = sf → a ∈ referencedAliases g nd.target →
      SameNs g sf a → rank a < rank x) :
    ∀ fuel id st, (∃ nd, g.node? id = some nd) → (SameNs g sf id → rank id < fuel) →
      ∃ st', aliasAdd g sf fuel id st = .ok st' := by
  intro fuel
  induction fuel using Nat.strongRecOn with
  | ind fuel ih =>
    intro id st ⟨nd, hnd⟩ hlt
    unfold aliasAdd
    split
    · exact ⟨_, rfl⟩
    · simp only [hnd]
      split
      · exact ⟨_, rfl⟩
      · rename_i hns
        have hns' : nd.ns = sf := by simpa using hns
        have hid := hlt ⟨nd, hnd, hns'⟩
        cases fuel with
        | zero => omega
        | succ fuel =>
          obtain ⟨s2, hs2⟩ := foldAdd_total (f := aliasAdd g sf fuel) (as := referencedAliases g nd.target)
            (by
              intro a ha st1
              obtain ⟨na, hna, _⟩ := isAliasId_iff.1 (List.mem_filter.1 ha).2
              exact ih fuel (Nat.lt_succ_self _) a st1 ⟨na, hna⟩ (fun hs => by
                have := hrank id nd a hnd hns' ha hs
                omega))
            { st with seen := id :: st.seen }
          simp only [hs2]
          exact ⟨_, rfl⟩

theorem leRoute_iff (g : Graph) (a b : Id) :
    leRoute g a b = true ↔ (g.nameOf a < g.nameOf b ∨ (g.nameOf a = g.nameOf b ∧ g.versionOf a ≤ g.versionOf b)) := by
  simp [leRoute]

/-- `ApiRoute.__lt__` is Python's order on the tuples `(name, version)` -/
theorem leRoute_eq (g : Graph) (a b : Id) :
    leRoute g a b = Order.pairLe (g.nameOf a, g.versionOf a) (g.nameOf b, g.versionOf b) := by
  unfold leRoute Order.pairLe Order.strLe
  by_cases h : g.nameOf a = g.nameOf b
  · simp [h, String.lt_irrefl]
  · have : g.nameOf a < g.nameOf b ↔ g.nameOf a ≤ g.nameOf b :=
      ⟨fun hlt => String.not_lt.1 (String.lt_asymm hlt),
        fun hle => String.not_le.1 fun hge => h (String.le_antisymm hle hge)⟩
    simp [h, this]

theorem filterFields_eq (p : Field → Bool) (fuel : Nat) (id : Id) :
    filterFields g p fuel id = (chainUp g fuel id).map (chainFields p) := by
  induction fuel generalizing id with
  | zero => rfl
  | succ fuel ih =>
    simp only [filterFields, chainUp]
    cases g.node? id with
    | none => rfl
    | some nd =>
      cases hq : nd.parent with
      | none => simp [hq, chainFields, Except.map]
      | some q =>
        simp only [hq, ih]
        cases chainUp g fuel q <;> simp [chainFields, Except.map]

theorem filterFields_chain {p : Field → Bool} {fuel : Nat} {id : Id} {l : List (Id × Field)}
    (h : filterFields g p fuel id = .ok l) : ∃ c, chainUp g fuel id = .ok c ∧ l = chainFields p c := by
  rw [filterFields_eq] at h
  exact except_map_ok h

theorem chainFields_eq_filter (p : Field → Bool) (c : List (Id × Node)) :
    chainFields p c = (chainFields (fun _ => true) c).filter (fun x => p x.2) := by
  simp [chainFields, List.filter_flatMap, List.filter_map, Function.comp_def]

theorem chainFields_split_perm (p : Field → Bool) (c : List (Id × Node)) :
    (chainFields (fun f => !p f) c ++ chainFields p c).Perm (chainFields (fun _ => true) c) := by
  rw [chainFields_eq_filter p, chainFields_eq_filter (fun f => !p f)]
  exact List.perm_append_comm.trans (List.filter_append_perm _ _)

theorem mem_chainFields {p : Field → Bool} {c : List (Id × Node)} {o : Id} {f : Field} :
    (o, f) ∈ chainFields p c ↔ ∃ nd, (o, nd) ∈ c ∧ f ∈ nd.fields ∧ p f = true := by
  simp only [chainFields, List.mem_flatMap, List.mem_map, List.mem_filter, Prod.mk.injEq, Prod.exists]
  constructor
  · rintro ⟨o', nd, hx, f', hf', rfl, rfl⟩
    exact ⟨nd, hx, hf'⟩
  · rintro ⟨nd, hx, hf'⟩
    exact ⟨o, nd, hx, f, hf', rfl, rfl⟩

theorem chainUp_spec {fuel : Nat} {id : Id} {c : List (Id × Node)} (h : chainUp g fuel id = .ok c) :
    (∀ x ∈ c, Anc g id x.1 ∧ g.node? x.1 = some x.2) ∧ ∃ nd, g.node? id = some nd ∧ (id, nd) ∈ c := by
  fun_induction chainUp g fuel id generalizing c <;> cases h
  · rename_i id nd hnd q hq up hup ih
    refine ⟨fun x hx => ?_, nd, hnd, List.mem_append_right _ (List.mem_singleton_self _)⟩
    rcases List.mem_append.1 hx with hx | hx
    · exact ⟨.step hnd hq ((ih hup).1 x hx).1, ((ih hup).1 x hx).2⟩
    · rw [List.mem_singleton.1 hx]; exact ⟨.refl _, hnd⟩
  · rename_i id nd hnd _
    refine ⟨fun x hx => ?_, nd, hnd, List.mem_singleton_self _⟩
    rw [List.mem_singleton.1 hx]; exact ⟨.refl _, hnd⟩

theorem allFields_chain {id : Id} {fs : List (Id × Field)} (h : allFields g id = .ok fs) :
    ∃ nd c, g.node? id = some nd ∧ chainUp g g.chainFuel id = .ok c ∧
      (nd.kind = .struct →
        allRequired g id = .ok (chainFields (fun f => !f.isOptional) c) ∧
        allOptional g id = .ok (chainFields (fun f => f.isOptional) c) ∧
        fs = chainFields (fun f => !f.isOptional) c ++ chainFields (fun f => f.isOptional) c) ∧
      (nd.kind = .union → fs = chainFields (fun _ => true) c) ∧
      fs.Perm (chainFields (fun _ => true) c) := by
  revert h
  fun_cases allFields g id <;> intro h <;> try cases h
  · rename_i nd hnd hk r o ho hr
    obtain ⟨c, hc, rfl⟩ := filterFields_chain hr
    obtain ⟨c2, hc2, rfl⟩ := filterFields_chain ho
    cases hc.symm.trans hc2
    exact ⟨nd, c, hnd, hc, fun _ => ⟨hr, ho, rfl⟩, fun hu => (nomatch hk.symm.trans hu),
      chainFields_split_perm (fun f => f.isOptional) c⟩
  · rename_i nd hnd hk
    obtain ⟨c, hc, rfl⟩ := filterFields_chain h
    exact ⟨nd, c, hnd, hc, fun hs => (nomatch hk.symm.trans hs), fun _ => rfl, List.Perm.refl _⟩

theorem allFields_mem {g : Graph} {id : Id} {fs : List (Id × Field)} (h : allFields g id = .ok fs)
    {o : Id} {f : Field} (hm : (o, f) ∈ fs) : Anc g id o ∧ ∃ no, g.node? o = some no ∧ f ∈ no.fields := by
  obtain ⟨_, c, _, hc, _, _, hp⟩ := allFields_chain h
  obtain ⟨no, hx, hf, _⟩ := mem_chainFields.1 (hp.subset hm)
  obtain ⟨ha, hno⟩ := (chainUp_spec hc).1 _ hx
  exact ⟨ha, no, hno, hf⟩

theorem allFields_own {g : Graph} {id : Id} {fs : List (Id × Field)} (h : allFields g id = .ok fs)
    {nd : Node} (hnd : g.node? id = some nd) {f : Field} (hf : f ∈ nd.fields) : (id, f) ∈ fs := by
  obtain ⟨_, c, _, hc, _, _, hp⟩ := allFields_chain h
  obtain ⟨nd', hnd', hx⟩ := (chainUp_spec hc).2
  cases hnd.symm.trans hnd'
  exact hp.symm.subset (mem_chainFields.2 ⟨nd, hx, hf, rfl⟩)

end StoneVerif.Graph
