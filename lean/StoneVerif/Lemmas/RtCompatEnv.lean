import StoneVerif.Lemmas.RtCompat
import StoneVerif.Lemmas.RtWireEnv
/-!
What `compatEnv ρ A B` and the well-formedness of the two environments (`Ctx`) give: `ρ` as a partial bijection, and for a
related pair of structs the relation between the two tables of visible fields (`FieldsRel`), defaults, and what a subclass
inherits (`envWFX`, `envWFU`).
-/
namespace StoneVerif.Rt.Compat

theorem Rho.rel_iff {ρ : Rho} {a b : String} : ρ.rel a b = true ↔ (a, b) ∈ ρ := by
  simp only [Rho.rel, List.any_eq_true, Bool.and_eq_true, beq_iff_eq]
  constructor
  · rintro ⟨⟨x, y⟩, hm, h1, h2⟩
    simp only at h1 h2
    subst h1; subst h2; exact hm
  · intro h; exact ⟨(a, b), h, rfl, rfl⟩

theorem Rho.fst_eq_iff_of_wf {ρ : Rho} (h : ρ.wf = true) {p q : String × String} (hp : p ∈ ρ) (hq : q ∈ ρ) :
    p.1 = q.1 ↔ p.2 = q.2 := by
  simp only [Rho.wf, List.all_eq_true] at h
  have := beq_iff_eq.mp (h p hp q hq)
  rw [← beq_iff_eq, this, beq_iff_eq]

theorem Rho.toA_of_rel {ρ : Rho} (hwf : ρ.wf = true) {a b : String} (h : ρ.rel a b = true) : ρ.toA b = some a :=
  congrArg (Option.map Prod.fst) (find?_key_of_mem_inj (Prod.snd : String × String → String)
    (fun _ hp _ hq e => Prod.ext ((Rho.fst_eq_iff_of_wf hwf hp hq).mpr e) e) (Rho.rel_iff.mp h))

theorem Rho.toB_of_rel {ρ : Rho} (hwf : ρ.wf = true) {a b : String} (h : ρ.rel a b = true) : ρ.toB a = some b :=
  congrArg (Option.map Prod.snd) (find?_key_of_mem_inj (Prod.fst : String × String → String)
    (fun _ hp _ hq e => Prod.ext e ((Rho.fst_eq_iff_of_wf hwf hp hq).mp e)) (Rho.rel_iff.mp h))

theorem Rho.rel_of_toA {ρ : Rho} {a b : String} (h : ρ.toA b = some a) : ρ.rel a b = true := by
  obtain ⟨p, hf, rfl⟩ := Option.map_eq_some_iff.1 h
  obtain ⟨hp, rfl⟩ := find?_key_some (Prod.snd : String × String → String) hf
  exact Rho.rel_iff.mpr hp

theorem Rho.rel_of_toB {ρ : Rho} {a b : String} (h : ρ.toB a = some b) : ρ.rel a b = true := by
  obtain ⟨p, hf, rfl⟩ := Option.map_eq_some_iff.1 h
  obtain ⟨hp, rfl⟩ := find?_key_some (Prod.fst : String × String → String) hf
  exact Rho.rel_iff.mpr hp

theorem compat_wf {ρ : Rho} {A B : Env} (h : compatEnv ρ A B = true) : ρ.wf = true := by
  simp only [compatEnv, Bool.and_eq_true] at h; exact h.1

theorem compat_pair {ρ : Rho} {A B : Env} (h : compatEnv ρ A B = true) {a b : String} (hr : ρ.rel a b = true) :
    pairOk ρ A B (a, b) = true := by
  simp only [compatEnv, Bool.and_eq_true, List.all_eq_true] at h
  exact h.2 (a, b) (Rho.rel_iff.mp hr)

theorem compat_struct {ρ : Rho} {A B : Env} (h : compatEnv ρ A B = true) {a b : String} (hr : ρ.rel a b = true)
    {sa : StructDef} (hs : A.struct? a = some sa) : structSub ρ A B a b = true := by
  have := compat_pair h hr
  simp only [pairOk, Bool.and_eq_true, Bool.or_eq_true, hs, Option.isNone_some, Bool.false_eq_true, false_or] at this
  exact this.1.2

theorem compat_union {ρ : Rho} {A B : Env} (h : compatEnv ρ A B = true) {a b : String} (hr : ρ.rel a b = true)
    {ua : UnionDef} (hu : A.union? a = some ua) : unionSub ρ A B a b = true := by
  have := compat_pair h hr
  simp only [pairOk, Bool.and_eq_true, Bool.or_eq_true, hu, Option.isNone_some, Bool.false_eq_true, false_or] at this
  exact this.2

/-- `wfxA`, `wfuB` matter only at struct trees, where an instance is read with an ancestor's table: `validate_sub`,
`validate_lift` (of `wfuB` its `envWFX` part), and `decode_tree_sub` when B sends a subtype A does not list (then `Attribute.__set__`'s `user_defined` too) -/
structure Ctx (ρ : Rho) (A B : Env) : Prop where
  compat : compatEnv ρ A B = true
  wfA : envWF A = true
  wfB : envWF B = true
  wfxA : envWFX A = true
  wfuB : envWFU B = true

def isPublic (f : FieldDef) : Bool := f.omitted.isNone

theorem publicFields_eq_filter {env : Env} {c : String} {s : StructDef} (h : env.struct? c = some s) :
    publicFields env c = s.allAttrs.filter isPublic := by
  simp only [publicFields, h, StructDef.fieldsSpec, StructDef.allAttrs]
  congr 1
  funext f
  cases ho : f.omitted <;> simp [isPublic, ho]

theorem structTable_find {env : Env} (hwf : envWF env = true) {c : String} {f : FieldDef} (hf : f ∈ publicFields env c) :
    (structTable env c).find? (·.1 == f.name) = some (f.name, f.ty) :=
  find?_table_of_mem (publicFields_nodup hwf c) hf

def tableOf (fields : List FieldDef) : List (String × PTy) := fields.map fun f => (f.name, f.ty)

theorem structTable_tableOf (A : Env) (cls : String) : structTable A cls = tableOf (publicFields A cls) := rfl

theorem tableOf_find (fields : List FieldDef) (k : String) :
    (tableOf fields).find? (·.1 == k) = (fields.find? (·.name == k)).map fun f => (f.name, f.ty) := by
  unfold tableOf
  rw [List.find?_map]
  rfl

theorem tableOf_find_tag {fields : List FieldDef} (h : ∀ f ∈ fields, f.name ≠ ".tag") :
    (tableOf fields).find? (·.1 == ".tag") = none := by
  rw [tableOf_find]
  cases hf : fields.find? (·.name == ".tag") with
  | none => rfl
  | some f =>
    obtain ⟨hm, hn⟩ := find_name_some hf
    exact absurd hn (h f hm)

theorem table_contains (fields : List FieldDef) (k : String) :
    ((fields.map fun f => (f.name, f.ty)).find? (·.1 == k)).isSome = (fields.map (·.name)).contains k := by
  rw [List.find?_map, Option.isSome_map, Bool.eq_iff_iff]; simp

/-- the PUBLIC fields of a related pair; `extra` is by name; `B` serves `newFieldOk` -/
structure FieldsRel (ρ : Rho) (B : Env) (fa fb : List FieldDef) : Prop where
  nodupA : nodupS (fa.map (·.name)) = true
  nodupB : nodupS (fb.map (·.name)) = true
  common : ∀ f ∈ fa, ∃ g ∈ fb, fieldSub ρ f g = true
  extra : ∀ g ∈ fb, (∃ f ∈ fa, f.name = g.name) ∨ newFieldOk B g = true

theorem fieldSub_name {ρ : Rho} {f g : FieldDef} (h : fieldSub ρ f g = true) : f.name = g.name := by
  simp only [fieldSub, Bool.and_eq_true, beq_iff_eq] at h
  exact h.1.1.1.1.1

theorem fieldSub_parts {ρ : Rho} {f g : FieldDef} (h : fieldSub ρ f g = true) :
    tySub ρ f.ty g.ty = true ∧ f.omitted = g.omitted ∧ f.attrNullable = g.attrNullable ∧
    f.attrUserDefined = g.attrUserDefined ∧ f.dflt.isSome = g.dflt.isSome := by
  simp only [fieldSub, Bool.and_eq_true, beq_iff_eq] at h
  exact ⟨h.1.1.1.1.2, h.1.1.1.2, h.1.1.2, h.1.2, h.2⟩

theorem fieldSub_of_name {ρ : Rho} {fa fb : List FieldDef} (hnd : nodupS (fb.map (·.name)) = true)
    (hcom : ∀ f ∈ fa, ∃ g ∈ fb, fieldSub ρ f g = true) {f g : FieldDef} (hf : f ∈ fa) (hg : g ∈ fb)
    (hn : f.name = g.name) : fieldSub ρ f g = true := by
  obtain ⟨g', hg', hsub⟩ := hcom f hf
  have hnd := (nodupS_iff _).1 hnd
  have h1 := find_name_of_mem hnd hg
  rw [← hn, fieldSub_name hsub, find_name_of_mem hnd hg'] at h1
  cases h1
  exact hsub

/-- the clause on enumerated subtypes is left as `structSub` writes it; `subsRel` reads it -/
theorem structSub_iff {ρ : Rho} {A B : Env} {a b : String} {sa : StructDef} (hsa : A.struct? a = some sa) :
    structSub ρ A B a b = true ↔ ∃ sb, B.struct? b = some sb ∧
      (∀ f ∈ sa.allAttrs, ∃ g, sb.allAttrs.find? (·.name == f.name) = some g ∧ fieldSub ρ f g = true) ∧
      (∀ g ∈ sb.allAttrs, (sa.allAttrs.find? (·.name == g.name)).isSome = true ∨ newFieldOk B g = true) ∧
      (match sa.subtypes, sb.subtypes with
        | none, none => true
        | some xa, some xb =>
          sa.catchAll == sb.catchAll &&
          xa.all (fun e => match findSub e.1 xb with
            | some e' => ρ.rel e.2.1 e'.2.1 && e.2.2 == e'.2.2
            | none => false) &&
          (sa.catchAll || xb.all fun e' => (findSub e'.1 xa).isSome)
        | _, _ => false) = true := by
  unfold structSub
  rw [hsa]
  cases B.struct? b with
  | none => exact ⟨fun h => (by cases h), fun ⟨_, h, _⟩ => (by cases h)⟩
  | some sb =>
    simp only [Bool.and_eq_true, List.all_eq_true, Bool.or_eq_true, and_assoc, Option.some.injEq, exists_eq_left']
    refine and_congr (forall₂_congr fun f _ => ?_) Iff.rfl
    cases sb.allAttrs.find? (·.name == f.name) <;> simp

theorem fieldsRel_public {ρ : Rho} {A B : Env} (hc : compatEnv ρ A B = true) (hA : envWF A = true) (hB : envWF B = true)
    {a b : String} (hr : ρ.rel a b = true) {sa : StructDef} (hs : A.struct? a = some sa) :
    FieldsRel ρ B (publicFields A a) (publicFields B b) := by
  obtain ⟨sb, hsb, hcom, hext, -⟩ := (structSub_iff hs).1 (compat_struct hc hr hs)
  refine ⟨publicFields_nodupS hA a, publicFields_nodupS hB b, ?_, ?_⟩
  · intro f hf
    rw [publicFields_eq_filter hs] at hf
    obtain ⟨hfa, hfp⟩ := List.mem_filter.mp hf
    obtain ⟨g, hg, hsub⟩ := hcom f hfa
    refine ⟨g, ?_, hsub⟩
    rw [publicFields_eq_filter hsb]
    refine List.mem_filter.mpr ⟨List.mem_of_find?_eq_some hg, ?_⟩
    have := (fieldSub_parts hsub).2.1
    simpa [isPublic, ← this] using hfp
  · intro g hg
    rw [publicFields_eq_filter hsb] at hg
    obtain ⟨hga, hgp⟩ := List.mem_filter.mp hg
    rcases hext g hga with h1 | h2
    · left
      obtain ⟨f, hf⟩ := Option.isSome_iff_exists.mp h1
      obtain ⟨hfm, hfn⟩ := find_name_some hf
      refine ⟨f, ?_, hfn⟩
      rw [publicFields_eq_filter hs]
      refine List.mem_filter.mpr ⟨hfm, ?_⟩
      have hsub := fieldSub_of_name (StructDef.wf_nodupS (envWF_struct hB hsb))
        (fun f hf => (hcom f hf).imp fun _ h => ⟨List.mem_of_find?_eq_some h.1, h.2⟩) hfm hga hfn
      simpa [isPublic, (fieldSub_parts hsub).2.1] using hgp
    · right; exact h2

theorem fieldsRel_partner {ρ : Rho} {B : Env} {fa fb : List FieldDef} (h : FieldsRel ρ B fa fb) {g : FieldDef} (hg : g ∈ fb) :
    (∃ f ∈ fa, fieldSub ρ f g = true) ∨ ((∀ f ∈ fa, f.name ≠ g.name) ∧ newFieldOk B g = true) := by
  by_cases hex : ∃ f ∈ fa, f.name = g.name
  · obtain ⟨f, hf, hn⟩ := hex
    exact .inl ⟨f, hf, fieldSub_of_name h.nodupB h.common hf hg hn⟩
  · rcases h.extra g hg with h1 | h2
    · exact absurd h1 hex
    · right
      refine ⟨?_, h2⟩
      intro f hf hn
      exact hex ⟨f, hf, hn⟩

theorem struct_related {ρ : Rho} {A B : Env} (hc : compatEnv ρ A B = true) {a b : String} (hr : ρ.rel a b = true)
    {sa : StructDef} (hsa : A.struct? a = some sa) : ∃ sb, B.struct? b = some sb := by
  obtain ⟨sb, hsb, -⟩ := (structSub_iff hsa).1 (compat_struct hc hr hsa)
  exact ⟨sb, hsb⟩

theorem unionSub_iff {ρ : Rho} {A B : Env} {a b : String} {ua : UnionDef} (hua : A.union? a = some ua) :
    unionSub ρ A B a b = true ↔ ∃ ub, B.union? b = some ub ∧ ua.catchAll = ub.catchAll ∧
      (∀ t ∈ UnionDef.allTags ua, ∃ t', findTag t.name (UnionDef.allTags ub) = some t' ∧ t.omitted = t'.omitted ∧
        (tySub ρ t.ty t'.ty = true ∨ (isVoidT t.ty = true ∧ ua.catchAll ≠ some t.name))) ∧
      (ua.catchAll.isSome = true ∨ ∀ t' ∈ UnionDef.allTags ub, (findTag t'.name (UnionDef.allTags ua)).isSome = true) := by
  unfold unionSub
  rw [hua]
  cases B.union? b with
  | none => exact ⟨fun h => (by cases h), fun ⟨_, h, _⟩ => (by cases h)⟩
  | some ub =>
    simp only [Bool.and_eq_true, beq_iff_eq, List.all_eq_true, Bool.or_eq_true, and_assoc, Option.some.injEq,
      exists_eq_left']
    refine and_congr Iff.rfl (and_congr (forall₂_congr fun t _ => ?_) Iff.rfl)
    cases findTag t.name (UnionDef.allTags ub) <;> simp

theorem union_related {ρ : Rho} {A B : Env} (hc : compatEnv ρ A B = true) {a b : String} (hr : ρ.rel a b = true)
    {ua : UnionDef} (hua : A.union? a = some ua) : ∃ ub, B.union? b = some ub := by
  obtain ⟨ub, hub, -⟩ := (unionSub_iff hua).1 (compat_union hc hr hua)
  exact ⟨ub, hub⟩

def optionalAttr (f : FieldDef) : Bool := f.attrNullable || f.dflt.isSome

theorem newFieldOk_optional {B : Env} {g : FieldDef} (h : newFieldOk B g = true) : optionalAttr g = true := by
  simp only [newFieldOk, Bool.or_eq_true, Bool.and_eq_true] at h
  simp only [optionalAttr, Bool.or_eq_true]
  rcases h with h | h
  · exact .inl h.1
  · exact .inr h.1

theorem allOptional_sub {ρ : Rho} {A B : Env} (hc : compatEnv ρ A B = true) (hB : envWF B = true) {a b : String}
    (hr : ρ.rel a b = true) {sa sb : StructDef} (hsa : A.struct? a = some sa) (hsb : B.struct? b = some sb) :
    sa.allAttrs.all optionalAttr = sb.allAttrs.all optionalAttr := by
  obtain ⟨sb', hsb', hcom, hext, -⟩ := (structSub_iff hsa).1 (compat_struct hc hr hsa)
  rw [hsb] at hsb'; cases hsb'
  have hnd := StructDef.wf_nodupS (envWF_struct hB hsb)
  rw [Bool.eq_iff_iff, List.all_eq_true, List.all_eq_true]
  constructor
  · intro h g hg
    rcases hext g hg with h1 | h2
    · obtain ⟨f, hf⟩ := Option.isSome_iff_exists.mp h1
      obtain ⟨hfm, hfn⟩ := find_name_some hf
      have hp := fieldSub_parts (fieldSub_of_name hnd
        (fun f hf => (hcom f hf).imp fun _ h => ⟨List.mem_of_find?_eq_some h.1, h.2⟩) hfm hg hfn)
      have := h f hfm
      simp only [optionalAttr] at this ⊢
      rw [← hp.2.2.1, ← hp.2.2.2.2]; exact this
    · exact newFieldOk_optional h2
  · intro h f hf
    obtain ⟨g, hg, hsub⟩ := hcom f hf
    have hp := fieldSub_parts hsub
    have := h g (List.mem_of_find?_eq_some hg)
    simp only [optionalAttr] at this ⊢
    rw [hp.2.2.1, hp.2.2.2.2]; exact this

theorem hasDefault_all {env : Env} (fl : Flags) (c : String) {s : StructDef} (hs : env.struct? c = some s) :
    hasDefault env (.struct fl c) = (fl.nullable || s.allAttrs.all optionalAttr) := by
  simp only [hasDefault, PTy.flags, hs, StructDef.allAttrs]; rfl

/-- only `envWF B`: `newFieldOk_sub` applies this to the second and third of three specs -/
theorem hasDefault_sub {ρ : Rho} {A B : Env} (hc : compatEnv ρ A B = true) (hB : envWF B = true) {tA tB : PTy}
    (h : tySub ρ tA tB = true) (hw : tyWF A tA = true) : hasDefault A tA = hasDefault B tB := by
  cases TySub.of_eq_true h with
  | prim hp hn =>
    cases tA <;> simp only [isPrimTy, Bool.false_eq_true] at hp <;>
      (simp only [PTy.flags] at hn; simp only [hasDefault, PTy.withFlags, PTy.flags, hn])
  | @struct f g c c' hn hr =>
    obtain ⟨sa, hsa, -⟩ := tyWF_struct hw
    obtain ⟨sb, hsb⟩ := struct_related hc hr hsa
    rw [hasDefault_all f c hsa, hasDefault_all g c' hsb, hn, allOptional_sub hc hB hr hsa hsb]
  | list hn | map hn | tree hn | union hn => simp only [hasDefault, PTy.flags, hn]

theorem attrsPrefix_names {P C : List FieldDef} (h : attrsPrefix P C = true) : ∀ f ∈ P, f.name ∈ C.map (·.name) :=
  fun f hf => by
    obtain ⟨g, hg, e⟩ := attrsPrefix_mem h f hf
    exact List.mem_map.2 ⟨g, hg, (sameWire_iff.1 e).1.symm⟩

theorem sameAttr_iff {a b : FieldDef} : sameAttr a b = true ↔
    a.name = b.name ∧ a.ty = b.ty ∧ a.attrNullable = b.attrNullable ∧ a.dflt.isSome = b.dflt.isSome ∧
      a.omitted = b.omitted ∧ a.attrUserDefined = b.attrUserDefined := by
  simp [sameAttr, sameWire_iff, and_assoc]

def attrKey (f : FieldDef) : (String × PTy × Bool × Bool × Option String) × Bool := (wireKey f, f.attrUserDefined)

theorem sameAttr_eq_key (a b : FieldDef) : sameAttr a b = (attrKey a == attrKey b) := by
  rw [sameAttr, sameWire_eq_key]; rfl

theorem attrsPrefixU_iff {P C : List FieldDef} : attrsPrefixU P C = true ↔ P.map attrKey <+: C.map attrKey := by
  rw [← List.isPrefixOf_iff_prefix]
  induction P generalizing C with
  | nil => simp [attrsPrefixU]
  | cons a as ih => cases C with
    | nil => simp [attrsPrefixU]
    | cons b bs => simp only [attrsPrefixU, List.map_cons, List.isPrefixOf, Bool.and_eq_true, ih, sameAttr_eq_key]

theorem attrsPrefixU_filter {P C : List FieldDef} (h : attrsPrefixU P C = true) :
    attrsPrefixU (P.filter isPublic) (C.filter isPublic) = true := by
  rw [attrsPrefixU_iff] at h ⊢
  exact (List.filter_map (f := attrKey) (p := (·.1.2.2.2.2.isNone))) ▸
    (List.filter_map (f := attrKey) (p := (·.1.2.2.2.2.isNone))) ▸ h.filter _

theorem attrsPrefixU_mem {P C : List FieldDef} (h : attrsPrefixU P C = true) :
    ∀ f ∈ P, ∃ f' ∈ C, sameAttr f f' = true := fun f hf => by
  obtain ⟨g, hg, e⟩ := List.mem_map.1 ((attrsPrefixU_iff.1 h).subset (List.mem_map_of_mem hf))
  exact ⟨g, hg, by rw [sameAttr_eq_key, e]; exact beq_self_eq_true _⟩

theorem publicFields_prefixU {env : Env} (hx : envWFU env = true) {c cls : String}
    (hsub : env.structSubclass c cls = true) :
    ∀ f ∈ publicFields env cls, ∃ f' ∈ publicFields env c, sameAttr f f' = true := by
  unfold Env.structSubclass at hsub
  cases hc : env.struct? c with
  | none => simp [hc] at hsub
  | some sc =>
    simp only [hc, StructDef.ancestors, List.contains_iff_mem, List.mem_map] at hsub
    obtain ⟨l, hl, rfl⟩ := hsub
    have hsc := (struct?_some hc).1
    simp only [envWFU, List.all_eq_true] at hx
    have hl' := hx sc hsc l hl
    cases ha : env.struct? l.cls with
    | none => simp [ha] at hl'
    | some a =>
      simp only [ha] at hl'
      rw [publicFields_eq_filter ha, publicFields_eq_filter hc]
      exact attrsPrefixU_mem (attrsPrefixU_filter hl')

theorem fieldSub_sameAttr {ρ : Rho} {f g g' : FieldDef} (h : fieldSub ρ f g = true) (hs : sameAttr g g' = true) :
    fieldSub ρ f g' = true := by
  obtain ⟨h1, h2, h3, h4, h5, h6⟩ := sameAttr_iff.mp hs
  have hn := fieldSub_name h
  obtain ⟨p1, p2, p3, p4, p5⟩ := fieldSub_parts h
  simp only [fieldSub, Bool.and_eq_true, beq_iff_eq]
  rw [← h1, ← h2, ← h3, ← h4, ← h5, ← h6]
  exact ⟨⟨⟨⟨⟨hn, p1⟩, p2⟩, p3⟩, p4⟩, p5⟩

theorem attrsPrefix_of_U {P C : List FieldDef} (h : attrsPrefixU P C = true) : attrsPrefix P C = true := by
  have := (attrsPrefixU_iff.1 h).map (·.1)
  rw [List.map_map, List.map_map] at this
  exact attrsPrefix_iff.2 this

theorem envWFX_of_envWFU {env : Env} (h : envWFU env = true) : envWFX env = true := by
  simp only [envWFU, List.all_eq_true] at h
  simp only [envWFX, StructDef.chainExact, List.all_eq_true]
  intro s hs l hl
  have := h s hs l hl
  cases ha : env.struct? l.cls with
  | none => simp [ha] at this
  | some a =>
    simp only [ha] at this ⊢
    exact attrsPrefix_of_U this

end StoneVerif.Rt.Compat
