import StoneVerif.Model.FeCompile
import StoneVerif.Lemmas.ListFacts
/-!
The loops of the compile model that run a step over a list and stop at the first error are of three shapes: `mapE`
(the results are collected), `firstErr` (nothing to collect) and `foldE` (a state is threaded; its invariant may name the
processed prefix); `optMapM` is `mapE` in `Option`.  Here: the facts about the shapes and, for each loop of the model,
its body as a function of its own, the equation that says the loop runs it, and what the body returns.
-/
namespace StoneVerif.FeCompile.L

theorem optMapM_cons_some {α β} {g : α → Option β} {x : α} {l : List α} {ys : List β} :
    optMapM g (x :: l) = some ys ↔ ∃ y ys', g x = some y ∧ optMapM g l = some ys' ∧ ys = y :: ys' := by
  simp only [optMapM]
  cases g x with
  | none => simp
  | some y =>
    cases optMapM g l with
    | none => simp
    | some ys' => simp [eq_comm]

theorem optMapM_eq_mapM {α β} (g : α → Option β) : ∀ l : List α, optMapM g l = l.mapM g
  | [] => rfl
  | x :: xs => by
    rw [optMapM, List.mapM_cons, optMapM_eq_mapM g xs]
    cases g x with
    | none => rfl
    | some y => cases xs.mapM g <;> rfl

theorem optMapM_mem {α β} {g : α → Option β} {l : List α} {l'} (h : optMapM g l = some l') (y) (hy : y ∈ l') :
    ∃ x, x ∈ l ∧ g x = some y :=
  (mapM_some_mem (optMapM_eq_mapM g l ▸ h)).1 y hy

theorem optMapM_of_mem {α β} {g : α → Option β} {l : List α} {l'} (h : optMapM g l = some l') (x) (hx : x ∈ l) :
    ∃ y, y ∈ l' ∧ g x = some y :=
  (mapM_some_mem (optMapM_eq_mapM g l ▸ h)).2 x hx

theorem optMapM_congr {α β} {g g' : α → Option β} : ∀ {l : List α}, (∀ x, x ∈ l → g x = g' x) → optMapM g l = optMapM g' l
  | [], _ => rfl
  | x :: l, h => by
    simp only [optMapM, h x List.mem_cons_self, optMapM_congr (l := l) (fun x' hx' => h x' (List.mem_cons_of_mem _ hx'))]

theorem optMapM_length {α β} {g : α → Option β} : ∀ {l : List α} {l'}, optMapM g l = some l' → l'.length = l.length
  | [], l', h => by simp only [optMapM] at h; cases h; rfl
  | x :: l, l', h => by
    obtain ⟨y, ys, _, hys, rfl⟩ := optMapM_cons_some.mp h
    simp [optMapM_length hys]

theorem optMapM_map {α β γ} (g : β → Option γ) (f : α → β) : ∀ l, optMapM g (l.map f) = optMapM (fun x => g (f x)) l
  | [] => rfl
  | x :: l => by simp only [List.map_cons, optMapM, optMapM_map g f l]

section MapE
variable {α β : Type} {g : α → Except Err β}

theorem mapE_cons_ok {x : α} {l : List α} {ys : List β} :
    mapE g (x :: l) = .ok ys ↔ ∃ y ys', g x = .ok y ∧ mapE g l = .ok ys' ∧ ys = y :: ys' := by
  simp only [mapE]
  cases g x with
  | error e => simp
  | ok y =>
    cases mapE g l with
    | error e => simp
    | ok ys' => simp [eq_comm]

theorem mapE_eq_mapM : ∀ l : List α, mapE g l = l.mapM g
  | [] => rfl
  | x :: xs => by
    rw [mapE, List.mapM_cons, mapE_eq_mapM xs]
    cases g x with
    | error e => rfl
    | ok y => cases xs.mapM g <;> rfl

theorem mapE_mem {l : List α} {ys} (h : mapE g l = .ok ys) (y) (hy : y ∈ ys) : ∃ x, x ∈ l ∧ g x = .ok y :=
  (mapM_ok_mem (mapE_eq_mapM l ▸ h)).1 y hy

theorem mapE_of_mem {l : List α} {ys} (h : mapE g l = .ok ys) (x) (hx : x ∈ l) : ∃ y, y ∈ ys ∧ g x = .ok y :=
  (mapM_ok_mem (mapE_eq_mapM l ▸ h)).2 x hx

theorem mapE_ok : ∀ {l : List α}, (∀ x, x ∈ l → ∃ y, g x = .ok y) → ∃ ys, mapE g l = .ok ys
  | [], _ => ⟨[], rfl⟩
  | x :: l, h => by
    obtain ⟨y, hy⟩ := h x List.mem_cons_self
    obtain ⟨ys, hys⟩ := mapE_ok (l := l) (fun x' hx' => h x' (List.mem_cons_of_mem _ hx'))
    exact ⟨y :: ys, mapE_cons_ok.mpr ⟨y, ys, hy, hys, rfl⟩⟩

theorem mapE_isOk_iff {l : List α} : (∃ ys, mapE g l = .ok ys) ↔ ∀ x, x ∈ l → ∃ y, g x = .ok y :=
  ⟨fun ⟨_, h⟩ x hx => (mapE_of_mem h x hx).imp fun _ h => h.2, mapE_ok⟩

theorem mapE_optMapM {h : α → Option β} : ∀ {l : List α} {ys}, (∀ x, x ∈ l → ∀ y, g x = .ok y → h x = some y) →
    mapE g l = .ok ys → optMapM h l = some ys
  | [], ys, _, hm => by simp only [mapE] at hm; cases hm; rfl
  | x :: l, ys, hg, hm => by
    obtain ⟨y, ys', h0, hl, rfl⟩ := mapE_cons_ok.mp hm
    simp [optMapM, hg x List.mem_cons_self y h0, mapE_optMapM (fun x' hx' => hg x' (List.mem_cons_of_mem _ hx')) hl]

theorem mapE_of_optMapM {h : α → Option β} : ∀ {l : List α} {ys}, optMapM h l = some ys →
    (∀ x, x ∈ l → ∀ y, h x = some y → g x = .ok y) → mapE g l = .ok ys
  | [], ys, hm, _ => by simp only [optMapM] at hm; cases hm; rfl
  | x :: l, ys, hm, hg => by
    obtain ⟨y, ys', hy, hys, rfl⟩ := optMapM_cons_some.mp hm
    exact mapE_cons_ok.mpr ⟨y, ys', hg x List.mem_cons_self y hy,
      mapE_of_optMapM hys (fun x' hx' => hg x' (List.mem_cons_of_mem _ hx')), rfl⟩

/-- a loop whose step succeeds exactly on the inputs that pass `p`, with what `h` gives, which passes `q` -/
theorem mapE_ok_iff {h : α → Option β} {p : α → Prop} {q : β → Prop} {l : List α} {ys}
    (hg : ∀ x, x ∈ l → ∀ y, g x = .ok y ↔ p x ∧ h x = some y ∧ q y) :
    mapE g l = .ok ys ↔ (∀ x, x ∈ l → p x) ∧ optMapM h l = some ys ∧ ∀ y, y ∈ ys → q y := by
  constructor
  · intro hm
    refine ⟨fun x hx => ?_, mapE_optMapM (fun x hx y hy => ((hg x hx y).mp hy).2.1) hm, fun y hy => ?_⟩
    · obtain ⟨y, _, hy⟩ := mapE_of_mem hm x hx
      exact ((hg x hx y).mp hy).1
    · obtain ⟨x, hx, hxy⟩ := mapE_mem hm y hy
      exact ((hg x hx y).mp hxy).2.2
  · rintro ⟨hp, hopt, hq⟩
    refine mapE_of_optMapM hopt fun x hx y hy => (hg x hx y).mpr ⟨hp x hx, hy, ?_⟩
    obtain ⟨y', hy', hxy'⟩ := optMapM_of_mem hopt x hx
    exact hq y (Option.some.inj (hy.symm.trans hxy') ▸ hy')

theorem mapE_map {γ} {f : β → γ} {f' : α → γ} (hf : ∀ x y, g x = .ok y → f y = f' x) :
    ∀ {l : List α} {ys}, mapE g l = .ok ys → ys.map f = l.map f'
  | [], ys, hm => by simp only [mapE] at hm; cases hm; rfl
  | x :: l, ys, hm => by
    obtain ⟨y, ys', h0, hl, rfl⟩ := mapE_cons_ok.mp hm
    simp [hf x y h0, mapE_map hf hl]

theorem mapE_ne_error {c : Err} : ∀ {l : List α}, (∀ x, x ∈ l → g x ≠ .error c) → mapE g l ≠ .error c
  | [], _ => by simp [mapE]
  | x :: l, h => by
    have h0 := h x List.mem_cons_self
    have hl := mapE_ne_error (l := l) (fun x' hx' => h x' (List.mem_cons_of_mem _ hx'))
    simp only [mapE]
    cases hx : g x with
    | error e => intro he; cases he; exact h0 hx
    | ok y =>
      cases hm : mapE g l with
      | error e => intro he; cases he; exact hl hm
      | ok ys => simp

end MapE

theorem firstErr_ok_iff {α} {g : α → Except Err Unit} : ∀ {l : List α}, firstErr g l = .ok () ↔ ∀ x, x ∈ l → g x = .ok ()
  | [] => by simp [firstErr]
  | x :: l => by
    simp only [firstErr, List.mem_cons, forall_eq_or_imp]
    cases hx : g x with
    | error e => simp
    | ok u => simp [firstErr_ok_iff (l := l)]

theorem isOk_iff {α} {x : Except Err α} : isOk x = true ↔ ∃ y, x = .ok y := by
  cases x <;> simp [isOk]

theorem isOk_unit {x : Except Err Unit} : isOk x = true ↔ x = .ok () := by
  cases x with
  | error e => simp [isOk]
  | ok u => cases u; simp [isOk]

theorem firstErr_isOk {α} (g : α → Except Err Unit) (l : List α) : isOk (firstErr g l) = l.all fun x => isOk (g x) := by
  rw [Bool.eq_iff_iff, isOk_unit, firstErr_ok_iff, List.all_eq_true]
  simp only [isOk_unit]

theorem mapFields_eq (g : AField → Except Err CField) : ∀ l, mapFields g l = mapE g l
  | [] => rfl
  | f :: l => by
    simp only [mapFields, mapE, mapFields_eq g l]
    cases g f with
    | error e => rfl
    | ok c => cases mapE g l <;> rfl

theorem compileRoutes_eq (rx : String → Bool) (E : Env) (A : AliasMap) (ns : String) :
    ∀ l, compileRoutes rx E A ns l = mapE (compileRoute rx E A ns) l
  | [] => rfl
  | r :: l => by
    simp only [compileRoutes, mapE, compileRoutes_eq rx E A ns l]
    cases compileRoute rx E A ns r with
    | error e => rfl
    | ok c => cases mapE (compileRoute rx E A ns) l <;> rfl

def typeOut (st : St) (ns : String) (d : TypeDecl) : Except Err (String × CType) :=
  match st.done.lookup (ns, d.name) with
  | none => .error .internal
  | some c => .ok (d.name, c)

theorem typeOut_ok_iff {st : St} {ns d y} :
    typeOut st ns d = .ok y ↔ ∃ c, st.done.lookup (ns, d.name) = some c ∧ y = (d.name, c) := by
  unfold typeOut
  cases st.done.lookup (ns, d.name) <;> simp [eq_comm]

theorem typesOut_eq (st : St) (ns : String) : ∀ l, typesOut st ns l = mapE (typeOut st ns) l
  | [] => rfl
  | d :: l => by
    simp only [typesOut, mapE, typeOut, typesOut_eq st ns l]
    cases st.done.lookup (ns, d.name) with
    | none => rfl
    | some c => cases mapE (typeOut st ns) l <;> rfl

def aliasOut (st : St) (ns : String) (p : String × TRef) : Except Err (String × Ty) :=
  match st.aliases.lookup (ns, p.1) with
  | none => .error .internal
  | some t => .ok (p.1, t)

theorem aliasOut_ok_iff {st : St} {ns p y} :
    aliasOut st ns p = .ok y ↔ ∃ t, st.aliases.lookup (ns, p.1) = some t ∧ y = (p.1, t) := by
  unfold aliasOut
  cases st.aliases.lookup (ns, p.1) <;> simp [eq_comm]

theorem aliasesOut_eq (st : St) (ns : String) : ∀ l, aliasesOut st ns l = mapE (aliasOut st ns) l
  | [] => rfl
  | (n, r) :: l => by
    simp only [aliasesOut, mapE, aliasOut, aliasesOut_eq st ns l]
    cases st.aliases.lookup (ns, n) with
    | none => rfl
    | some t => cases mapE (aliasOut st ns) l <;> rfl

theorem compileRoute_ok_iff {rx E A ns r c} : compileRoute rx E A ns r = .ok c ↔
    ∃ ta tr re te, resolve rx E A ns r.arg = .ok ta ∧ resolve rx E A ns r.result = .ok tr ∧ r.error = some re ∧
      resolve rx E A ns re = .ok te ∧ routeDeprecated E ns r.deprecated = .ok () ∧
      c = { name := r.name, version := r.version, arg := ta, result := tr, error := te, deprecated := r.deprecated } := by
  refine ⟨fun h => ?_, fun ⟨ta, tr, re, te, hta, htr, hre, hte, hdep, e⟩ => by
    subst e; simp [compileRoute, hta, htr, hre, hte, hdep]⟩
  revert h
  fun_cases compileRoute rx E A ns r <;> intro h <;> cases h
  rename_i ta hta tr htr re hre te hte hdep
  exact ⟨ta, tr, re, te, hta, htr, hre, hte, hdep, rfl⟩

def routesOut (rx : String → Bool) (E : Env) (A : AliasMap) (ns : String) : Except Err (String × List CRoute) :=
  match compileRoutes rx E A ns (routeDecls (declsOf E.files ns)) with
  | .error e => .error e
  | .ok rs => .ok (ns, rs)

theorem routesOut_ok_iff {rx E A ns y} : routesOut rx E A ns = .ok y ↔
    ∃ rs, compileRoutes rx E A ns (routeDecls (declsOf E.files ns)) = .ok rs ∧ y = (ns, rs) := by
  unfold routesOut
  cases compileRoutes rx E A ns (routeDecls (declsOf E.files ns)) <;> simp [eq_comm]

theorem pass6Nss_eq (rx : String → Bool) (E : Env) (A : AliasMap) : ∀ l, pass6Nss rx E A l = mapE (routesOut rx E A) l
  | [] => rfl
  | ns :: l => by
    simp only [pass6Nss, mapE, routesOut, pass6Nss_eq rx E A l]
    cases compileRoutes rx E A ns (routeDecls (declsOf E.files ns)) with
    | error e => rfl
    | ok rs => cases mapE (routesOut rx E A) l <;> rfl

def nsOut (E : Env) (st : St) (en : EnumMap) (p : String × List CRoute) : Except Err NsOut :=
  match typesOut st p.1 (typeDecls (declsOf E.files p.1)) with
  | .error e => .error e
  | .ok types => match aliasesOut st p.1 (aliasDecls (declsOf E.files p.1)) with
    | .error e => .error e
    | .ok aliases => .ok { name := p.1, types := types, aliases := aliases, routes := p.2,
                           enums := enumsOut en p.1 (typeDecls (declsOf E.files p.1)) }

theorem nsOut_ok_iff {E st en p o} : nsOut E st en p = .ok o ↔
    ∃ types aliases, typesOut st p.1 (typeDecls (declsOf E.files p.1)) = .ok types ∧
      aliasesOut st p.1 (aliasDecls (declsOf E.files p.1)) = .ok aliases ∧
      o = { name := p.1, types := types, aliases := aliases, routes := p.2,
            enums := enumsOut en p.1 (typeDecls (declsOf E.files p.1)) } := by
  unfold nsOut
  cases typesOut st p.1 (typeDecls (declsOf E.files p.1)) with
  | error e => simp
  | ok types => cases aliasesOut st p.1 (aliasDecls (declsOf E.files p.1)) <;> simp [eq_comm]

theorem assemble_eq (E : Env) (st : St) (en : EnumMap) : ∀ l, assemble E st en l = mapE (nsOut E st en) l
  | [] => rfl
  | (ns, routes) :: l => by
    simp only [assemble, mapE, nsOut, assemble_eq E st en l]
    cases typesOut st ns (typeDecls (declsOf E.files ns)) with
    | error e => rfl
    | ok types =>
      cases aliasesOut st ns (aliasDecls (declsOf E.files ns)) with
      | error e => rfl
      | ok aliases => cases mapE (nsOut E st en) l <;> rfl

def subtypeField (rx : String → Bool) (E : Env) (st : St) (ns : String) (p : String × TRef) : Except Err (String × Key) :=
  if (E.lookup ns p.2.head.name).isNone then .error .undefinedSubtype else
  match resolve rx E st.aliases ns p.2 with
  | .error e => .error e
  | .ok (.user k) => if kindOf E k == some .struct then .ok (p.1, k) else .error .subtypeNotStruct
  | .ok _ => .error .subtypeNotStruct

theorem subtypeField_ok_iff {rx E st ns} {p : String × TRef} {y} : subtypeField rx E st ns p = .ok y ↔
    (E.lookup ns p.2.head.name).isSome ∧ ∃ k, resolve rx E st.aliases ns p.2 = .ok (.user k) ∧
      kindOf E k = some .struct ∧ y = (p.1, k) := by
  unfold subtypeField
  cases hl : E.lookup ns p.2.head.name with
  | none => simp
  | some e =>
    simp only [Option.isNone_some, Bool.false_eq_true, ↓reduceIte, Option.isSome_some, true_and]
    cases hr : resolve rx E st.aliases ns p.2 with
    | error e => simp
    | ok t =>
      cases t with
      | user k =>
        by_cases hk : kindOf E k = some .struct
        · simp [hk, eq_comm]
        · simp [hk]
      | prim _ | list _ _ _ | map _ _ | nullable _ | «alias» _ => simp

theorem subtypeFields_eq (rx : String → Bool) (E : Env) (st : St) (ns : String) :
    ∀ l, subtypeFields rx E st ns l = mapE (subtypeField rx E st ns) l
  | [] => rfl
  | (tag, r) :: l => by
    simp only [subtypeFields, mapE, subtypeField, subtypeFields_eq rx E st ns l]
    split
    · rfl
    · cases resolve rx E st.aliases ns r with
      | error e => rfl
      | ok t =>
        cases t with
        | user k =>
          simp only
          split
          · cases mapE (subtypeField rx E st ns) l <;> rfl
          · rfl
        | prim _ | list _ _ _ | map _ _ | nullable _ | «alias» _ => rfl

theorem defaultFields_eq (E : Env) (A : AliasMap) : ∀ l, defaultFields E A l = firstErr (defaultField E A) l
  | [] => rfl
  | f :: l => by
    simp only [defaultFields, firstErr, defaultFields_eq E A l]

def defaultsOf (E : Env) (st : St) (p : String × TypeDecl) : Except Err Unit :=
  match p.2.kind with
  | .struct => match st.done.lookup (p.1, p.2.name) with
    | none => .error .internal
    | some c => defaultFields E st.aliases c.fields
  | _ => .ok ()

theorem pass4Types_eq (E : Env) (st : St) : ∀ l, pass4Types E st l = firstErr (defaultsOf E st) l
  | [] => rfl
  | (ns, d) :: l => by
    simp only [pass4Types, firstErr, defaultsOf, pass4Types_eq E st l]
    cases d.kind with
    | struct =>
      simp only
      cases st.done.lookup (ns, d.name) with
      | none => rfl
      | some c => rfl
    | union _ => rfl

def recheckOne (fuel : Nat) (look : Look) (t : Ty) : Except Err Unit :=
  match unwrapAliases look fuel t with
  | .error e => .error e
  | .ok (some (.nullable _)) => .error .nullableNullable
  | .ok (some (.prim (.plain .void))) => .error .voidNullable
  | .ok _ => .ok ()

theorem recheckNullable_eq (fuel : Nat) (look : Look) : ∀ l, recheckNullable fuel look l = firstErr (recheckOne fuel look) l
  | [] => rfl
  | t :: l => by
    simp only [recheckNullable, firstErr, recheckOne, recheckNullable_eq fuel look l]
    split <;> simp_all

/-- the re-check at the end of pass 3 and the `?` test of `_resolve_type` are one test, `nullOK` -/
theorem nullOK_tests {fuel look t} : (recheckOne fuel look t = .ok () ↔ nullOK look fuel t = true) ∧
    ∀ t', wrapNull fuel look true t = .ok t' ↔ nullOK look fuel t = true ∧ t' = .nullable t := by
  unfold recheckOne wrapNull nullOK
  simp only [Bool.not_true, Bool.false_eq_true, ↓reduceIte]
  cases unwrapAliases look fuel t with
  | error e => simp
  | ok v =>
    cases v with
    | none => simp [eq_comm]
    | some u =>
      cases u with
      | prim pv =>
        cases pv with
        | plain k => cases k <;> simp [eq_comm]
        | int _ _ _ | float _ _ _ | string _ _ _ | timestamp _ | list _ _ _ | map _ _ => simp [eq_comm]
      | list _ _ _ | map _ _ | nullable _ | user _ | «alias» _ => simp [eq_comm]

theorem recheckOne_ok_iff {fuel look t} : recheckOne fuel look t = .ok () ↔ nullOK look fuel t = true :=
  nullOK_tests.1

theorem recheckNullable_ok_iff {fuel look} {l : List Ty} :
    recheckNullable fuel look l = .ok () ↔ ∀ u, u ∈ l → nullOK look fuel u = true := by
  rw [recheckNullable_eq, firstErr_ok_iff]
  exact forall₂_congr fun _ _ => recheckOne_ok_iff

theorem wrapNull_true_ok_iff {fuel look t t'} :
    wrapNull fuel look true t = .ok t' ↔ nullOK look fuel t = true ∧ t' = .nullable t :=
  nullOK_tests.2 t'

def foldE {σ α} (step : σ → α → Except Err σ) : σ → List α → Except Err σ
  | s, [] => .ok s
  | s, x :: xs => match step s x with
    | .error e => .error e
    | .ok s' => foldE step s' xs

section FoldE
variable {σ α : Type} {step : σ → α → Except Err σ} {P : List α → σ → Prop}

theorem foldE_induct_from : ∀ {l : List α} {pre s s'},
    (∀ pre x s s', x ∈ l → P pre s → step s x = .ok s' → P (pre ++ [x]) s') →
    P pre s → foldE step s l = .ok s' → P (pre ++ l) s'
  | [], pre, s, s', _, hP, h => by simp only [foldE] at h; cases h; simpa using hP
  | x :: l, pre, s, s', hstep, hP, h => by
    simp only [foldE] at h
    split at h
    · cases h
    · rename_i s1 h1
      have := foldE_induct_from (fun pre y s s' hy => hstep pre y s s' (List.mem_cons_of_mem _ hy))
        (hstep pre x s s1 List.mem_cons_self hP h1) h
      simpa using this

/-- what holds after a successful run: `P pre s` = "`s` is the state once `pre` is processed" -/
theorem foldE_induct {l : List α} {s s'}
    (hstep : ∀ pre x s s', x ∈ l → P pre s → step s x = .ok s' → P (pre ++ [x]) s') (h0 : P [] s)
    (h : foldE step s l = .ok s') : P l s' := by
  simpa using foldE_induct_from hstep h0 h

theorem foldE_append : ∀ {l m : List α} {s},
    foldE step s (l ++ m) = match foldE step s l with
      | .ok s' => foldE step s' m
      | .error e => .error e
  | [], _, _ => rfl
  | x :: l, m, s => by
    simp only [List.cons_append, foldE]
    cases step s x with
    | error e => rfl
    | ok s' => exact foldE_append

theorem foldE_ok {P : σ → Prop} : ∀ {l : List α} {s},
    (∀ x s, x ∈ l → P s → ∃ s', step s x = .ok s' ∧ P s') → P s → ∃ s', foldE step s l = .ok s' ∧ P s'
  | [], s, _, hP => ⟨s, rfl, hP⟩
  | x :: l, s, hstep, hP => by
    obtain ⟨s1, h1, hP1⟩ := hstep x s List.mem_cons_self hP
    obtain ⟨s', h, hP'⟩ := foldE_ok (fun y s hy => hstep y s (List.mem_cons_of_mem _ hy)) hP1
    exact ⟨s', by simp only [foldE, h1, h], hP'⟩

/-- progress: when every step keeps `I`, moves the state up a preorder `R` and establishes `Q x`, which `R` keeps, a
successful run has established `Q` for every element -/
theorem foldE_progress {I : σ → Prop} {R : σ → σ → Prop} {Q : α → σ → Prop} (refl : ∀ s, R s s)
    (trans : ∀ {a b c}, R a b → R b c → R a c) (mono : ∀ {x s s'}, R s s' → Q x s → Q x s') {l : List α} {s s'}
    (hstep : ∀ x s s', x ∈ l → I s → step s x = .ok s' → I s' ∧ R s s' ∧ Q x s') (hI : I s)
    (h : foldE step s l = .ok s') : I s' ∧ R s s' ∧ ∀ x, x ∈ l → Q x s' :=
  foldE_induct (P := fun pre t => I t ∧ R s t ∧ ∀ x, x ∈ pre → Q x t)
    (fun pre x t t' hx hP ht => by
      obtain ⟨hI', hR, hQ⟩ := hstep x t t' hx hP.1 ht
      refine ⟨hI', trans hP.2.1 hR, fun y hy => ?_⟩
      rcases List.mem_append.mp hy with hy | hy
      · exact mono hR (hP.2.2 y hy)
      · cases List.mem_singleton.mp hy; exact hQ) ⟨hI, refl s, by simp⟩ h

theorem foldE_steps {l : List α} {s s'} (h : foldE step s l = .ok s') (x : α) (hx : x ∈ l) :
    ∃ s0 s1, step s0 x = .ok s1 :=
  (foldE_progress (I := fun _ => True) (R := fun _ _ => True) (Q := fun x _ => ∃ s0 s1, step s0 x = .ok s1)
    (fun _ => trivial) (fun _ _ => trivial) (fun _ h => h) (fun _ s s' _ _ hs => ⟨trivial, trivial, s, s', hs⟩)
    trivial h).2.2 x hx

end FoldE

theorem enumCheck_ok_iff {par : Key → Option Key} {subs : List Key} {self c fields} :
    enumCheck par subs self c fields = .ok () ↔
      c.parent.isSome = false ∧ ∃ seen, enumLoop par self (c.fields.map (·.name)) [] fields = .ok seen ∧
        fields.isEmpty = false ∧ (subs.any fun k => !seen.contains k.2) = false := by
  unfold enumCheck
  cases hp : c.parent.isSome with
  | true => simp
  | false =>
    simp only [Bool.false_eq_true, ↓reduceIte, true_and]
    cases hl : enumLoop par self (c.fields.map (·.name)) [] fields with
    | error e => simp
    | ok seen =>
      simp only [Except.ok.injEq, exists_eq_left']
      cases he : fields.isEmpty with
      | true => simp
      | false =>
        simp only [Bool.false_eq_true, ↓reduceIte, true_and]
        cases ha : (subs.any fun k => !seen.contains k.2) with
        | true => simp
        | false => simp

theorem enumLoop_parent {par : Key → Option Key} {self} : ∀ {fields : List (String × Key)} {names seen out},
    enumLoop par self names seen fields = .ok out → ∀ p, p ∈ fields → par p.2 = some self
  | [], _, _, _, _, p, hp => by simp at hp
  | (tag, k) :: fields, names, seen, out, h, p, hp => by
    simp only [enumLoop] at h
    split at h
    · cases h
    · split at h
      · cases h
      · rename_i hpar
        split at h
        · cases h
        · simp only [List.mem_cons] at hp
          rcases hp with rfl | hp
          · simpa using hpar
          · exact enumLoop_parent h p hp

theorem enumCheck_parent {par : Key → Option Key} {subs self c fields} (h : enumCheck par subs self c fields = .ok ()) :
    c.parent = none ∧ ∀ p, p ∈ fields → par p.2 = some self := by
  rw [enumCheck_ok_iff] at h
  obtain ⟨h1, seen, h2, _, _⟩ := h
  exact ⟨by cases hc : c.parent <;> simp [hc] at h1 ⊢, enumLoop_parent h2⟩

theorem enumCheck_congr {par : Key → Option Key} {subs subs' : List Key} (hs : ∀ k, k ∈ subs ↔ k ∈ subs') (self c fields) :
    enumCheck par subs self c fields = enumCheck par subs' self c fields := by
  have : ∀ seen : List String, (subs.any fun k => !seen.contains k.2) = (subs'.any fun k => !seen.contains k.2) := by
    intro seen
    rw [Bool.eq_iff_iff, List.any_eq_true, List.any_eq_true]
    exact ⟨fun ⟨k, hk, h⟩ => ⟨k, (hs k).mp hk, h⟩, fun ⟨k, hk, h⟩ => ⟨k, (hs k).mpr hk, h⟩⟩
  unfold enumCheck
  simp only [this]

def enumStep (rx : String → Bool) (E : Env) (st : St) (ns : String) (en : EnumMap) (d : TypeDecl) : Except Err EnumMap :=
  match enumOf d with
  | none => .ok en
  | some (subs, catchAll) =>
    match st.done.lookup (ns, d.name) with
    | none => .error .internal
    | some c => match subtypeFields rx E st ns subs with
      | .error e => .error e
      | .ok fields => match setEnumerated st (ns, d.name) c fields with
        | .error e => .error e
        | .ok () => .ok (((ns, d.name), (fields, catchAll)) :: en)

theorem enumFirst_eq (rx : String → Bool) (E : Env) (st : St) (ns : String) :
    ∀ ds en, enumFirst rx E st ns en ds = foldE (enumStep rx E st ns) en ds
  | [], _ => rfl
  | d :: ds, en => by
    simp only [enumFirst, foldE, enumStep]
    cases enumOf d with
    | none => exact enumFirst_eq rx E st ns ds en
    | some p =>
      obtain ⟨subs, ca⟩ := p
      simp only
      cases st.done.lookup (ns, d.name) with
      | none => rfl
      | some c =>
        simp only
        cases subtypeFields rx E st ns subs with
        | error e => rfl
        | ok fields =>
          simp only
          cases setEnumerated st (ns, d.name) c fields with
          | error e => rfl
          | ok u => exact enumFirst_eq rx E st ns ds _

theorem enumStep_ok_iff {rx E st ns en d en'} : enumStep rx E st ns en d = .ok en' ↔
    (enumOf d = none ∧ en' = en) ∨ ∃ subs ca c fields, enumOf d = some (subs, ca) ∧
      st.done.lookup (ns, d.name) = some c ∧ subtypeFields rx E st ns subs = .ok fields ∧
      setEnumerated st (ns, d.name) c fields = .ok () ∧ en' = ((ns, d.name), (fields, ca)) :: en := by
  unfold enumStep
  constructor
  · intro h
    split at h
    · rename_i he; cases h; exact .inl ⟨he, rfl⟩
    · rename_i subs ca he
      split at h
      · cases h
      · rename_i c hc
        split at h
        · cases h
        · rename_i fields hf
          split at h
          · cases h
          · rename_i hs
            cases h
            exact .inr ⟨subs, ca, c, fields, he, hc, hf, hs, rfl⟩
  · rintro (⟨he, rfl⟩ | ⟨subs, ca, c, fields, he, hc, hf, hs, rfl⟩)
    · simp only [he]
    · simp only [he, hc, hf, hs]

def enumFieldsOf (en : EnumMap) (k : Key) : List (String × Key) :=
  match en.lookup k with
  | some (fs, _) => fs
  | none => []

def enumSecondStep (st : St) (ns : String) (en : EnumMap) (d : TypeDecl) : Except Err Unit :=
  if hasEnum en (ns, d.name) && d.kind == .struct then
    if (enumFieldsOf en (ns, d.name)).any (fun p => !hasEnum en p.2 && !(subtypesOf st p.2).isEmpty) then
      .error .subtypeExtended
    else .ok ()
  else .ok ()

theorem enumSecondStep_ok_iff {st ns en d fields ca} (hl : en.lookup (ns, d.name) = some (fields, ca))
    (hne : fields.isEmpty = false) (hk : d.kind = .struct) : enumSecondStep st ns en d = .ok () ↔
      ∀ p, p ∈ fields → hasEnum en p.2 = true ∨ (subtypesOf st p.2).isEmpty = true := by
  have hh : hasEnum en (ns, d.name) = true := by simp [hasEnum, hl, hne]
  simp only [enumSecondStep, hh, hk, beq_self_eq_true, Bool.and_self, ↓reduceIte, enumFieldsOf, hl]
  cases ha : (fields.any fun p => !hasEnum en p.2 && !(subtypesOf st p.2).isEmpty) with
  | true =>
    simp only [↓reduceIte, reduceCtorEq, false_iff]
    obtain ⟨p, hp, hc⟩ := List.any_eq_true.mp ha
    exact fun h => by rcases h p hp with h | h <;> simp [h] at hc
  | false =>
    simp only [Bool.false_eq_true, ↓reduceIte, true_iff]
    intro p hp
    have := (List.any_eq_false.mp ha) p hp
    cases h1 : hasEnum en p.2 with
    | true => exact .inl rfl
    | false => right; simpa [h1] using this

theorem enumSecond_eq (st : St) (ns : String) (en : EnumMap) :
    ∀ ds, enumSecond st ns en ds = firstErr (enumSecondStep st ns en) ds
  | [] => rfl
  | d :: ds => by
    simp only [enumSecond, firstErr, enumSecondStep, enumFieldsOf, enumSecond_eq st ns en ds]
    by_cases h1 : (hasEnum en (ns, d.name) && d.kind == .struct) = true
    · simp only [h1, ↓reduceIte]
      split <;> rename_i h2 <;> simp only [h2] <;> split <;> rfl
    · simp only [h1, Bool.false_eq_true, ↓reduceIte]

def nsEnums (rx : String → Bool) (E : Env) (st : St) (en : EnumMap) (ns : String) : Except Err EnumMap :=
  match enumFirst rx E st ns en (typeDecls (declsOf E.files ns)) with
  | .error e => .error e
  | .ok en1 => match enumSecond st ns en1 (typeDecls (declsOf E.files ns)) with
    | .error e => .error e
    | .ok () => .ok en1

theorem pass5Nss_eq (rx : String → Bool) (E : Env) (st : St) :
    ∀ nss en, pass5Nss rx E st en nss = foldE (nsEnums rx E st) en nss
  | [], _ => rfl
  | ns :: nss, en => by
    simp only [pass5Nss, foldE, nsEnums]
    cases enumFirst rx E st ns en (typeDecls (declsOf E.files ns)) with
    | error e => rfl
    | ok en1 =>
      simp only
      cases enumSecond st ns en1 (typeDecls (declsOf E.files ns)) with
      | error e => rfl
      | ok u => exact pass5Nss_eq rx E st nss en1

theorem nsEnums_ok_iff {rx E st en ns en1} : nsEnums rx E st en ns = .ok en1 ↔
    enumFirst rx E st ns en (typeDecls (declsOf E.files ns)) = .ok en1 ∧
      enumSecond st ns en1 (typeDecls (declsOf E.files ns)) = .ok () := by
  unfold nsEnums
  cases enumFirst rx E st ns en (typeDecls (declsOf E.files ns)) with
  | error e => simp
  | ok en2 =>
    simp only [Except.ok.injEq]
    cases h2 : enumSecond st ns en2 (typeDecls (declsOf E.files ns)) with
    | error e => simp only [reduceCtorEq, false_iff]; rintro ⟨rfl, h⟩; rw [h2] at h; cases h
    | ok u => cases u; simp only [Except.ok.injEq]; exact ⟨fun h => ⟨h, h ▸ h2⟩, fun h => h.1⟩

theorem setAliases_eq (rx : String → Bool) (E : Env) (ns : String) :
    ∀ as st, setAliases rx E st ns as = foldE (fun st p => setAlias rx E st ns p.1 p.2) st as
  | [], _ => rfl
  | (n, r) :: as, st => by
    simp only [setAliases, foldE]
    cases setAlias rx E st ns n r with
    | error e => rfl
    | ok st' => exact setAliases_eq rx E ns as st'

theorem setAttributes_ok_iff {fu st key c st'} : setAttributes fu st key c = .ok st' ↔
    dupName (c.fields.map (·.name)) = false ∧
    (∃ anc, ancestorNames (typesOf st.done) fu c.parent = .ok anc ∧ (c.fields.any fun f => anc.contains f.name) = false) ∧
    st' = { st with done := (key, c) :: st.done } := by
  unfold setAttributes
  constructor
  · intro h
    split at h
    · cases h
    · rename_i hd
      split at h
      · cases h
      · rename_i anc ha
        split at h
        · cases h
        · rename_i hany
          cases h
          exact ⟨by simpa using hd, ⟨anc, ha, by simpa using hany⟩, rfl⟩
  · rintro ⟨hd, ⟨anc, ha, hany⟩, rfl⟩
    simp only [hd, ha, hany, Bool.false_eq_true, ↓reduceIte]

theorem setAttributes_eq_ok {fu st key c st'} (h : setAttributes fu st key c = .ok st') :
    st' = { st with done := (key, c) :: st.done } :=
  (setAttributes_ok_iff.mp h).2.2

def populateOne (rx : String → Bool) (E : Env) (ns : String) (st : St) (d : TypeDecl) : Except Err St :=
  if (st.done.lookup (ns, d.name)).isSome then .ok st
  else populate rx E (populateFuel E) [(ns, d.name)] st (ns, d.name) d

theorem populateAll_eq (rx : String → Bool) (E : Env) (ns : String) :
    ∀ ds st, populateAll rx E st ns ds = foldE (populateOne rx E ns) st ds
  | [], _ => rfl
  | d :: ds, st => by
    simp only [populateAll, foldE, populateOne]
    split
    · exact populateAll_eq rx E ns ds st
    · cases populate rx E (populateFuel E) [(ns, d.name)] st (ns, d.name) d with
      | error e => rfl
      | ok st' => exact populateAll_eq rx E ns ds st'

def pass3Ns (rx : String → Bool) (E : Env) (st : St) (ns : String) : Except Err St :=
  match setAliases rx E st ns (aliasDecls (declsOf E.files ns)) with
  | .error e => .error e
  | .ok st1 => populateAll rx E st1 ns (typeDecls (declsOf E.files ns))

theorem pass3Nss_eq (rx : String → Bool) (E : Env) : ∀ nss st, pass3Nss rx E st nss = foldE (pass3Ns rx E) st nss
  | [], _ => rfl
  | ns :: nss, st => by
    simp only [pass3Nss, foldE, pass3Ns]
    cases setAliases rx E st ns (aliasDecls (declsOf E.files ns)) with
    | error e => rfl
    | ok st1 =>
      simp only
      cases populateAll rx E st1 ns (typeDecls (declsOf E.files ns)) with
      | error e => rfl
      | ok st2 => exact pass3Nss_eq rx E nss st2

theorem pass3Ns_ok_iff {rx E st ns st2} : pass3Ns rx E st ns = .ok st2 ↔
    ∃ st1, foldE (fun st p => setAlias rx E st ns p.1 p.2) st (aliasDecls (declsOf E.files ns)) = .ok st1 ∧
      foldE (populateOne rx E ns) st1 (typeDecls (declsOf E.files ns)) = .ok st2 := by
  unfold pass3Ns
  rw [setAliases_eq]
  cases foldE (fun st p => setAlias rx E st ns p.1 p.2) st (aliasDecls (declsOf E.files ns)) with
  | error e => simp
  | ok st1 => simp [populateAll_eq]

end StoneVerif.FeCompile.L
