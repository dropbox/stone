import StoneVerif.Model.Cli
/-! Lemmas about the filter-expression lexer `Cli.lexAux` (C19): the text of a written expression
(every token followed by one blank) is lexed back into exactly its tokens, without errors. -/
namespace StoneVerif.Cli

theorem countWhile_append_stop (p : Char → Bool) (xs : List Char) (c : Char) (rest : List Char)
    (hx : xs.all p = true) (hc : p c = false) : countWhile p (xs ++ c :: rest) = xs.length := by
  induction xs with
  | nil => simp [countWhile, hc]
  | cons x xs ih =>
    simp only [List.all_cons, Bool.and_eq_true] at hx
    simp [countWhile, hx.1, ih hx.2]

theorem countWhile_nil_stop (p : Char → Bool) (c : Char) (rest : List Char) (hc : p c = false) :
    countWhile p (c :: rest) = 0 := by
  simp [countWhile, hc]

theorem char_toNat_ne {c d : Char} (h : c.toNat ≠ d.toNat) : c ≠ d := by
  intro e; exact h (by rw [e])

theorem lexAux_blank (prev : Option Char) (rest : List Char) :
    lexAux prev (' ' :: rest) = .skip :: lexAux (some ' ') rest := by
  rw [lexAux]
  simp [lexStep]

theorem lexAux_token (prev : Option Char) (c : Char) (cs rest : List Char) (t : Tok)
    (h : lexStep prev c (cs ++ ' ' :: rest) = (.tok t, cs.length)) :
    lexAux prev (c :: cs ++ ' ' :: rest) = .tok t :: .skip :: lexAux (some ' ') rest := by
  rw [List.cons_append, lexAux]
  simp only [h]
  have hd : List.drop (cs.length + 1) (c :: (cs ++ ' ' :: rest)) = ' ' :: rest := by
    simp
  rw [hd, lexAux_blank]

/-- `prev` at the start of a token of a rendered text: nothing or a blank -/
def startPrev (prev : Option Char) : Prop := prev = none ∨ prev = some ' '

theorem boundaryBefore_start {prev} (h : startPrev prev) : boundaryBefore prev = true := by
  rcases h with rfl | rfl <;> simp [boundaryBefore, isWord, isLetter, isDigit]

theorem wordAt_head_ne {w : Char} {ws : List Char} {prev : Option Char} {c : Char} {cs : List Char} (h : c ≠ w) :
    wordAt (w :: ws) prev (c :: cs) = false := by
  have : (w == c) = false := by simp; exact fun e => h e.symm
  simp [wordAt, List.isPrefixOf, this]

theorem signLen_of_ne {c : Char} (cs : List Char) (h : c ≠ '-') : signLen (c :: cs) = 0 := by
  unfold signLen
  split
  · next heq => exact absurd (List.cons.inj heq).1 h
  · rfl

theorem matchFloat_head {c : Char} {cs : List Char} (hm : c ≠ '-') (hd : isDigit c = false) :
    matchFloat (c :: cs) = none := by
  simp [matchFloat, signLen_of_ne cs hm, countWhile, hd]

theorem matchInt_head {c : Char} {cs : List Char} (hm : c ≠ '-') (hd : isDigit c = false) :
    matchInt (c :: cs) = none := by
  simp [matchInt, signLen_of_ne cs hm, countWhile, hd]

theorem boundaryAfter_append_blank (r rest : List Char) :
    boundaryAfter (r ++ ' ' :: rest) = boundaryAfter r := by
  cases r with
  | nil => simp [boundaryAfter, isWord, isLetter, isDigit]
  | cons x r => simp [boundaryAfter]

theorem prefix_of_prefix_blank {w s rest : List Char} (hw : ' ' ∉ w) (h : w.isPrefixOf (s ++ ' ' :: rest) = true) :
    ∃ r, s = w ++ r := by
  induction w generalizing s with
  | nil => exact ⟨s, rfl⟩
  | cons a w ih =>
    simp only [List.mem_cons, not_or] at hw
    obtain ⟨ha, hw⟩ := hw
    cases s with
    | nil => simp [List.isPrefixOf] at h; exact absurd h.1.symm ha
    | cons b s =>
      simp only [List.cons_append, List.isPrefixOf, Bool.and_eq_true, beq_iff_eq] at h
      obtain ⟨r, rfl⟩ := ih hw h.2
      exact ⟨r, by rw [h.1]; rfl⟩

theorem wordAt_blank {w : List Char} {prev s rest} (hw : ' ' ∉ w) (h : wordAt w prev (s ++ ' ' :: rest) = true) :
    ∃ r, s = w ++ r ∧ boundaryAfter r = true := by
  simp only [wordAt, Bool.and_eq_true] at h
  obtain ⟨r, rfl⟩ := prefix_of_prefix_blank hw h.1.2
  refine ⟨r, rfl, ?_⟩
  rw [← boundaryAfter_append_blank r rest, ← h.2, List.append_assoc, List.drop_left']
  rfl

/-- the words of the rules `\btrue\b`, `\bfalse\b`, `\bnull\b`, which `lexStep` tries before the identifier rule -/
def wordRules : List (List Char) := [['t', 'r', 'u', 'e'], ['f', 'a', 'l', 's', 'e'], ['n', 'u', 'l', 'l']]

/-- `reservedStart` is what keeps the word rules from firing on an identifier -/
theorem wordAt_of_not_reserved {w : List Char} (hw : w ∈ wordRules) {s : List Char} (hs : reservedStart s = false)
    (prev rest) : wordAt w prev (s ++ ' ' :: rest) = false := by
  have hw' : ' ' ∉ w ∧ ∀ r, reservedStart (w ++ r) = boundaryAfter r := by
    simp only [wordRules, List.mem_cons, List.not_mem_nil, or_false] at hw
    rcases hw with rfl | rfl | rfl <;> exact ⟨by decide, fun _ => rfl⟩
  cases h : wordAt w prev (s ++ ' ' :: rest) with
  | false => rfl
  | true =>
    obtain ⟨r, rfl, hr⟩ := wordAt_blank hw'.1 h
    rw [hw'.2, hr] at hs
    exact absurd hs (by decide)

theorem idStart_facts {c : Char} (h : isIdStart c = true) :
    c ≠ ' ' ∧ c ≠ '"' ∧ c ≠ '-' ∧ isDigit c = false := by
  simp only [isIdStart, isLetter, Bool.or_eq_true, Bool.and_eq_true, decide_eq_true_eq] at h
  refine ⟨?_, ?_, ?_, by simp [isDigit]; omega⟩ <;> (apply char_toNat_ne; simp; omega)

theorem lexStep_id (prev : Option Char) (rest : List Char) (c : Char) (cs : List Char)
    (h : idOk (c :: cs) = true) :
    lexStep prev c (cs ++ ' ' :: rest) = (.tok (.id (c :: cs)), cs.length) := by
  simp only [idOk, Bool.and_eq_true, Bool.not_eq_true', decide_eq_true_eq] at h
  obtain ⟨⟨⟨⟨hs, hall⟩, hres⟩, hand⟩, hor⟩ := h
  obtain ⟨h1, h2, h3, h4⟩ := idStart_facts hs
  have hw1 := wordAt_of_not_reserved (w := ['t', 'r', 'u', 'e']) (.head _) hres prev rest
  have hw2 := wordAt_of_not_reserved (w := ['f', 'a', 'l', 's', 'e']) (.tail _ (.head _)) hres prev rest
  have hw3 := wordAt_of_not_reserved (w := ['n', 'u', 'l', 'l']) (.tail _ (.tail _ (.head _))) hres prev rest
  rw [List.cons_append] at hw1 hw2 hw3
  have hcount : countWhile isIdChar (cs ++ ' ' :: rest) = cs.length :=
    countWhile_append_stop _ _ _ _ hall (by simp [isIdChar, isLetter, isDigit])
  simp [lexStep, h1, h2, hw1, hw2, hw3, matchFloat_head h3 h4, matchInt_head h3 h4, hs, hcount, hand, hor]

theorem digit_ne_minus {c : Char} (h : isDigit c = true) : c ≠ '-' := by
  rintro rfl
  exact absurd h (by decide)

theorem numStart_ne {c : Char} (h : isDigit c = true ∨ c = '-') : c ≠ ' ' ∧ c ≠ 't' ∧ c ≠ 'f' ∧ c ≠ 'n' := by
  rcases h with h | rfl
  · refine ⟨?_, ?_, ?_, ?_⟩ <;> (rintro rfl; exact absurd h (by decide))
  · decide

theorem digitsOk_cons {ds : List Char} (h : digitsOk ds = true) :
    ∃ d ds', ds = d :: ds' ∧ isDigit d = true ∧ ds'.all isDigit = true ∧ ds.all isDigit = true := by
  cases ds with
  | nil => simp [digitsOk] at h
  | cons d ds' =>
    simp only [digitsOk, List.isEmpty_cons, Bool.not_false, Bool.true_and, List.all_cons, Bool.and_eq_true] at h
    exact ⟨d, ds', rfl, h.1, h.2, by simp [h.1, h.2]⟩

theorem signLen_text (neg : Bool) (ds tail : List Char) (hd : digitsOk ds = true) :
    signLen (signText neg ++ (ds ++ tail)) = (signText neg).length ∧
    (signText neg ++ (ds ++ tail)).drop (signText neg).length = ds ++ tail := by
  obtain ⟨d, ds', rfl, hd0, _, _⟩ := digitsOk_cons hd
  have hm := digit_ne_minus hd0
  cases neg with
  | true => simp [signText, signLen]
  | false =>
    simp only [signText, Bool.false_eq_true, if_false, List.nil_append, List.length_nil, List.drop_zero, and_true]
    exact signLen_of_ne _ hm

theorem countDigits_text (ds : List Char) (stop : Char) (tail : List Char) (hd : digitsOk ds = true)
    (hs : isDigit stop = false) : countWhile isDigit (ds ++ stop :: tail) = ds.length := by
  obtain ⟨_, _, _, _, _, hall⟩ := digitsOk_cons hd
  exact countWhile_append_stop _ _ _ _ hall hs

theorem digitsOk_length {ds : List Char} (h : digitsOk ds = true) : ds.length ≠ 0 := by
  obtain ⟨d, ds', rfl, _⟩ := digitsOk_cons h
  simp

theorem numStart_text (neg : Bool) (ds tail : List Char) (hd : digitsOk ds = true) (c : Char) (cs : List Char)
    (h : signText neg ++ (ds ++ tail) = c :: cs) : isDigit c = true ∨ c = '-' := by
  obtain ⟨d, ds', rfl, hd0, _, _⟩ := digitsOk_cons hd
  cases neg with
  | true => exact Or.inr (List.cons.inj h).1.symm
  | false => exact Or.inl ((List.cons.inj h).1 ▸ hd0)

/-- at a digit or a minus sign the first rule that can match is `t_FLOAT` -/
theorem lexStep_of_matchFloat (prev : Option Char) {c : Char} {cs tail : List Char}
    (hc : isDigit c = true ∨ c = '-') (hm : matchFloat (c :: (cs ++ tail)) = some (c :: cs).length) :
    lexStep prev c (cs ++ tail) = (.tok (.lit (floatVal (c :: cs))), cs.length) := by
  obtain ⟨h1, h4, h5, h6⟩ := numStart_ne hc
  have ht : (c :: (cs ++ tail)).take (c :: cs).length = c :: cs := List.take_left' (l₁ := c :: cs) rfl
  simp only [lexStep, h1, if_false, wordAt_head_ne h4, wordAt_head_ne h5,
    wordAt_head_ne h6, hm, Bool.false_eq_true, ht]
  rfl

/-- `t_INTEGER` is tried where `t_FLOAT` does not match -/
theorem lexStep_of_matchInt (prev : Option Char) {c : Char} {cs tail : List Char}
    (hc : isDigit c = true ∨ c = '-') (hf : matchFloat (c :: (cs ++ tail)) = none)
    (hi : matchInt (c :: (cs ++ tail)) = some (c :: cs).length) :
    lexStep prev c (cs ++ tail) = (.tok (.lit (intVal (c :: cs))), cs.length) := by
  obtain ⟨h1, h4, h5, h6⟩ := numStart_ne hc
  have ht : (c :: (cs ++ tail)).take (c :: cs).length = c :: cs := List.take_left' (l₁ := c :: cs) rfl
  simp only [lexStep, h1, if_false, wordAt_head_ne h4, wordAt_head_ne h5,
    wordAt_head_ne h6, hf, hi, Bool.false_eq_true, ht]
  rfl

theorem lexStep_int (prev : Option Char) (rest : List Char) (neg : Bool) (ds : List Char)
    (hd : digitsOk ds = true) (c : Char) (cs : List Char) (hc : signText neg ++ ds = c :: cs) :
    lexStep prev c (cs ++ ' ' :: rest) = (.tok (.lit (intVal (signText neg ++ ds))), cs.length) := by
  have hall : c :: (cs ++ ' ' :: rest) = signText neg ++ (ds ++ ' ' :: rest) := by
    rw [← List.cons_append, ← hc]; simp
  have hstart := numStart_text neg ds (' ' :: rest) hd c _ hall.symm
  obtain ⟨hs1, hs2⟩ := signLen_text neg ds (' ' :: rest) hd
  have hcnt := countDigits_text ds ' ' rest hd (by simp [isDigit])
  have hlen := digitsOk_length hd
  have hf : matchFloat (c :: (cs ++ ' ' :: rest)) = none := by
    rw [hall]
    simp only [matchFloat, hs1, hs2, hcnt]
    simp [hlen]
  have hi : matchInt (c :: (cs ++ ' ' :: rest)) = some (c :: cs).length := by
    rw [hall, ← hc, List.length_append]
    simp only [matchInt, hs1, hs2, hcnt]
    simp [hlen]
  rw [hc]
  exact lexStep_of_matchInt prev hstart hf hi

theorem strBodyLen_plain (c : Char) (r : List Char) (hq : c ≠ '"') (hb : c ≠ '\\') :
    strBodyLen (c :: r) = (strBodyLen r).map (· + 1) := by
  cases r <;> simp [strBodyLen, hb]

theorem strBodyLen_ok (body rest : List Char) (h : strBodyOk body = true) :
    strBodyLen (body ++ '"' :: rest) = some body.length := by
  fun_induction strBodyOk body with
  | case1 => simp [strBodyLen]
  | case2 => simp at h
  | case3 => simp at h
  | case4 c r ih =>
    simp only [Bool.and_eq_true, decide_eq_true_eq] at h
    simp [strBodyLen, h.1, ih h.2]
  | case5 c r h1 h2 h3 ih =>
    have hq : c ≠ '"' := fun e => h1 e
    have hb : c ≠ '\\' := by
      intro e
      cases r with
      | nil => exact h2 e rfl
      | cons x r' => exact h3 x r' e rfl
    rw [List.cons_append, strBodyLen_plain c _ hq hb, ih h]
    simp

theorem lexStep_str (prev : Option Char) (rest : List Char) (body : List Char) (h : strBodyOk body = true) :
    lexStep prev '"' ((body ++ ['"']) ++ ' ' :: rest) = (.tok (.lit (.str body)), (body ++ ['"']).length) := by
  have hb : strBodyLen (body ++ '"' :: ' ' :: rest) = some body.length := strBodyLen_ok body (' ' :: rest) h
  have ht : List.take body.length (body ++ '"' :: ' ' :: rest) = body := List.take_left' rfl
  simp [lexStep, wordAt_head_ne, matchFloat_head, matchInt_head, isDigit, hb, ht]

theorem expLen_text (n : Bool) (x : List Char) (stop : Char) (tail : List Char) (hx : digitsOk x = true)
    (hs : isDigit stop = false) :
    expLen ('e' :: (signText n ++ (x ++ stop :: tail))) = (signText n).length + x.length + 1 := by
  obtain ⟨h1, h2⟩ := signLen_text n x (stop :: tail) hx
  have hc := countDigits_text x stop tail hx hs
  have hl := digitsOk_length hx
  simp only [expLen, h1, h2, hc]
  simp [hl]; omega

theorem expLen_blank (rest : List Char) : expLen (' ' :: rest) = 0 := by
  simp [expLen]

theorem matchFloat_text (neg : Bool) (ip : List Char) (fp : Option (List Char)) (ex : Option (Bool × List Char))
    (rest : List Char) (h : (LitSyn.float neg ip fp ex).wf = true) :
    matchFloat ((LitSyn.float neg ip fp ex).text ++ ' ' :: rest) = some (LitSyn.float neg ip fp ex).text.length := by
  simp only [LitSyn.wf, Bool.and_eq_true, Bool.or_eq_true] at h
  obtain ⟨⟨⟨hip, hsome⟩, hfp⟩, hex⟩ := h
  have hblank : isDigit ' ' = false := by simp [isDigit]
  have hdot : isDigit '.' = false := by simp [isDigit]
  have he : isDigit 'e' = false := by simp [isDigit]
  have hlen := digitsOk_length hip
  cases fp with
  | some f =>
    cases ex with
    | some nx =>
      obtain ⟨n, x⟩ := nx
      simp only at hfp hex
      have hall : (LitSyn.float neg ip (some f) (some (n, x))).text ++ ' ' :: rest =
          signText neg ++ (ip ++ '.' :: (f ++ 'e' :: (signText n ++ (x ++ ' ' :: rest)))) := by
        simp [LitSyn.text]
      obtain ⟨h1, h2⟩ := signLen_text neg ip ('.' :: (f ++ 'e' :: (signText n ++ (x ++ ' ' :: rest)))) hip
      have hc := countDigits_text ip '.' (f ++ 'e' :: (signText n ++ (x ++ ' ' :: rest))) hip hdot
      have hcf := countWhile_append_stop isDigit f 'e' (signText n ++ (x ++ ' ' :: rest)) hfp he
      have hexp := expLen_text n x ' ' rest hex hblank
      rw [hall]
      simp only [matchFloat, h1, h2, hc]
      simp only [hlen, if_false, List.drop_left', hcf]
      simp [hexp, LitSyn.text]; omega
    | none =>
      simp only at hfp
      have hall : (LitSyn.float neg ip (some f) none).text ++ ' ' :: rest =
          signText neg ++ (ip ++ '.' :: (f ++ ' ' :: rest)) := by
        simp [LitSyn.text]
      obtain ⟨h1, h2⟩ := signLen_text neg ip ('.' :: (f ++ ' ' :: rest)) hip
      have hc := countDigits_text ip '.' (f ++ ' ' :: rest) hip hdot
      have hcf := countWhile_append_stop isDigit f ' ' rest hfp hblank
      rw [hall]
      simp only [matchFloat, h1, h2, hc]
      simp [hlen, hcf, expLen_blank, LitSyn.text]; omega
  | none =>
    cases ex with
    | some nx =>
      obtain ⟨n, x⟩ := nx
      simp only at hex
      have hall : (LitSyn.float neg ip none (some (n, x))).text ++ ' ' :: rest =
          signText neg ++ (ip ++ 'e' :: (signText n ++ (x ++ ' ' :: rest))) := by
        simp [LitSyn.text]
      obtain ⟨h1, h2⟩ := signLen_text neg ip ('e' :: (signText n ++ (x ++ ' ' :: rest))) hip
      have hc := countDigits_text ip 'e' (signText n ++ (x ++ ' ' :: rest)) hip he
      have hexp := expLen_text n x ' ' rest hex hblank
      rw [hall]
      simp only [matchFloat, h1, h2, hc]
      simp [hlen, hexp, LitSyn.text]; omega
    | none => simp at hsome

theorem lexStep_float (prev : Option Char) (rest : List Char) (neg : Bool) (ip : List Char)
    (fp : Option (List Char)) (ex : Option (Bool × List Char)) (h : (LitSyn.float neg ip fp ex).wf = true)
    (c : Char) (cs : List Char) (hc : (LitSyn.float neg ip fp ex).text = c :: cs) :
    lexStep prev c (cs ++ ' ' :: rest) = (.tok (.lit (LitSyn.float neg ip fp ex).val), cs.length) := by
  have hm := matchFloat_text neg ip fp ex rest h
  have hip : digitsOk ip = true := by
    simp only [LitSyn.wf, Bool.and_eq_true] at h; exact h.1.1.1
  have htext : ∃ tail, (LitSyn.float neg ip fp ex).text = signText neg ++ (ip ++ tail) := by
    cases fp <;> cases ex <;> simp [LitSyn.text]
  obtain ⟨tail, ht⟩ := htext
  have hstart := numStart_text neg ip tail hip c cs (by rw [← ht, hc])
  rw [hc, List.cons_append] at hm
  rw [lexStep_of_matchFloat prev hstart hm, LitSyn.val, hc]

theorem append_digits_ne_nil (pre ds : List Char) (hd : digitsOk ds = true) : pre ++ ds ≠ [] := by
  obtain ⟨d, ds', rfl, _⟩ := digitsOk_cons hd
  simp

/-- Every well-spelled token, followed by a blank, is lexed as itself. The tokens of fixed spelling go by evaluation of
the rules in front of theirs; only the word rules (`true`, `false`, `null`: `\b` in front) look at `prev`. -/
theorem lexStep_stok (prev : Option Char) (hp : startPrev prev) (t : STok) (ht : t.wf = true) (rest : List Char) :
    ∃ c cs, t.text = c :: cs ∧ lexStep prev c (cs ++ ' ' :: rest) = (.tok t.tok, cs.length) := by
  cases t with
  | id s =>
    cases s with
    | nil => simp [STok.wf, idOk] at ht
    | cons c cs => exact ⟨c, cs, rfl, lexStep_id prev rest c cs ht⟩
  | lpar | rpar =>
    exact ⟨_, _, rfl, by
      simp [lexStep, wordAt_head_ne, matchFloat_head, matchInt_head, isIdStart, isLetter, isDigit, STok.tok]⟩
  | conj k =>
    cases k <;> exact ⟨_, _, rfl, by
      simp [lexStep, wordAt_head_ne, matchFloat_head, matchInt_head, isIdStart, isLetter, isDigit, countWhile, isIdChar,
        STok.tok, Conj.tok]⟩
  | op o =>
    cases o <;> exact ⟨_, _, rfl, by
      simp [lexStep, wordAt_head_ne, matchFloat_head, matchInt_head, isIdStart, isLetter, isDigit, STok.tok, Op.tok]⟩
  | lit l =>
    cases l with
    | int neg ds =>
      obtain ⟨c, cs, hc⟩ := List.exists_cons_of_ne_nil (append_digits_ne_nil (signText neg) ds ht)
      exact ⟨c, cs, hc, lexStep_int prev rest neg ds ht c cs hc⟩
    | float neg ip fp ex =>
      have hip : digitsOk ip = true := by
        simp only [STok.wf, LitSyn.wf, Bool.and_eq_true] at ht; exact ht.1.1.1
      obtain ⟨c, cs, hc⟩ := List.exists_cons_of_ne_nil (List.append_ne_nil_of_left_ne_nil
        (List.append_ne_nil_of_left_ne_nil (append_digits_ne_nil (signText neg) ip hip) _) _)
      exact ⟨c, cs, hc, lexStep_float prev rest neg ip fp ex ht c cs hc⟩
    | str body => exact ⟨'"', body ++ ['"'], rfl, lexStep_str prev rest body ht⟩
    | _ =>
      exact ⟨_, _, rfl, by
        simp [lexStep, wordAt, List.isPrefixOf, boundaryBefore_start hp, boundaryAfter, isWord, isLetter, isDigit,
          STok.tok, LitSyn.val]⟩

theorem lexAux_stok (prev : Option Char) (hp : startPrev prev) (t : STok) (ht : t.wf = true) (rest : List Char) :
    lexAux prev (t.text ++ ' ' :: rest) = .tok t.tok :: .skip :: lexAux (some ' ') rest := by
  obtain ⟨c, cs, hc, hs⟩ := lexStep_stok prev hp t ht rest
  rw [hc]
  exact lexAux_token prev c cs rest _ hs

theorem lexAux_render (sts : List STok) (h : ∀ t ∈ sts, t.wf = true) (prev : Option Char) (hp : startPrev prev) :
    itemsToks (lexAux prev (render sts)) = sts.map STok.tok ∧ itemsErrs (lexAux prev (render sts)) = [] := by
  induction sts generalizing prev with
  | nil => simp [render, lexAux, itemsToks, itemsErrs]
  | cons t sts ih =>
    have ht := h t (by simp)
    obtain ⟨ih1, ih2⟩ := ih (fun u hu => h u (List.mem_cons_of_mem _ hu)) (some ' ') (Or.inr rfl)
    rw [render, lexAux_stok prev hp t ht]
    simp [itemsToks, itemsErrs, ih1, ih2]

theorem lex_render (sts : List STok) (h : ∀ t ∈ sts, t.wf = true) :
    lex (render sts) = ⟨sts.map STok.tok, []⟩ := by
  obtain ⟨h1, h2⟩ := lexAux_render sts h none (Or.inl rfl)
  simp [lex, h1, h2]

theorem all_sparens (ts : List STok) : (sparens ts).all STok.wf = ts.all STok.wf := by
  simp [sparens, STok.wf]

/-- the tokens of a written expression are spelled as the lexer expects exactly when its identifiers and literals are -/
theorem stoks_all_wf (p : SExpr) : p.stoks.all STok.wf = p.wf := by
  induction p with
  | atom op a l => simp [SExpr.stoks, SExpr.wf, STok.wf]
  | paren p ih => rw [SExpr.stoks, all_sparens, ih, SExpr.wf]
  | conj c l r ihl ihr =>
    cases c
    · simp only [SExpr.stoks, SExpr.wf, ← ihl, ← ihr]
      split <;> split <;> simp [all_sparens, STok.wf]
    · simp [SExpr.stoks, SExpr.wf, STok.wf, ihl, ihr]

theorem stoks_wf (p : SExpr) (h : p.wf = true) : ∀ t ∈ p.stoks, t.wf = true :=
  List.all_eq_true.1 ((stoks_all_wf p).trans h)

end StoneVerif.Cli
