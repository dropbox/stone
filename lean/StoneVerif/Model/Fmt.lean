/-
Model of the brace escaping of `Backend.emit_raw` and of the subset of `str.format` that
`Backend.output_buffer_to_string` relies on (stone/backend.py).

Import-free: this file is linked into the correspondence driver.
-/
namespace StoneVerif.Fmt

/-- `s.replace('{', '{{').replace('}', '}}')` -/
def escape : List Char → List Char
  | [] => []
  | '{' :: cs => '{' :: '{' :: escape cs
  | '}' :: cs => '}' :: '}' :: escape cs
  | c :: cs => c :: escape cs

/-- Scan a replacement-field name up to the closing brace. A nested `{` is outside the modelled
subset (Python would start a nested field): `none`. -/
def takeName : List Char → List Char → Option (List Char × List Char)
  | acc, '}' :: cs => some (acc.reverse, cs)
  | _, '{' :: _ => none
  | acc, c :: cs => takeName (c :: acc) cs
  | _, [] => none

theorem takeName_length : ∀ acc cs n r, takeName acc cs = some (n, r) → r.length < cs.length := by
  intro acc cs n r h
  fun_induction takeName acc cs with
  | case1 => cases h; simp
  | case2 => cases h
  | case3 acc c cs _ _ ih => have := ih h; simp; omega
  | case4 => cases h

/-- The state of `str.format`'s automatic field numbering: remaining positional arguments. -/
structure Args where
  pos : List (List Char)
  named : List (List Char × List Char)

def lookupNamed : List (List Char × List Char) → List Char → Option (List Char)
  | [], _ => none
  | (k, v) :: rest, n => if k = n then some v else lookupNamed rest n

/-- `''.join(output).format(*pos, **named)` for the subset `{{`, `}}`, `{}`, `{name}`.
`none` = Python raises (KeyError / IndexError / ValueError "Single '}' encountered"). -/
def pyFormat (named : List (List Char × List Char)) : List (List Char) → List Char → Option (List Char)
  | _, [] => some []
  | pos, '{' :: '{' :: cs => (pyFormat named pos cs).map ('{' :: ·)
  | pos, '}' :: '}' :: cs => (pyFormat named pos cs).map ('}' :: ·)
  | pos, '{' :: cs =>
    match h : takeName [] cs with
    | some (n, rest) =>
      have : rest.length < cs.length := takeName_length _ _ _ _ h
      if n = [] then
        match pos with
        | v :: pos' => (pyFormat named pos' rest).map (v ++ ·)
        | [] => none
      else
        match lookupNamed named n with
        | some v => (pyFormat named pos rest).map (v ++ ·)
        | none => none
    | none => none
  | _, '}' :: _ => none
  | pos, c :: cs => (pyFormat named pos cs).map (c :: ·)
termination_by _ cs => cs.length
decreasing_by all_goals simp_wf <;> omega

end StoneVerif.Fmt

namespace StoneVerif.Fmt

/-- What the output buffer is made of, seen from the specification side: literal text (whatever
`emit_raw` was given) and replacement fields (`emit_placeholder`). -/
inductive Seg where
  | lit (text : List Char)
  | field (name : List Char)

/-- how each segment is stored in `Backend.output` -/
def encodeSeg : Seg → List Char
  | .lit t => escape t
  | .field n => '{' :: n ++ ['}']

/-- `''.join(self.output)` for a buffer built from these segments -/
def renderSegs (segs : List Seg) : List Char := (segs.map encodeSeg).flatten

/-- Specification of the final text: literals verbatim, `{}` fields replaced by the next positional
placeholder, `{name}` fields by the registered text; `none` when a placeholder was never registered. -/
def expand (named : List (List Char × List Char)) : List (List Char) → List Seg → Option (List Char)
  | _, [] => some []
  | pos, .lit t :: rest => (expand named pos rest).map (t ++ ·)
  | pos, .field n :: rest =>
    if n = [] then
      match pos with
      | v :: pos' => (expand named pos' rest).map (v ++ ·)
      | [] => none
    else
      match lookupNamed named n with
      | some v => (expand named pos rest).map (v ++ ·)
      | none => none

/-- Field names inside the modelled subset of `str.format`: no brace, no conversion / format-spec /
attribute / index syntax, not a number (a number would be an explicit positional index). The
harness only generates such names. -/
def validNameChar (c : Char) : Bool :=
  c.isAlphanum || c == '_'

def validName : List Char → Bool
  | [] => true
  | c :: cs => (c.isAlpha || c == '_') && cs.all validNameChar

end StoneVerif.Fmt
