import StoneVerif.Lemmas.DeclStub
/-!
C15 - type stubs describe exactly what the modules define.

Model `StoneVerif.DeclStub`: `stubNs` follows `PythonTypeStubsBackend._generate_base_namespace_module` (with the
`ImportTracker`: what is registered while emitting is what the placeholder imports), `rtNs` the same method of
`PythonTypesBackend` (names only), `mapStoneType` follows `map_stone_type_to_python_type` with the stub backend's
overrides. Specification level: `pep484`, `judgedNames` / `judgedMember` / `judgedSpec` (what the property compares),
`resolve` / `resolveCtor` (inheritance resolved). All theorems hold for EVERY naming (`Naming`: the two word formatters
of helpers.py are parameters).
-/
namespace StoneVerif.C15
open StoneVerif.DeclStub

/-- The literals the model was written from, as the translator finds them in the repository under test. -/
theorem tables_pinned :
    Tables.stubReservedKeywords = ["async", "break", "class", "continue", "for", "pass", "while"] ∧
    Tables.stubTypeMapBranches =
      [("is_string_type", "str"), ("is_bytes_type", "bytes"), ("is_boolean_type", "bool"),
       ("is_float_type", "float"), ("is_integer_type", "int"), ("is_void_type", "None"),
       ("is_timestamp_type", "datetime.datetime"), ("is_alias", ""), ("is_user_defined_type", ""),
       ("is_list_type", ""), ("is_map_type", ""), ("is_nullable_type", "")] ∧
    Tables.stubOverrideCallbacks =
      [("List", "upon_encountering_list"), ("Map", "upon_encountering_map"),
       ("Nullable", "upon_encountering_nullable"), ("Timestamp", "upon_encountering_timestamp"),
       ("String", "upon_encountering_string"), ("UserDefined", "upon_encountering_user_defined")] ∧
    Tables.stubCallbackFormats =
      [("List", "List[{}]"), ("Map", "Dict[{}, {}]"), ("Nullable", "Optional[{}]"), ("Timestamp", ""),
       ("String", "Text"), ("UserDefined", "")] ∧
    Tables.stubCallbackRegisters =
      [("List", "typing:List"), ("Map", "typing:Dict"), ("Nullable", "typing:Optional"),
       ("Timestamp", "adhoc:import datetime"), ("String", "typing:Text"),
       ("UserDefined", "adhoc-expr:'from {} import {}{}'.format(self.args.package, fmt_namespace(data_type.namespace.name), TYPE_IGNORE_COMMENT)")] ∧
    Tables.stubCallbackGuards =
      [("UserDefined", "data_type.namespace not in [ns] + ns.get_imported_namespaces(consider_annotation_types=True)")] ∧
    Tables.stubOtherRegisters =
      [("_generate_typevars", "typing:TypeVar"),
       ("_generate_struct_or_union_class_custom_annotations", "typing:Type"),
       ("_generate_struct_or_union_class_custom_annotations", "typing:Text"),
       ("_generate_struct_or_union_class_custom_annotations", "typing:Callable"),
       ("_generate_struct_class_init", "typing:Optional"),
       ("_generate_annotation_type_class_init", "typing:Optional")] ∧
    Tables.stubEmitTemplates =
      [("_generate_validator_for", "{}_validator: bv.Validator = ..."),
       ("_generate_routes", "{method_name}: bb.Route = ..."),
       ("_generate_struct_class_properties", "{}: bb.Attribute[{}] = ..."),
       ("_generate_union_class_vars", "{field_name}: {field_type} = ..."),
       ("_generate_union_class_is_set", "def is_{}(self) -> bool: ..."),
       ("_generate_union_class_variant_creators", "def {field_name}(cls, val: {val_type}) -> {union_type}: ..."),
       ("_generate_union_class_get_helpers", "def get_{field_name}(self) -> {val_type}: ..."),
       ("_generate_typevars", "T = TypeVar('T', bound=bb.AnnotationType)"),
       ("_generate_typevars", "U = TypeVar('U')"),
       ("_generate_struct_or_union_class_custom_annotations", ") -> None: ..."),
       ("_generate_struct_or_union_class_custom_annotations", "annotation_type: Type[T],"),
       ("_generate_struct_or_union_class_custom_annotations", "field_path: Text,"),
       ("_generate_struct_or_union_class_custom_annotations", "processor: Callable[[T, U], U],")] :=
  ⟨rfl, rfl, rfl, rfl, rfl, rfl, rfl, rfl⟩

/-- What `map_stone_type_to_pep484_type` writes is the independent PEP 484 type, with the text type spelled `Text`
(`typing.Text`, an alias of `str` in Python 3; the harness asserts `typing.Text is str`). -/
theorem stub_annotation_ok (N : Naming) (ns : String) (t : StoneTy) :
    (mapStoneType N ns t).1 = pep484S (.name "Text") (fun n => fmtClass N n) fmtNamespace ns t := by
  unfold mapStoneType
  rw [overrides_all]
  induction t with
  | alias a b t ih => simpa [mapTy, pep484S] using ih
  | user tns name =>
    by_cases h : tns = ns <;> simp [mapTy, pep484S, h]
  | list t ih | nullable t ih => simp [mapTy, pep484S, ih]
  | map k v ihk ihv => simp [mapTy, pep484S, ihk, ihv]
  | _ => simp [mapTy, pep484S, tDatetime]

/-- The same with `Text` read as `str`: exactly `pep484`, provided no generated class reachable in the
type is itself called `Text` (then the spelling `Text` would be ambiguous in the stub). -/
theorem stub_annotation_ok_str (N : Naming) (ns : String) (t : StoneTy) (h : textFree N t = true) :
    normText (mapStoneType N ns t).1 = pep484 N ns t := by
  rw [stub_annotation_ok, pep484S_norm N ns t h]

/-- Where each mapped type `P` is placed: field attribute `bb.Attribute[P]`; constructor parameter `P`, or `Optional[P]`
exactly when the field has a default; tag constructor `val: P`, `get_<tag> -> P`, `is_<tag> -> bool`; a void tag is an
attribute of the union's own class. -/
theorem stub_annotation_placement (N : Naming) (ns : String) (f : Field) :
    let P := pep484S (.name "Text") (fun n => fmtClass N n) fmtNamespace ns f.ty
    (stubFieldAttr N ns f).1.ann = .sub (tBB "Attribute") P ∧
    (stubInitParam N ns f).1.ann = (if f.hasDefault then tOptional P else P) ∧
    (stubInitParam N ns f).1.name = fmtVar N f.name true ∧
    (∀ t : TypeDef, ∀ m ∈ (stubUnionCreators N ns t).1, m.ann = .name (fmtClass N t.name)) ∧
    (∀ t : TypeDef, f ∈ t.fields → isVoidTy f.ty = false →
        { kind := .classmethod, name := fmtFunc N f.name true, ann := .name (fmtClass N t.name),
          params := [⟨"val", P⟩] } ∈ (stubUnionCreators N ns t).1 ∧
        { kind := .method, name := "get_" ++ fmtFunc N f.name, ann := P } ∈ (stubUnionGetters N ns t).1) ∧
    (∀ t : TypeDef, f ∈ t.fields →
        { kind := .method, name := "is_" ++ fmtFunc N f.name, ann := .name "bool" } ∈ stubUnionIsSet N t) ∧
    (∀ t : TypeDef, f ∈ t.fields → isVoidTy f.ty = true →
        { kind := .attr, name := fmtVar N f.name, ann := .name (fmtClass N t.name) } ∈ stubUnionVars N t) := by
  intro P
  have hP : (mapStoneType N ns f.ty).1 = P := stub_annotation_ok N ns f.ty
  refine ⟨?_, ?_, ?_, ?_, ?_, ?_, ?_⟩
  · simp [stubFieldAttr, hP]
  · by_cases h : f.hasDefault <;> simp [stubInitParam, h, hP]
  · exact stubInitParam_name N ns f
  · intro t m hm
    simp only [stubUnionCreators, unzipW, List.map_map, List.mem_map, List.mem_filter] at hm
    obtain ⟨g, _, rfl⟩ := hm
    rfl
  · intro t hf hv
    constructor
    · simp only [stubUnionCreators, unzipW, List.map_map, List.mem_map, List.mem_filter]
      exact ⟨f, ⟨hf, by simp [hv]⟩, by simp [hP]⟩
    · simp only [stubUnionGetters, unzipW, List.map_map, List.mem_map, List.mem_filter]
      exact ⟨f, ⟨hf, by simp [hv]⟩, by simp [hP]⟩
  · intro t hf
    simp only [stubUnionIsSet, List.mem_map]
    exact ⟨f, hf, rfl⟩
  · intro t hf hv
    simp only [stubUnionVars, List.mem_map, List.mem_filter]
    exact ⟨f, ⟨hf, hv⟩, rfl⟩

/-- The stub declares exactly the enumerated names, the validator of an alias being named after
`fmt_class(alias.name)`. -/
theorem stub_names_exact (N : Naming) (api : Api) (ns : Namespace) (m : ModDecl)
    (h : stubNs N api ns = .ok m) :
    judgedNames m = judgedSpec N ns (fun n => fmtClass N n ++ "_validator") := by
  unfold stubNs at h
  split at h
  · cases h
  · injection h with h
    subst h
    simp only [judgedNames, stubBody, List.flatMap_append, flatW_fst, List.flatMap_assoc, judged_stubType,
      judged_stubAlias, judgedSpec]
    simp [stubTypevars, stubAnnoType, judgedItem, stubRoutes, List.flatMap_map, ← List.map_eq_flatMap]

/-- The runtime module defines exactly the enumerated names, the validator of an alias being named
after `fmt_class(alias.name)` as well (since the repair of D20; it used to be `alias.name` itself). -/
theorem runtime_names_exact (N : Naming) (api : Api) (ns : Namespace) (m : ModDecl)
    (h : rtNs N api ns = .ok m) :
    judgedNames m = judgedSpec N ns (fun n => fmtClass N n ++ "_validator") := by
  unfold rtNs at h
  split at h
  · cases h
  · injection h with h
    subst h
    simp only [judgedNames, List.flatMap_append, List.flatMap_assoc, judged_rtType, judged_rtAlias, judgedSpec]
    simp [rtAnnoType, judgedItem, rtRoutes, List.flatMap_map, ← List.map_eq_flatMap]

/-- both generators refuse the same namespaces (`check_route_name_conflict`) -/
theorem stub_ok_iff_runtime_ok (N : Naming) (api : Api) (ns : Namespace) :
    (∃ m, stubNs N api ns = .ok m) ↔ (∃ m, rtNs N api ns = .ok m) := by
  unfold stubNs rtNs
  cases routeConflict N [] ns.routes <;> simp

/-- **C15, names.** The judged names the stub declares are the judged names the runtime module defines (same kinds,
names, order; `judgedSpec`). No hypothesis: both generators name the validator of an alias after
`fmt_class(alias.name)` (D20, regression example below). -/
theorem stub_eq_runtime_names (N : Naming) (api : Api) (ns : Namespace) (ms mr : ModDecl)
    (hs : stubNs N api ns = .ok ms) (hr : rtNs N api ns = .ok mr) :
    judgedNames ms = judgedNames mr := by
  rw [stub_names_exact N api ns ms hs, runtime_names_exact N api ns mr hr]

/-- the same without naming the modules: on a route name conflict both generators stop with the same message -/
theorem judgedNames_rt_eq_stub (N : Naming) (api : Api) (ns : Namespace) :
    (rtNs N api ns).map judgedNames = (stubNs N api ns).map judgedNames := by
  have hs := stub_names_exact N api ns
  have hr := runtime_names_exact N api ns
  unfold stubNs rtNs at *
  cases hc : routeConflict N [] ns.routes with
  | some n => rfl
  | none =>
    rw [hc] at hs hr
    exact congrArg Except.ok ((hr _ rfl).trans (hs _ rfl).symm)

/-- **C15, bases.** The class generated for a struct or union has the same name, the same kind and
the same single base on both sides: the class of the parent type (qualified by its module when the
parent lives in another namespace), else `bb.Struct` / `bb.Union`. -/
theorem stub_bases_eq (N : Naming) (api : Api) (ns : String) (t : TypeDef) :
    ∃ cs cr, classOf (stubType N api ns t).1 = some cs ∧ classOf (rtType N api ns t) = some cr ∧
      cs.name = cr.name ∧ cs.kind = cr.kind ∧ cs.base = cr.base ∧ cs.base = classBase N ns t := by
  cases h : t.kind <;>
    simp [stubType, rtType, h, stubStruct, stubUnion, rtStruct, rtUnion, classOf]

/-- **C15, constructor parameters.** With inheritance resolved on both sides (the first class of the
chain whose body defines `__init__`), stub and runtime have the same parameter names in the same
order: for a struct one parameter per field of `all_fields` (`stub_ctor_params_struct`), for a union the
constructor of the library class on both sides (`none`). -/
theorem stub_ctor_params_eq (N : Naming) (api : Api) (n : Nat) (ns : String) (t : TypeDef) :
    resolveCtor (fun ns t => (stubType N api ns t).1) api n ns t = resolveCtor (rtType N api) api n ns t := by
  induction n generalizing ns t with
  | zero => simp [resolveCtor, ctor_own_eq]
  | succ n ih =>
    simp only [resolveCtor, ctor_own_eq]
    split
    · rfl
    · split
      · rfl
      · split
        · rfl
        · exact ih _ _

theorem stub_ctor_params_struct (N : Naming) (api : Api) (ns : String) (t : TypeDef) (h : t.kind = .struct) :
    ctorParams (stubType N api ns t).1 = some ((allFields api api.fuel t).map fun f => fmtVar N f.name true) := by
  simp [stubType, h, stubStruct, classOf, ctorParams, unzipW, List.map_map, Function.comp_def,
    stubInitParam_name]

/-- **C15, members.** With inheritance resolved on BOTH sides, the class of every struct and union has the same judged
members (kind and name) in the stub and at runtime: the stub of a struct repeats the inherited fields in every class
(`all_fields`), the runtime class defines only its own. Hypotheses: the chain of the type ends within `n` steps and
stays within one kind (`chainOK`, evaluated on every description the harness dumps); `n ≤ api.fuel`, the fuel the
generators compute `all_fields` with. -/
theorem stub_members_eq (N : Naming) (api : Api) (n : Nat) (ns : String) (t : TypeDef)
    (hc : chainOK api n t = true) (hn : n ≤ api.fuel) (x : MKind × String) :
    x ∈ resolve (stubOwn N api) api n ns t ↔ x ∈ resolve (rtOwn N api) api n ns t :=
  resolve_mem_congr (fun n t => chainOK api n t = true ∧ n ≤ api.fuel)
    (fun n t q c hp => ⟨(chainOK_succ api n t q hp c.1).2, Nat.le_of_succ_le c.2⟩)
    (fun _ ns _ c => own_inherit N api c.1 c.2 ns) n ns t ⟨hc, hn⟩ x

/-- **C15, imports.** Every name used in an annotation of the stub is imported by the emitted import list (fixed imports,
namespace imports, the placeholder filled with what was registered with the `ImportTracker` while emitting), defined in
the stub, or a builtin. The only hypothesis is one the frontend establishes: a reference INTO the namespace itself
(aliases resolved, inherited fields included) is to a type it defines (`ownRefsDefined`). The modules of all other
classes are imported, also those the spec text of the namespace never names (target of a foreign alias, inherited
field): since the repair of C15-stub-indirect-namespace-import the callback for user-defined types registers them
(`imports_regression`). -/
theorem stub_imports_closed (N : Naming) (api : Api) (ns : Namespace) (m : ModDecl)
    (href : ownRefsDefined api ns = true) (h : stubNs N api ns = .ok m) :
    ∀ x ∈ m.annNames, x ∈ m.imported ∨ x ∈ m.defined ∨ x ∈ pyBuiltins := by
  unfold stubNs at h
  split at h
  · cases h
  · injection h with h
    subst h
    intro x hx
    have ha := body_avail N api ns (refsOK_of_ownRefsDefined api ns href) x hx
    simp only [ModDecl.imported, ModDecl.defined, List.flatMap_append, List.mem_append]
    rcases ha with a | a | ⟨a, b⟩ | a | ⟨t, ht, rfl⟩ | ⟨i, hi, rfl⟩
    · exact Or.inr (Or.inr a)
    · exact Or.inl (Or.inl (Or.inl (typing_imported _ _ x a)))
    · subst a; exact Or.inl (Or.inl (Or.inl (datetime_imported _ _ b)))
    · simp only [List.mem_cons, List.not_mem_nil, or_false] at a
      rcases a with rfl | rfl | a
      · exact Or.inl (Or.inl (Or.inr (by simp [Import.binds])))
      · exact Or.inl (Or.inl (Or.inr (by simp [Import.binds])))
      · exact Or.inr (Or.inl (typevars_defined N api ns a))
    · refine Or.inr (Or.inl ?_)
      simp only [stubBody, List.flatMap_append, List.mem_append, flatW_fst, List.flatMap_assoc]
      exact Or.inl (Or.inl (Or.inr (List.mem_flatMap.mpr ⟨t, ht, class_defined N api ns.name t⟩)))
    · have := nsRef_imported ns.imports (stubBody N api ns).2 i hi
      simp only [List.flatMap_append, List.mem_append] at this
      rcases this with this | this
      · exact Or.inl (Or.inl (Or.inl this))
      · exact Or.inl (Or.inr this)

/-- alias names `fmt_class` changes (`AS` → `As`, `HTTPCode` → `HttpCode`, `HTTPUnion` → `HttpUnion`),
one it leaves alone, and an alias of a union -/
def d20Ns : Namespace :=
  { name := "n",
    types := [{ kind := .union, name := "U", fields := [⟨"a", .void, false⟩] }],
    aliases := [⟨"AS", .string⟩, ⟨"HTTPCode", .integer⟩, ⟨"Plain", .string⟩, ⟨"HTTPUnion", .user "n" "U"⟩] }
def d20Api : Api := ⟨[d20Ns]⟩

/-- D20 repaired: stub and runtime module both say `As_validator` / `HttpCode_validator` /
`HttpUnion_validator`, and (D39 repaired) the class alias of a struct or union is bound under
`fmt_class(alias.name)` on both sides (`HttpUnion = U`, the name its users refer to). -/
example :
    aliasNamesStable pyNaming d20Ns = false ∧
    (stubNs pyNaming d20Api d20Ns).map judgedNames =
      .ok [(.cls, "U"), (.validator, "U_validator"),
           (.validator, "As_validator"), (.validator, "HttpCode_validator"), (.validator, "Plain_validator"),
           (.validator, "HttpUnion_validator"), (.aliasName, "HttpUnion")] ∧
    (rtNs pyNaming d20Api d20Ns).map judgedNames = (stubNs pyNaming d20Api d20Ns).map judgedNames := by
  exact ⟨by decide +kernel, map_eq_ok (by decide +kernel), judgedNames_rt_eq_stub ..⟩

/-- namespace `a` uses the alias `b.Al`, whose target `c.Foo` lives in a third namespace; `a` imports
`b` only (all the frontend records: `a` never names `c`) -/
def chainC : Namespace := { name := "c", types := [{ kind := .struct, name := "Foo", fields := [⟨"z", .string, false⟩] }] }
def chainB : Namespace := { name := "b", imports := ["c"], aliases := [⟨"Al", .user "c" "Foo"⟩] }
def chainA : Namespace :=
  { name := "a", imports := ["b"],
    types := [{ kind := .struct, name := "S", fields := [⟨"x", .alias "b" "Al" (.user "c" "Foo"), false⟩] }] }
def chainApi : Api := ⟨[chainA, chainB, chainC]⟩

/-- Regression of C15-stub-indirect-namespace-import: the frontend's guarantee (`directCovered`) holds
in every namespace, `refsCovered` fails for `a` (its annotations mention `c.Foo`, its spec text
never names `c`), and the stub of `a` used to annotate with `c.Foo` without importing `c`. The
callback for user-defined types now registers `from <package> import c`: nothing is unresolved, and
the namespace imports of the stub are `c` (placeholder) and `b` (regular block). -/
theorem imports_regression :
    (chainApi.namespaces.all directCovered) = true ∧ chainsOK chainApi = true ∧
    refsCovered chainApi chainA = false ∧ ownRefsDefined chainApi chainA = true ∧
    (stubNs pyNaming chainApi chainA).map (fun m => (m.unresolved, m.imports.filter (fun i => match i with | .ns _ => true | _ => false))) =
      .ok ([], [.ns "c", .ns "b"]) := by
  refine ⟨?_, ?_, ?_, ?_, map_eq_ok (by decide +kernel)⟩ <;> decide +kernel

/-- the same through a field inherited from a parent in another namespace: `a.S2 extends b.Base`,
`b.Base` has a field of type `List(c.Foo?)` -/
def inhB : Namespace :=
  { name := "b", imports := ["c"],
    types := [{ kind := .struct, name := "Base", fields := [⟨"w", .list (.nullable (.user "c" "Foo")), false⟩] }] }
def inhA : Namespace :=
  { name := "a", imports := ["b"], types := [{ kind := .struct, name := "S2", parent := some ("b", "Base"), fields := [⟨"y", .integer, false⟩] }] }
def inhApi : Api := ⟨[inhA, inhB, chainC]⟩

example : directCovered inhA = true ∧ refsCovered inhApi inhA = false ∧
    (stubNs pyNaming inhApi inhA).map (fun m => (m.unresolved, m.imports.contains (.ns "c"))) = .ok ([], true) := by
  refine ⟨?_, ?_, map_eq_ok (by decide +kernel)⟩ <;> decide +kernel

def exCommon : Namespace :=
  { name := "common",
    types := [{ kind := .struct, name := "Base", fields := [⟨"id", .string, false⟩, ⟨"size", .integer, true⟩] },
              { kind := .union, name := "Mode",
                fields := [⟨"plain", .void, false⟩, ⟨"fancy", .user "common" "Base", false⟩,
                           ⟨"maybe", .nullable .timestamp, false⟩] }],
    aliases := [⟨"Ids", .list .string⟩, ⟨"BaseAlias", .user "common" "Base"⟩] }
def exFiles : Namespace :=
  { name := "files", imports := ["common"],
    types := [{ kind := .struct, name := "Arg", parent := some ("common", "Base"),
                fields := [⟨"mode", .user "common" "Mode", false⟩,
                           ⟨"tags", .map .string (.list .float), false⟩,
                           ⟨"other", .nullable (.alias "common" "BaseAlias" (.user "common" "Base")), false⟩] },
              { kind := .union, name := "More", parent := some ("common", "Mode"),
                fields := [⟨"extra", .user "files" "Arg", false⟩, ⟨"nothing", .void, false⟩] }],
    routes := [⟨"get", 1⟩, ⟨"get", 2⟩] }
def exApi : Api := ⟨[exCommon, exFiles]⟩

example : chainsOK exApi = true ∧ ownRefsDefined exApi exFiles = true ∧ ownRefsDefined exApi exCommon = true ∧
    refsCovered exApi exFiles = true := by decide +kernel

example : (stubNs pyNaming exApi exFiles).map judgedNames =
    .ok [(.cls, "Arg"), (.validator, "Arg_validator"), (.cls, "More"), (.validator, "More_validator"),
         (.route, "get"), (.route, "get_v2")] ∧
    (rtNs pyNaming exApi exFiles).map judgedNames = (stubNs pyNaming exApi exFiles).map judgedNames := by
  exact ⟨map_eq_ok (by decide +kernel), judgedNames_rt_eq_stub ..⟩

/-- the constructor of `Arg` takes the required fields of the whole chain first, then the optional ones -/
example : resolveCtor (fun ns t => (stubType pyNaming exApi ns t).1) exApi exApi.fuel "files" exFiles.types[0]! =
    some ["id", "mode", "tags", "size", "other"] := by decide +kernel

example : (resolve (rtOwn pyNaming exApi) exApi exApi.fuel "files" exFiles.types[1]!) =
    [(.attr, "nothing"), (.classmethod, "extra"), (.method, "is_extra"), (.method, "is_nothing"),
     (.method, "get_extra"), (.attr, "nothing"),
     (.attr, "plain"), (.classmethod, "fancy"), (.classmethod, "maybe"), (.method, "is_plain"),
     (.method, "is_fancy"), (.method, "is_maybe"), (.method, "get_fancy"), (.method, "get_maybe"),
     (.attr, "plain")] := by decide +kernel

example : (mapStoneType pyNaming "files" (.nullable (.alias "common" "BaseAlias" (.user "common" "Base")))).1 =
    .sub (.name "Optional") (.attr (.name "common") "Base") := by decide +kernel

/-- the stub of `files` is closed; the placeholder imports exactly what was registered while emitting -/
example : (stubNs pyNaming exApi exFiles).map (fun m => (m.unresolved, m.imports.take 1)) =
    .ok ([], [.typing ["TypeVar", "Dict", "List", "Optional", "Type", "Text", "Callable"]]) := map_eq_ok (by decide +kernel)

example : fmtClass pyNaming "AS" = "As" ∧ fmtClass pyNaming "HTTPCode" = "HttpCode" ∧
    fmtVar pyNaming "class" true = "class_" ∧ fmtFunc pyNaming "getFile_info" false 2 = "get_file_info_v2" ∧
    fmtNamespace "while" = "while_" := by decide +kernel

end StoneVerif.C15
