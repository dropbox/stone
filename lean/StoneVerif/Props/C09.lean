import StoneVerif.Lemmas.DeclPyLoad
/-!
# C09 - generated Python modules load and expose the whole API

Model: `Model/DeclPy.lean` (`pyTypesStmts`: what each top-level statement of a generated module binds and which
generated names it evaluates at import time; `importFrom`: CPython's import-time semantics), tied to python_types.py by
the `decl.py.stmts` correspondence (every generated module parsed with `ast` and reduced the same way) and the pins below.
-/
namespace StoneVerif.C09
open StoneVerif.DeclPy

/-- `_generate_base_namespace_module` emits its sections in the order the model assumes. -/
theorem section_order_pinned : Tables.pyTypesModuleCalls = sectionOrder := by rfl

/-- the word splitter of the model was written from these two regular expressions -/
theorem split_words_res_pinned :
    Tables.pyTypesSplitWordsCapRe = "^[a-z0-9]+|[A-Z][a-z0-9]+|[A-Z]+(?=[A-Z][a-z0-9])|[A-Z]+$"
    ∧ Tables.pyTypesSplitWordsDashRe = "[-_/]+" := ⟨rfl, rfl⟩

/-- the alias definition and the enumerated-subtypes mapping spell their targets through `fmt_class` /
`class_name_for_data_type`, like every reference to them (they used to print the raw name: repaired) -/
theorem raw_name_sites_pinned :
    Tables.pyTypesRawNameSites = ["alias_validator:'{}_validator'.format(fmt_class(alias.name))",
      "subtype_map:'{}._tag_to_subtype_ = '.format(class_name_for_data_type(data_type))",
      "subtype_map:'{}._pytype_to_tag_and_subtype_ = '.format(class_name_for_data_type(data_type))"] := rfl

/-- `_reserved_keywords` -/
theorem reserved_keywords_pinned :
    Tables.pyReservedKeywords = ["async", "break", "class", "continue", "for", "pass", "while"] := rfl

/-- Every name the property text promises at module level is bound by a top-level statement: a class per struct
and union, `<Name>_validator` per type and alias, a route object per route version, `ROUTES`. (For ALL `Api`s.) -/
theorem exposes_all_globals (api : Api) (ns : Namespace) :
    ∀ n ∈ expectedGlobals ns, n ∈ (pyTypesStmts api ns).flatMap Stmt.globals := by
  intro n hn
  rw [globals_pyTypesStmts]
  simp only [expectedGlobals, bindNames, List.mem_append, List.mem_map, List.mem_flatMap, List.mem_cons,
    List.mem_nil_iff, or_false] at hn ⊢
  rcases hn with (((⟨d, hd, rfl⟩ | ⟨d, hd, rfl⟩) | ⟨a, ha, rfl⟩) | ⟨r, hr, rfl⟩) | rfl
  · exact Or.inl (Or.inl (Or.inl (Or.inr ⟨d, hd, Or.inl rfl⟩)))
  · exact Or.inl (Or.inl (Or.inl (Or.inr ⟨d, hd, Or.inr rfl⟩)))
  · exact Or.inl (Or.inl (Or.inr ⟨a, ha, Or.inl rfl⟩))
  · exact Or.inl (Or.inr ⟨r, hr, rfl⟩)
  · exact Or.inr rfl

/-- Each struct and union is a class whose Python base is the class of its spec parent (the runtime base class if none),
whose body binds the promised attributes of every OWN member (`memberAttrs`) and - for a struct - whose constructor
takes all fields including inherited ones; `<Name>_validator` is built from that class. -/
theorem exposes_all_classes (api : Api) (ns : Namespace) (d : DataType) (hd : d ∈ ns.types) :
    (∃ body ctor, Stmt.cls (fmtClass d.name) (expectedBase ns.name d) body ctor ∈ pyTypesStmts api ns
      ∧ (∀ f ∈ d.fields, ∀ a ∈ memberAttrs d.isStruct f, a ∈ body)
      ∧ (d.isStruct = true → ctor = some (expectedCtor api d)))
    ∧ Stmt.assign (fmtClass d.name ++ "_validator") none none [here (fmtClass d.name)] ∈ pyTypesStmts api ns := by
  have hmem : ∀ s ∈ [Stmt.cls (fmtClass d.name) (baseRef ns.name d) (classBody d) (classCtor api d),
      .assign (fmtClass d.name ++ "_validator") none none [here (fmtClass d.name)]], s ∈ pyTypesStmts api ns :=
    fun s hs => mem_pyTypes_of_mem_class (by rw [classStmts_eq]; exact List.mem_flatMap.mpr ⟨d, hd, hs⟩)
  refine ⟨⟨classBody d, classCtor api d, ?_, fun f hf a ha => mem_classBody hf ha, fun hs => ?_⟩,
    hmem _ (List.mem_cons_of_mem _ List.mem_cons_self)⟩
  · rw [← baseRef_eq_expectedBase]
    exact hmem _ List.mem_cons_self
  · rw [classCtor, if_pos hs]; rfl

/-- Every attribute promised for a member declared by `d` or by ANY ancestor (to any depth, across namespaces) is found
by Python attribute lookup on the class of `d` (`HasAttr`: along the bases, which are the classes of the spec parents). -/
theorem exposes_all_inherited (api : Api) (ns : Namespace) (hns : ns ∈ api.namespaces) (d : DataType)
    (hd : d ∈ ns.types) (n : Nat) :
    ∀ kf ∈ chainMembersK api n d, ∀ a ∈ memberAttrs kf.1 kf.2, HasAttr api ns.name d a := by
  have own : ∀ {ns : Namespace} {d : DataType}, ns ∈ api.namespaces → d ∈ ns.types → ∀ {f : Field}, f ∈ d.fields →
      ∀ {a : Name}, a ∈ memberAttrs d.isStruct f → HasAttr api ns.name d a := by
    intro ns d hns hd f hf a ha
    obtain ⟨⟨body, ctor, hmem, hbody, _⟩, _⟩ := exposes_all_classes api ns d hd
    exact HasAttr.own hns hd hmem (hbody f hf a ha)
  induction n generalizing ns d with
  | zero =>
    intro kf hkf a ha
    obtain ⟨f, hf, rfl⟩ := List.mem_map.mp hkf
    exact own hns hd hf ha
  | succ n ih =>
    intro kf hkf a ha
    simp only [chainMembersK, List.mem_append, List.mem_map] at hkf
    rcases hkf with hkf | ⟨f, hf, rfl⟩
    · cases hpar : d.parent with
      | none => simp [Api.parentOf, hpar] at hkf
      | some q =>
        obtain ⟨pns, pn⟩ := q
        cases hp : api.findType pns pn with
        | none => simp [Api.parentOf, hpar, hp] at hkf
        | some p =>
          simp only [Api.parentOf, hpar, hp] at hkf
          obtain ⟨ns', hns', hname, hp', _⟩ := findType_spec hp
          obtain ⟨⟨body, ctor, hmem, _⟩, _⟩ := exposes_all_classes api ns d hd
          exact HasAttr.inherited hns hd hpar hp hmem (hname ▸ ih ns' hns' p hp' kf hkf a ha)
    · exact own hns hd hf ha

/-- the members `exposes_all_inherited` ranges over are exactly the own and inherited fields / tags -/
theorem chain_members_are_all_fields (api : Api) (n : Nat) (d : DataType) :
    (chainMembersK api n d).map (·.2) = chainFields api n d := by
  induction n generalizing d with
  | zero => simp [chainMembersK, chainFields, Function.comp_def]
  | succ n ih =>
    simp only [chainMembersK, chainFields, List.map_append, List.map_map]
    congr 1
    · cases api.parentOf d with
      | none => rfl
      | some p => exact ih p
    · simp [Function.comp_def]

/-- Every alias has `<Name>_validator`. -/
theorem exposes_all_aliases (api : Api) (ns : Namespace) (a : Alias) (ha : a ∈ ns.aliases) :
    ∃ copy uses, Stmt.assign (fmtClass a.name ++ "_validator") none copy uses ∈ pyTypesStmts api ns :=
  ⟨_, _, mem_pyTypes_of_mem_alias (List.mem_flatMap.mpr ⟨a, ha,
    List.mem_append_left _ (List.mem_append_left _ List.mem_cons_self)⟩)⟩

/-- Every route version is a route object bound to `fmt_func(name, version)` whose expression evaluates the
validators of its argument, result and error types; `ROUTES` lists every one of them. -/
theorem exposes_all_routes (api : Api) (ns : Namespace) :
    (∃ uses, Stmt.assign "ROUTES" none none uses ∈ pyTypesStmts api ns
      ∧ ∀ r ∈ ns.routes, here (fmtFunc r.name false r.version) ∈ uses)
    ∧ ∀ r ∈ ns.routes, ∃ uses, Stmt.assign (fmtFunc r.name false r.version) none none uses ∈ pyTypesStmts api ns
        ∧ (∀ x ∈ tyRefs ns.name r.arg ++ tyRefs ns.name r.result ++ tyRefs ns.name r.error, x ∈ uses) := by
  constructor
  · exact ⟨_, mem_pyTypes_of_mem_routes (List.mem_append_right _ List.mem_cons_self),
      fun r hr => List.mem_map.mpr ⟨r, hr, rfl⟩⟩
  · intro r hr
    exact ⟨_, mem_pyTypes_of_mem_routes (List.mem_append_left _ (List.mem_map.mpr ⟨r, hr, rfl⟩)),
      fun x hx => List.mem_append_left _ hx⟩

/-- The module-level names a module binds are, in order, `bindNames`; when those are pairwise different - which the
compiler's canonical-name rule is meant to ensure - nothing is bound twice. -/
theorem defines_once (api : Api) (ns : Namespace) (h : nodupB (bindNames api ns) = true) :
    ((pyTypesStmts api ns).flatMap Stmt.globals).Nodup := by
  rw [globals_pyTypesStmts]
  exact nodup_of_nodupB h

/-- **The generated package imports, whichever namespace module is imported first.** For every API description
that satisfies `apiWF` (decidable; evaluated by the driver on every explored spec) and whose import graph is
acyclic, importing the module of ANY namespace `first` into a fresh interpreter succeeds, and leaves that module
completely loaded (`Loaded`: classes, validators, reflection tables, aliases are all bound). -/
theorem import_safe (api : Api) (h : apiWF api = true) (hdag : Acyclic (importEdges api)) (first : Namespace)
    (hf : first ∈ api.namespaces) :
    ∃ st, importFrom (pyModules api) (fmtNamespace first.name) = .ok st ∧ Loaded api st first := by
  obtain ⟨st', hrun, _, _, hl⟩ := import_step h hdag (TopInv.empty api) hf
  exact ⟨st', hrun, hl⟩

theorem import_safe_no_error (api : Api) (h : apiWF api = true) (hdag : Acyclic (importEdges api))
    (first : Namespace) (hf : first ∈ api.namespaces) :
    errOf (importFrom (pyModules api) (fmtNamespace first.name)) = none := by
  obtain ⟨st, hst, _⟩ := import_safe api h hdag first hf
  rw [hst]; rfl

/-- … and importing every other module afterwards (what the harness does in each fresh interpreter, and what the
driver reports as the model's verdict) succeeds too, with every module completely loaded. -/
theorem import_all_safe (api : Api) (h : apiWF api = true) (hdag : Acyclic (importEdges api)) (first : Namespace)
    (hf : first ∈ api.namespaces) :
    ∃ st, importAll (pyModules api) (fmtNamespace first.name) = .ok st
      ∧ ∀ ns ∈ api.namespaces, Loaded api st ns := by
  obtain ⟨st', hfold, hinv', _, hall'⟩ := import_steps h hdag (first :: api.namespaces)
    (fun ns hns => by rcases List.mem_cons.mp hns with rfl | hns; exact hf; exact hns) {}
    (TopInv.empty api)
  refine ⟨st', ?_, fun ns hns => hinv'.loaded ns hns (hall' ns (List.mem_cons_of_mem _ hns))⟩
  have hnames : (pyModules api).map (·.1) = api.namespaces.map modName := by
    simp [pyModules, modName, Function.comp_def]
  unfold importAll
  rw [hnames]
  exact hfold


/-- the executable acyclicity test the driver reports (`"acyclic"`) is sound: it exhibits the ranking -/
theorem acyclic_of_acyclicB (api : Api) (h : acyclicB api = true) : Acyclic (importEdges api) := by
  refine ⟨rankFn (apiRanks api), fun e he => ?_⟩
  simp only [acyclicB, List.all_eq_true, decide_eq_true_eq] at h
  exact h e he

/-- both hypotheses in the form the driver evaluates them on every explored spec -/
theorem import_all_safe_checked (api : Api) (h : apiWF api = true) (hdag : acyclicB api = true) (first : Namespace)
    (hf : first ∈ api.namespaces) : errOf (importAll (pyModules api) (fmtNamespace first.name)) = none := by
  obtain ⟨st, hst, _⟩ := import_all_safe api h (acyclic_of_acyclicB api hdag) first hf
  rw [hst]; rfl

/-- Non-vacuity: two namespaces; a struct tree with an omitted caller, a struct and a union extending across the
namespace border, aliases of aliases ending in a class, a tag default reached through an alias, forward references,
a route. -/
def sampleApi : Api := { namespaces := [
  { name := "base",
    types := [
      { isStruct := true, name := "Root", subtypes := [("base", "Leaf")],
        fields := [{ name := "id", ty := .alias "base" "Id" }, { name := "hidden", ty := .nullable .prim, caller := some "internal" }] },
      { isStruct := true, name := "Leaf", parent := some ("base", "Root"),
        fields := [{ name := "later", ty := .list (.user "base" "Zed") }] },
      { isStruct := false, name := "Level", catchAll := true,
        fields := [{ name := "low", ty := .void }, { name := "custom", ty := .prim }, { name := "other", ty := .void }] },
      { isStruct := true, name := "Zed", fields := [{ name := "lvl", ty := .user "base" "Level", dflt := some (.tag (.user "base" "Level") "low") }] }],
    aliases := [{ name := "Id", ty := .prim }, { name := "LevelAlias", ty := .user "base" "Level" }] },
  { name := "top", imports := ["base"],
    types := [
      { isStruct := true, name := "Child", parent := some ("base", "Zed"),
        fields := [{ name := "pick", ty := .alias "top" "Lvl2", dflt := some (.tag (.alias "top" "Lvl2") "low") },
                   { name := "secret", ty := .prim, caller := some "internal", redact := true }] },
      { isStruct := false, name := "More", parent := some ("base", "Level"),
        fields := [{ name := "extreme", ty := .void }, { name := "detail", ty := .user "top" "Child" }] }],
    aliases := [{ name := "Lvl2", ty := .alias "base" "LevelAlias" }, { name := "Ids", ty := .list (.alias "base" "Id") }],
    routes := [{ name := "get_thing", version := 2, arg := .user "top" "Child", result := .alias "top" "Ids",
                 error := .user "top" "More", attrs := [("auth", .plain)] }] }] }

set_option maxRecDepth 100000 in
example : apiWF sampleApi = true ∧ acyclicB sampleApi = true
    ∧ errOf (importAll (pyModules sampleApi) "top") = none ∧ errOf (importAll (pyModules sampleApi) "base") = none :=
  ⟨by decide +kernel, by decide +kernel, by decide +kernel⟩

/-- three namespaces importing each other in a circle. The compiler used to accept this (it only detected two-namespace
cycles) and refuses it since the repair "an import cycle through three or more namespaces is a spec error"; the witness
is the model-level reason why `import_safe` needs acyclicity. -/
def cycleApi : Api := { namespaces := [
  { name := "na", imports := ["nb"], types := [{ isStruct := true, name := "A", fields := [{ name := "f", ty := .user "nb" "B" }] }] },
  { name := "nb", imports := ["nc"], types := [{ isStruct := true, name := "B", fields := [{ name := "f", ty := .user "nc" "C" }] }] },
  { name := "nc", imports := ["na"], types := [{ isStruct := true, name := "C", fields := [{ name := "f", ty := .user "na" "A" }] }] }] }

/-- Without acyclicity the import fails although everything else is in order: importing `na` first runs `nb`, which
runs `nc`, which receives the still empty module `na` and evaluates `na.A_validator`. -/
theorem import_cycle_witness :
    apiWF cycleApi = true ∧ ¬ Acyclic (importEdges cycleApi)
    ∧ errOf (importFrom (pyModules cycleApi) "na") = some (.attrError "nc" ⟨some "na", "A_validator", none⟩) := by
  refine ⟨by decide +kernel, ?_, by decide +kernel⟩
  rintro ⟨rank, h⟩
  have h1 := h ("na", "nb") (by decide)
  have h2 := h ("nb", "nc") (by decide)
  have h3 := h ("nc", "na") (by decide)
  simp only at h1 h2 h3
  omega

/-- `alias A = List(Z)` with `Z` a later alias: `linearize_aliases` used to follow only direct alias → alias edges and
left `A` first (repaired; hand seeds `alias-order-*`). Why `apiWF` asks for the order AT ANY DEPTH. -/
def aliasOrderApi : Api := { namespaces := [
  { name := "n", aliases := [{ name := "A", ty := .list (.alias "n" "Z") }, { name := "Z", ty := .prim }] }] }

def aliasOrderFixedApi : Api := { namespaces := [
  { name := "n", aliases := [{ name := "Z", ty := .prim }, { name := "A", ty := .list (.alias "n" "Z") }] }] }

theorem alias_order_witness :
    apiWF aliasOrderApi = false
    ∧ errOf (importFrom (pyModules aliasOrderApi) "n") = some (.nameError "n" ⟨none, "Z_validator", none⟩)
    ∧ apiWF aliasOrderFixedApi = true
    ∧ errOf (importFrom (pyModules aliasOrderFixedApi) "n") = none := by
  decide +kernel

/-- `alias AS = String` used by a field (regression: it used to be defined as `AS_validator` and referenced as
`As_validator`) -/
def aliasNameApi : Api := { namespaces := [
  { name := "n", aliases := [{ name := "AS", ty := .prim }],
    types := [{ isStruct := true, name := "S", fields := [{ name := "f", ty := .alias "n" "AS" }] }] }] }

/-- `alias HTTPUnion = U` with a tag default through the alias, and a struct tree whose root is called `HTTPRoot`
(regression: class alias and subtype tables used to be spelled with the raw names) -/
def classAliasNameApi : Api := { namespaces := [
  { name := "n", aliases := [{ name := "HTTPUnion", ty := .user "n" "U" }],
    types := [{ isStruct := false, name := "U", fields := [{ name := "x", ty := .void }] },
              { isStruct := true, name := "S",
                fields := [{ name := "f", ty := .alias "n" "HTTPUnion", dflt := some (.tag (.alias "n" "HTTPUnion") "x") }] },
              { isStruct := true, name := "HTTPRoot", subtypes := [("n", "HTTPLeaf")] },
              { isStruct := true, name := "HTTPLeaf", parent := some ("n", "HTTPRoot") }] }] }

theorem alias_name_regression :
    apiWF aliasNameApi = true ∧ errOf (importFrom (pyModules aliasNameApi) "n") = none
    ∧ apiWF classAliasNameApi = true ∧ errOf (importFrom (pyModules classAliasNameApi) "n") = none := by
  decide +kernel

/-- a route attribute holding a union tag: `TagRef(Union(...), 'tag')` is printed into the module (listed finding
D37; printing it as `[ns.]U.tag` was tried and withdrawn: the import it needs can close an import cycle) -/
def tagRefAttrApi : Api := { namespaces := [
  { name := "n", routes := [{ name := "r", attrs := [("mode", .tagRef)] }] }] }

/-- a Timestamp route attribute (regression: `datetime` is now imported by the module) -/
def timestampAttrApi : Api := { namespaces := [
  { name := "n", routes := [{ name := "r", attrs := [("ts", .timestamp)] }] }] }

/-- The hypothesis that no route attribute is a union tag is needed; a Timestamp attribute is fine. -/
theorem route_attr_witness :
    apiWF tagRefAttrApi = false
    ∧ errOf (importFrom (pyModules tagRefAttrApi) "n") = some (.nameError "n" ⟨none, "TagRef", none⟩)
    ∧ apiWF timestampAttrApi = true ∧ errOf (importFrom (pyModules timestampAttrApi) "n") = none := by
  decide +kernel

end StoneVerif.C09
