import StoneVerif.Model.Rt.Ir
import StoneVerif.Lemmas.RtDecode
/-!
Property theorems for C08 (generated classes accept a value exactly when it satisfies the declared type): readings of
`V8.validate_spec`, `validateTypeOnly_spec`, `attrSet_spec` and `mkUnion_spec` (Lemmas/RtValidate.lean); the limit
tables of the runtime against the compiler's; the primitive case of the JSON entry point.
-/
namespace StoneVerif.C08
open StoneVerif.Rt StoneVerif.Rt.V8

/-- The runtime validators and the compile-time types use the same integer and float limits, and they
are the limits of the declared widths. (Over the translator's output: editing `default_maximum` of
`Int32` in either module breaks this theorem.) -/
theorem bounds_tables :
    Tables.rtIntBounds = Tables.irIntBounds ∧ Tables.rtFloatBounds = Tables.irFloatBounds ∧
    Tables.rtIntBounds = [("Int32", (-(2:Int)^31, 2^31 - 1)), ("UInt32", (0, 2^32 - 1)),
                          ("Int64", (-(2:Int)^63, 2^63 - 1)), ("UInt64", (0, 2^64 - 1))] := by
  decide +kernel

theorem validate_only_verr (E : Ext) (env : Env) (t : PTy) (v : PyVal) :
    ∀ e, validate E env t v ≠ .error (.crash e) :=
  (validate_spec E env t v).ne_crash

theorem validate_iff_sat (E : Ext) (env : Env) (t : PTy) (v : PyVal) :
    (∃ v', validate E env t v = .ok v') ↔ satB E env t v = true :=
  (validate_spec E env t v).ok_iff

theorem validate_norm {E : Ext} {env : Env} {t : PTy} {v v' : PyVal} (h : validate E env t v = .ok v') :
    v' = normOf E t v :=
  (validate_spec E env t v).eq_of_ok h

theorem validate_idem {E : Ext} {env : Env} {t : PTy} {v v' : PyVal} (h : validate E env t v = .ok v') :
    validate E env t v' = .ok v' := by
  have hs : satB E env t v = true := (validate_iff_sat E env t v).1 ⟨v', h⟩
  have hv : v' = normOf E t v := validate_norm h
  obtain ⟨h1, h2⟩ := norm_sat E env t v hs
  rw [hv, (validate_spec E env t _).of_acc h1, h2]

/-- for a validator that is not of a user type the only way to succeed is None-where-nullable: `classSat` is false
there -/
theorem validateTypeOnly_iff (env : Env) (t : PTy) (v : PyVal) :
    validateTypeOnly env t v = .ok () ↔ (t.flags.nullable = true ∧ v = .none) ∨ classSat env t v = true := by
  have key : typeOnlyB env t v = true ↔ (t.flags.nullable = true ∧ v = .none) ∨ classSat env t v = true := by
    simp [typeOnlyB, isNoneV_iff]
  rw [← key]
  rcases validateTypeOnly_spec env t v with ⟨a, b⟩ | ⟨a, _, b⟩ | ⟨a, _, b⟩
  · simp [a, b]
  · obtain ⟨m, hm⟩ := b.exists; simp [a, hm]
  · simp [a, b]

theorem classSat_struct (env : Env) (fl : Flags) (cls : String) (v : PyVal) :
    (classSat env (.struct fl cls) v = true ↔ ∃ c slots, v = .struct c slots ∧ env.structSubclass c cls = true) ∧
    (classSat env (.tree fl cls) v = true ↔ ∃ c slots, v = .struct c slots ∧ env.structSubclass c cls = true) := by
  cases v <;> simp [classSat]

theorem classSat_union (env : Env) (fl : Flags) (cls : String) (v : PyVal) :
    classSat env (.union fl cls) v = true ↔ ∃ c tag x, v = .union c tag x ∧ env.unionSubclass cls c = true := by
  cases v <;> simp [classSat, unionSat]

theorem validateTypeOnly_only_verr_of_user (env : Env) (t : PTy) (v : PyVal) (ht : isUserTyC08 t = true) :
    ∀ e, validateTypeOnly env t v ≠ .error (.crash e) :=
  (validateTypeOnly_good env t v ht).ne_crash

theorem fieldSat_iff (E : Ext) (env : Env) (f : FieldDef) (x : PyVal) :
    fieldSat E env f x = true ↔
      (f.attrNullable = true ∧ x = .none) ∨
      (f.attrUserDefined = true ∧ ((f.ty.flags.nullable = true ∧ x = .none) ∨ classSat env f.ty x = true)) ∨
      (f.attrUserDefined = false ∧ satB E env f.ty x = true) := by
  cases hU : f.attrUserDefined <;> simp [fieldSat, hU, typeOnlyB, isNoneV_iff]

theorem attrSet_iff (E : Ext) (env : Env) (f : FieldDef) (slots : List (String × PyVal)) (x : PyVal) :
    (∃ s', attrSet E env f slots x = .ok s') ↔
      (f.attrNullable = true ∧ x = .none) ∨
      (f.attrUserDefined = true ∧ ((f.ty.flags.nullable = true ∧ x = .none) ∨ classSat env f.ty x = true)) ∨
      (f.attrUserDefined = false ∧ satB E env f.ty x = true) := by
  rw [← fieldSat_iff]
  rcases attrSet_spec E env f slots x with ⟨a, b⟩ | ⟨a, b⟩ | ⟨a, _, _, b⟩
  · simp [a, b]
  · obtain ⟨m, hm⟩ := b.exists; simp [a, hm]
  · simp [a, b]

theorem setField_iff (E : Ext) (env : Env) (cls : String) (slots : List (String × PyVal)) (name : String) (x : PyVal)
    (s : StructDef) (f : FieldDef) (hs : env.struct? cls = some s) (hf : s.field? name = some f) :
    (∃ o', setField E env (.struct cls slots) name x = .ok o') ↔
      (f.attrNullable = true ∧ x = .none) ∨
      (f.attrUserDefined = true ∧ ((f.ty.flags.nullable = true ∧ x = .none) ∨ classSat env f.ty x = true)) ∨
      (f.attrUserDefined = false ∧ satB E env f.ty x = true) := by
  rw [← attrSet_iff E env f slots x]
  simp only [setField, hs, Option.bind_some, hf]
  cases attrSet E env f slots x <;> simp [Except.map]

/-- `hud`: the `user_defined` flag is only set on fields whose validator is of a user type, which is how the generator
sets it (`validatorOf_userDefined`) -/
theorem setField_only_verr (E : Ext) (env : Env) (cls : String) (slots : List (String × PyVal)) (name : String) (x : PyVal)
    (s : StructDef) (f : FieldDef) (hs : env.struct? cls = some s) (hf : s.field? name = some f)
    (hud : f.attrUserDefined = true → isUserTyC08 f.ty = true) :
    ∀ e, setField E env (.struct cls slots) name x ≠ .error (.crash e) := by
  intro e
  simp only [setField, hs, Option.bind_some, hf]
  rcases attrSet_spec E env f slots x with ⟨_, b⟩ | ⟨_, b⟩ | ⟨_, c, d, _⟩
  · simp [b, Except.map]
  · obtain ⟨m, hm⟩ := b.exists; simp [hm, Except.map]
  · rw [hud c] at d; cases d

theorem setField_only_verr_of_flagsOk (E : Ext) (env : Env) (cls : String) (slots : List (String × PyVal)) (name : String)
    (x : PyVal) (s : StructDef) (f : FieldDef) (hs : env.struct? cls = some s) (hf : s.field? name = some f)
    (hok : attrFlagsOk env = true) :
    ∀ e, setField E env (.struct cls slots) name x ≠ .error (.crash e) := by
  apply setField_only_verr E env cls slots name x s f hs hf
  intro hu
  have hsm : s ∈ env.structs := List.mem_of_find?_eq_some hs
  have hfm : f ∈ s.allAttrs := List.mem_of_find?_eq_some hf
  simp only [attrFlagsOk, List.all_eq_true] at hok
  have := hok s hsm f hfm
  simpa [hu] using this

/-- The generator sets `user_defined=True` only where the validator it builds is of a user type. -/
theorem validatorOf_userDefined (ir : IrTy) (t : PTy) (h : validatorOf ir = some t)
    (hud : ir.isUserDefinedLit = true) : isUserTyC08 t = true := by
  cases ir with
  | struct cls sub => simp [validatorOf] at h; subst h; cases sub <;> rfl
  | union cls => simp [validatorOf] at h; subst h; rfl
  | nullable ir' =>
    cases ir' with
    | struct cls sub =>
      cases sub <;> simp [validatorOf, PTy.flags, PTy.withFlags] at h <;> subst h <;> rfl
    | union cls => simp [validatorOf, PTy.flags, PTy.withFlags] at h; subst h; rfl
    | _ => simp [IrTy.isUserDefinedLit] at hud
  | _ => simp [IrTy.isUserDefinedLit] at hud

theorem setField_ok {E : Ext} {env : Env} {cls : String} {slots : List (String × PyVal)} {name : String} {x o' : PyVal}
    {s : StructDef} {f : FieldDef} (hs : env.struct? cls = some s) (hf : s.field? name = some f)
    (h : setField E env (.struct cls slots) name x = .ok o') : o' = .struct cls (slotsAfter E f slots x) := by
  simp only [setField, hs, Option.bind_some, hf] at h
  obtain ⟨s', hs', rfl⟩ := except_map_ok h
  rw [(DecL.attrSet_eq_ok hs').2]

/-- The field reads back the value itself for a field of a user type, its documented normalisation otherwise. `hnd`: an
instance's slots are a Python `__slots__` mapping; `setField_slots_nodup` shows assignment preserves it. -/
theorem set_get (E : Ext) (env : Env) (cls : String) (slots : List (String × PyVal)) (name : String) (x : PyVal) (o' : PyVal)
    (s : StructDef) (f : FieldDef) (hs : env.struct? cls = some s) (hf : s.field? name = some f)
    (hnd : nodupS (slots.map (·.1)) = true)
    (h : setField E env (.struct cls slots) name x = .ok o') :
    getField env o' name = .ok (if f.attrUserDefined then x else normOf E f.ty x) := by
  rw [setField_ok hs hf h]
  simp only [getField, hs, Option.bind_some, hf, attrGet_slotsAfter E f slots x hnd, storedOf]

theorem set_get_none (E : Ext) (env : Env) (cls : String) (slots : List (String × PyVal)) (name : String) (o' : PyVal)
    (s : StructDef) (f : FieldDef) (hs : env.struct? cls = some s) (hf : s.field? name = some f)
    (hnd : nodupS (slots.map (·.1)) = true)
    (h : setField E env (.struct cls slots) name .none = .ok o') :
    getField env o' name = .ok .none := by
  rw [set_get E env cls slots name .none o' s f hs hf hnd h]
  cases f.attrUserDefined <;> simp [normOf_none]

/-- When the value is not None (or the field not nullable) uniqueness of slot names is not needed. -/
theorem set_get_of_set (E : Ext) (env : Env) (cls : String) (slots : List (String × PyVal)) (name : String) (x : PyVal) (o' : PyVal)
    (s : StructDef) (f : FieldDef) (hs : env.struct? cls = some s) (hf : s.field? name = some f)
    (hx : f.attrNullable = false ∨ x ≠ .none)
    (h : setField E env (.struct cls slots) name x = .ok o') :
    getField env o' name = .ok (if f.attrUserDefined then x else normOf E f.ty x) := by
  have hN : (f.attrNullable && isNoneV x) = false := by
    rcases hx with h1 | h1
    · simp [h1]
    · cases x <;> simp [isNoneV] at h1 ⊢
  rw [setField_ok hs hf h]
  simp only [getField, hs, Option.bind_some, hf, attrGet_slotsAfter_set E f slots x hN, storedOf]

theorem setField_slots_nodup (E : Ext) (env : Env) (cls : String) (slots : List (String × PyVal)) (name : String) (x : PyVal)
    (o' : PyVal) (hnd : nodupS (slots.map (·.1)) = true)
    (h : setField E env (.struct cls slots) name x = .ok o') :
    ∃ slots', o' = .struct cls slots' ∧ nodupS (slots'.map (·.1)) = true := by
  simp only [setField] at h
  cases hl : (env.struct? cls).bind (·.field? name) with
  | none => rw [hl] at h; simp [crash] at h
  | some f =>
    obtain ⟨s, hs, hf⟩ := Option.bind_eq_some_iff.1 hl
    exact ⟨_, setField_ok hs hf h, nodupS_slotsAfter E f slots x hnd⟩

theorem set_get_other (E : Ext) (env : Env) (cls : String) (slots : List (String × PyVal)) (name other : String) (x : PyVal) (o' : PyVal)
    (s : StructDef) (f g : FieldDef) (hs : env.struct? cls = some s) (hf : s.field? name = some f)
    (hg : s.field? other = some g) (hne : other ≠ name)
    (h : setField E env (.struct cls slots) name x = .ok o') :
    getField env o' other = getField env (.struct cls slots) other := by
  have hfn : f.name = name := by
    have := List.find?_some hf; simpa using this
  have hgn : g.name = other := by
    have := List.find?_some hg; simpa using this
  rw [setField_ok hs hf h]
  simp only [getField, hs, Option.bind_some, hg, attrGet]
  rw [lookupSlot_slotsAfter_ne E f slots x g.name (by rw [hgn, hfn]; exact hne)]

theorem memberSat_iff (E : Ext) (env : Env) (t : PTy) (x : PyVal) :
    memberSat E env t x = true ↔
      if t.flags.nullable = false ∧ isVoidT t = true then x = .none
      else if t.flags.nullable = false ∧ isUserTyC08 t = true then classSat env t x = true
      else satB E env t x = true := by
  cases hn : t.flags.nullable <;> cases hv : isVoidT t <;> cases hu : isUserTyC08 t <;>
    simp [memberSat, hn, hv, hu, isNoneV_iff, typeOnlyB]

/-- `Cls(tag, x)` succeeds exactly when the tag is known and: a Void member gets None; a member of a (non-nullable)
struct or union type an instance of the right class; any other member a value that satisfies its type. -/
theorem mkUnion_iff (E : Ext) (env : Env) (cls tag : String) (x : PyVal) (u : UnionDef) (hu : env.union? cls = some u) :
    (∃ o, mkUnion E env cls tag x = .ok o) ↔
      ∃ t, u.ctorValidator tag = some t ∧
        (if t.flags.nullable = false ∧ isVoidT t = true then x = .none
         else if t.flags.nullable = false ∧ isUserTyC08 t = true then classSat env t x = true
         else satB E env t x = true) := by
  simp only [← memberSat_iff, ← Option.any_eq_true]
  exact (mkUnion_spec E env cls tag x hu).ok_iff

theorem mkUnion_result (E : Ext) (env : Env) (cls tag : String) (x : PyVal) (u : UnionDef) (hu : env.union? cls = some u)
    (o : PyVal) (h : mkUnion E env cls tag x = .ok o) : o = .union cls tag x :=
  (mkUnion_spec E env cls tag x hu).eq_of_ok h

/-- unknown tag included -/
theorem mkUnion_only_verr (E : Ext) (env : Env) (cls tag : String) (x : PyVal) (u : UnionDef) (hu : env.union? cls = some u) :
    ∀ e, mkUnion E env cls tag x ≠ .error (.crash e) :=
  (mkUnion_spec E env cls tag x hu).ne_crash


theorem validatorOf_int_bounds (cls : String) (mn mx : Option Int) (t : PTy)
    (h : validatorOf (.int cls mn mx) = some t) :
    ∃ dlo dhi, (cls, (dlo, dhi)) ∈ Tables.rtIntBounds ∧ t = .int {} cls (mn.getD dlo) (mx.getD dhi) := by
  simp only [validatorOf, intDefaults, Option.map_map, Option.map_eq_some_iff] at h
  obtain ⟨⟨c, dlo, dhi⟩, hfind, ht⟩ := h
  have hmem := List.mem_of_find?_eq_some hfind
  have hc := List.find?_some hfind
  simp at hc
  subst hc
  exact ⟨dlo, dhi, hmem, ht.symm⟩

theorem validatorOf_float_bounds (cls : String) (mn mx : Option FBits) (t : PTy)
    (h : validatorOf (.float cls mn mx) = some t) :
    ∃ dlo dhi, (cls, (dlo, dhi)) ∈ Tables.rtFloatBounds ∧
      t = .float {} cls (mn.or dlo) (mx.or dhi) := by
  simp only [validatorOf, floatDefaults, Option.map_map, Option.map_eq_some_iff] at h
  obtain ⟨⟨c, dlo, dhi⟩, hfind, ht⟩ := h
  have hmem := List.mem_of_find?_eq_some hfind
  have hc := List.find?_some hfind
  simp at hc
  subst hc
  refine ⟨dlo, dhi, hmem, ?_⟩
  rw [← ht]
  cases mn <;> cases mx <;> rfl

example (a : Int) : validatorOf (.int "Int32" (some a) none) = some (.int {} "Int32" a (2^31 - 1)) := by
  simp [validatorOf, intDefaults, Tables.rtIntBounds]

theorem decode_primitive_iff (E : Ext) (env : Env) (perms : List String) (strict : Bool) (t : PTy) (j : JVal)
    (hp : isJsonPrimTy t = true) (hn : t.flags.nullable = false) :
    ((∃ v, jsonCompatObjDecode E env perms strict t j = .ok v) ↔ satB E env t (pyOfJson j) = true) ∧
    (∀ v, jsonCompatObjDecode E env perms strict t j = .ok v → v = pyOfJson j) ∧
    (∀ e, jsonCompatObjDecode E env perms strict t j ≠ .error (.crash e)) := by
  rw [satB_prim E env t _ (isPrimTy_of_jsonPrim hp), hn, Bool.false_and, if_neg Bool.false_ne_true]
  have g := jsonCompatObjDecode_jsonPrim_good E env perms strict t j hp hn
  exact ⟨g.ok_iff, fun _ => g.eq_of_ok, g.ne_crash⟩


/-- a toy `Ext` for the examples: floats are their own bit pattern ordered as naturals, nothing is
NaN / inf, `float(n)` is `n` for naturals and overflows for negatives, a pattern matches only itself -/
def exE : Ext where
  fltLt a b := a < b
  fltIsNan _ := false
  fltIsInf _ := false
  fltOfInt n := if 0 ≤ n then some n.toNat else none
  patMatch p s := p == s
  b64enc h := h
  b64dec s := some (some s)
  strftime _ _ := ""
  strptime _ _ := none
  md5 s := s
  reSearch _ _ := none
  strOfInt _ := ""
  strOfFlt _ := ""

def exS : StructDef where
  cls := "ns.S"
  levels := [{ cls := "ns.S", fields := [
    { name := "n", ty := .int {} "Int32" (-5) 5, attrNullable := false, attrUserDefined := false, dflt := none, omitted := none },
    { name := "x", ty := .float { nullable := true } "Float64" none (some 10), attrNullable := true, attrUserDefined := false, dflt := none, omitted := none },
    { name := "u", ty := .union {} "ns.U", attrNullable := false, attrUserDefined := true, dflt := none, omitted := none },
    { name := "l", ty := .list {} (.float {} "Float64" none none) none (some 2), attrNullable := false, attrUserDefined := false, dflt := none, omitted := none }] }]
  subtypes := none
  catchAll := false

def exU : UnionDef where
  cls := "ns.U"
  levels := [{ cls := "ns.U", tags := [
    { name := "v", ty := .void {}, omitted := none },
    { name := "s", ty := .struct {} "ns.S", omitted := none },
    { name := "k", ty := .str {} (some 1) (some 3) (some "ab"), omitted := none }] }]
  catchAll := none

def exEnv : Env := { structs := [exS], unions := [exU] }

def exObj : PyVal := .struct "ns.S" [("n", .int 1), ("u", .union "ns.U" "v" .none), ("l", .list [])]


example : exEnv.struct? "ns.S" = some exS ∧ exEnv.union? "ns.U" = some exU := ⟨rfl, rfl⟩
example : attrFlagsOk exEnv = true := by decide +kernel

example : satB exE exEnv (.struct {} "ns.S") exObj = true ∧                              -- all required fields readable
          satB exE exEnv (.struct {} "ns.S") (.struct "ns.S" []) = false ∧              -- required field `n` unset
          satB exE exEnv (.int {} "Int32" (-5) 5) (.int 6) = false ∧
          satB exE exEnv (.int {} "Int32" (-5) 5) (.bool true) = true ∧                 -- Python's bool is an int
          satB exE exEnv (.bool {}) (.int 1) = false ∧
          satB exE exEnv (.float {} "Float64" none (some 10)) (.int (-1)) = false ∧     -- `float(n)` fails in the toy Ext
          satB exE exEnv (.str {} (some 1) (some 3) (some "ab")) (.str "abc") = false ∧ -- whole-string pattern
          satB exE exEnv (.list {} (.float {} "Float64" none none) none (some 2)) (.tuple [.int 1, .bool true]) = true ∧
          satB exE exEnv (.list {} (.float {} "Float64" none none) none (some 2)) (.list [.flt 1, .flt 2, .flt 3]) = false ∧
          satB exE exEnv (.map {} (.str {} none none none) (.int {} "Int32" 0 9)) (.dict [(.str "a", .int 3)]) = true ∧
          satB exE exEnv (.map {} (.str {} none none none) (.int {} "Int32" 0 9)) (.dict [(.int 1, .int 3)]) = false ∧
          satB exE exEnv (.union { nullable := true } "ns.U") .none = true ∧
          satB exE exEnv (.union {} "ns.U") (.other "object") = false := by decide +kernel
example : validate exE exEnv (.list {} (.float {} "Float64" none none) none (some 2)) (.tuple [.int 1, .bool true])
            = .ok (.list [.flt 1, .flt 1]) := rfl
example : validate exE exEnv (.int {} "Int32" (-5) 5) (.int 6) = verr "not within range" := rfl
example : normOf exE (.map {} (.str {} none none none) (.list {} (.float {} "Float64" none none) none none))
            (.dict [(.str "a", .tuple [.int 2])]) = .dict [(.str "a", .list [.flt 2])] := rfl

-- the hypothesis of `validateTypeOnly_only_verr_of_user` is needed (third conjunct)
example : validateTypeOnly exEnv (.struct {} "ns.S") (.struct "ns.S" []) = .ok () ∧       -- fields are not looked at
          validateTypeOnly exEnv (.union {} "ns.U") (.struct "ns.S" []) = verr "expected union type" ∧
          validateTypeOnly exEnv (.int {} "Int32" 0 1) (.int 0) = crash "AttributeError" := ⟨rfl, rfl, rfl⟩

example : (exS.field? "l").map (fun f => (f.name, f.attrNullable, f.attrUserDefined)) = some ("l", false, false) := rfl
example : (setField exE exEnv exObj "l" (.tuple [.int 1, .bool true])).bind (getField exEnv · "l")
            = .ok (.list [.flt 1, .flt 1]) := rfl
example : (setField exE exEnv exObj "u" (.union "ns.U" "k" (.str "zzzz"))).bind (getField exEnv · "u")
            = .ok (.union "ns.U" "k" (.str "zzzz")) := rfl                                -- by class only: the payload is not looked at
example : setField exE exEnv exObj "u" (.other "object") = verr "expected union type" := rfl
example : setField exE exEnv exObj "n" (.int 9) = verr "not within range" := rfl
example : (setField exE exEnv (.struct "ns.S" [("x", .flt 3)]) "x" .none).bind (getField exEnv · "x") = .ok .none := rfl
example : (setField exE exEnv exObj "x" (.int 7)).bind (getField exEnv · "x") = .ok (.flt 7) := rfl
/-- `setField_only_verr` needs its hypothesis: a (never generated) field flagged `user_defined` with a
primitive validator makes assignment crash. -/
example : attrSet exE exEnv ⟨"z", .bool {}, false, true, none, none⟩ [] (.bool true) = crash "AttributeError" := rfl
/-- `set_get` needs unique slot names for the *unset*: with a duplicated slot the second one shows through. -/
example : (setField exE exEnv (.struct "ns.S" [("x", .flt 3), ("x", .flt 4)]) "x" .none).bind (getField exEnv · "x")
            = .ok (.flt 4) := rfl

example : ∃ o', setField exE exEnv exObj "n" (.int 2) = .ok o' :=
  (setField_iff exE exEnv "ns.S" _ "n" (.int 2) exS _ rfl rfl).2 (Or.inr (Or.inr ⟨rfl, by decide +kernel⟩))
example : ¬ ∃ o', setField exE exEnv exObj "u" (.struct "ns.S" []) = .ok o' := by
  intro h
  have := (setField_iff exE exEnv "ns.S" _ "u" _ exS ⟨"u", .union {} "ns.U", false, true, none, none⟩ rfl rfl).1 h
  simp [classSat, unionSat, PTy.flags] at this
example : ∀ e, setField exE exEnv exObj "u" (.int 3) ≠ .error (.crash e) :=
  setField_only_verr exE exEnv "ns.S" _ "u" (.int 3) exS _ rfl rfl (fun _ => rfl)
example (o' : PyVal) (h : setField exE exEnv exObj "l" (.tuple [.int 1]) = .ok o') :
    getField exEnv o' "l" = .ok (.list [.flt 1]) :=
  set_get exE exEnv "ns.S" _ "l" _ o' exS _ rfl rfl (by decide +kernel) h
example : ∃ o, mkUnion exE exEnv "ns.U" "k" (.str "ab") = .ok o :=
  (mkUnion_iff exE exEnv "ns.U" "k" (.str "ab") exU rfl).2
    ⟨.str {} (some 1) (some 3) (some "ab"), rfl, by simp [PTy.flags, isVoidT, isUserTyC08]; decide +kernel⟩

example : mkUnion exE exEnv "ns.U" "v" .none = .ok (.union "ns.U" "v" .none) ∧
          mkUnion exE exEnv "ns.U" "v" (.int 5) = verr "void member must have None value" ∧
          mkUnion exE exEnv "ns.U" "nosuch" .none = verr "invalid tag" ∧
          mkUnion exE exEnv "ns.U" "s" (.struct "ns.S" []) = .ok (.union "ns.U" "s" (.struct "ns.S" [])) ∧   -- class only
          mkUnion exE exEnv "ns.U" "s" (.int 1) = verr "expected struct type" ∧
          mkUnion exE exEnv "ns.U" "k" (.str "ab") = .ok (.union "ns.U" "k" (.str "ab")) ∧
          mkUnion exE exEnv "ns.U" "k" (.str "abc") = verr "did not match pattern" := ⟨rfl, rfl, rfl, rfl, rfl, rfl, rfl⟩

-- last conjunct: a JSON integer at a float type is accepted and returned as parsed
example : jsonCompatObjDecode exE exEnv [] true (.int {} "Int32" (-5) 5) (.int 3) = .ok (.int 3) ∧
          jsonCompatObjDecode exE exEnv [] true (.int {} "Int32" (-5) 5) (.int 7) = verr "not within range" ∧
          jsonCompatObjDecode exE exEnv [] true (.int {} "Int32" (-5) 5) (.str "3") = verr "expected integer" ∧
          jsonCompatObjDecode exE exEnv [] true (.float {} "Float64" none none) (.int 3) = .ok (.int 3) := ⟨rfl, rfl, rfl, rfl⟩

end StoneVerif.C08
