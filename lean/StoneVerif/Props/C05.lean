import StoneVerif.Lemmas.RtEncodeWire
/-!
Property theorems for C05: the JSON produced for a valid value is the representation prescribed by
docs/json_serializer.rst.

* `wire` (Model/Rt/Spec.lean) is the document as a function; the shape theorems below (`wire_struct_keys`, …,
  `wire_prims`) show that it says what the property text says.
* `public_fields_table`: the table `encode_struct` walks is the list of public fields of the chain.
* `encode_eq_wire` (headline): on every valid value in stored-normal form the code-following encoder succeeds
  and returns exactly `wire`. It needs one fact beyond `envWF`: `envWFX` (Model/Rt/WFExtra.lean) — the field
  table a class inherits is, field by field, the registered table of its ancestor. `envWF` compares the chains
  by class and field *names* only, and with that alone the statement is false
  (`encode_eq_wire_needs_chain`, witness `chainWitnessEnv`).
-/
namespace StoneVerif.C05
open StoneVerif.Rt

/-- The field table the serializer walks for a caller without permissions (`_all_fields_`, with the
assignment / inheritance semantics of the generated reflection code) is exactly the public fields declared
along the inheritance chain, parents first, in declaration order. (No well-formedness needed.) -/
theorem public_fields_table (s : StructDef) :
    s.fieldsFor [] = s.fieldsSpec [] ∧
    (s.allFieldsAttr none).getD [] = (s.levels.flatMap (·.fields)).filter (·.omitted == none) :=
  ⟨fieldsFor_nil s, PermL.allFieldsAttr_getD s none⟩

/-- A struct is an object whose keys are the names of the public fields of the class, in declaration order
(parents first), that are set to a value other than None: one key per set field, unset optional fields omitted. -/
theorem wire_struct_keys (E : Ext) (env : Env) (fl : Flags) (cls c : String) (slots : List (String × PyVal)) :
    ∃ kvs, wire E env (.struct fl cls) (.struct c slots) = .obj kvs ∧
      kvs.map (·.1) = ((publicFields env cls).filter fun f => slotSet f.name slots).map (·.name) := by
  refine ⟨pick (publicFields env cls) (wireSlots E env (publicFields env cls) slots), by simp only [wire], ?_⟩
  rw [pick_keys]
  congr 1
  apply List.filter_congr
  intro f hf
  apply lookupW_wireSlots_isSome
  rw [List.find?_isSome]
  exact ⟨f, hf, by simp⟩

/-- The members of a struct, completely: for each public field of the class, in declaration order, that is set
to a value other than None, the pair of the field's name and the representation of that value at the field's
type ("recursively"). -/
theorem wire_struct_members (E : Ext) (env : Env) (hwf : envWF env = true) (fl : Flags) (cls c : String)
    (slots : List (String × PyVal)) :
    wire E env (.struct fl cls) (.struct c slots) =
      .obj ((publicFields env cls).filterMap fun f =>
        (firstSet f.name slots).map fun x => (f.name, wire E env f.ty x)) := by
  simp only [wire]
  rw [pick_wireSlots E env _ (publicFields_nodup hwf cls)]

/-- The four union forms of json_serializer.rst, for a tag `td` the caller can see:
void member → tag only; unset (None) member → tag only; ordinary-struct member → `.tag` first, then the
struct's own members (flattened); anything else → `.tag` and the payload nested under the tag name. -/
theorem wire_union_shape (E : Ext) (env : Env) (fl : Flags) (cls c tag : String) (payload : PyVal) (td : TagDef)
    (htag : publicTag? env cls tag = some td) :
    (isVoidT td.ty = true → wire E env (.union fl cls) (.union c tag payload) = .obj [(".tag", .str tag)]) ∧
    (payload = .none → wire E env (.union fl cls) (.union c tag payload) = .obj [(".tag", .str tag)]) ∧
    (∀ fl' sc c' slots, td.ty = .struct fl' sc → payload = .struct c' slots →
      wire E env (.union fl cls) (.union c tag payload) =
        .obj ((".tag", .str tag) :: pick (publicFields env sc) (wireSlots E env (publicFields env sc) slots))) ∧
    (isVoidT td.ty = false → payload ≠ .none → (∀ fl' sc, td.ty ≠ .struct fl' sc) →
      wire E env (.union fl cls) (.union c tag payload) =
        .obj [(".tag", .str tag), (tag, wire E env td.ty payload)]) := by
  rw [wire_union E env htag]
  refine ⟨fun hv => ?_, fun hp => ?_, fun fl' sc c' slots hty hp => ?_, fun hv hp hns => ?_⟩
  · rw [hv]; rfl
  · rw [hp, if_pos (by rw [isNoneV, Bool.or_true])]
  · rw [hty, hp]; rfl
  · have hp' : isNoneV payload = false := by cases payload <;> first | rfl | exact absurd rfl hp
    have hs : isPlainStruct td.ty = false := by
      cases h : isPlainStruct td.ty with
      | false => rfl
      | true => obtain ⟨fl', sc, hty⟩ := isPlainStruct_iff.mp h; exact absurd hty (hns fl' sc)
    rw [hv, hp', hs]; rfl

/-- A struct under an enumerated-subtype parent carries its subtype tag as `.tag`, first, followed by the
members of the instance's own class. -/
theorem wire_subtype_tag (E : Ext) (env : Env) (fl : Flags) (cls c tag : String) (slots : List (String × PyVal))
    (hleaf : leafTag? env cls c = some tag) :
    wire E env (.tree fl cls) (.struct c slots) =
      .obj ((".tag", .str tag) :: pick (publicFields env c) (wireSlots E env (publicFields env c) slots)) :=
  wire_tree E env fl slots hleaf

/-- Bytes are base64 strings, Timestamps strings in their declared format, integers and floats numbers,
Booleans booleans, Strings strings, Void (and an unset nullable) null, Lists arrays of the items'
representations, Maps objects from the keys to the values' representations. -/
theorem wire_prims (E : Ext) (env : Env) :
    (∀ t h, wire E env t (.bytes h) = .str (E.b64enc h)) ∧
    (∀ fl fmt id ok, wire E env (.ts fl fmt) (.ts id ok) = .str (E.strftime fmt id)) ∧
    (∀ t n, wire E env t (.int n) = .int n) ∧
    (∀ t x, wire E env t (.flt x) = .flt x) ∧
    (∀ fl b, wire E env (.bool fl) (.bool b) = .bool b) ∧
    (∀ t s, wire E env t (.str s) = .str s) ∧
    (∀ t, wire E env t .none = .null) ∧
    (∀ fl item lo hi xs, wire E env (.list fl item lo hi) (.list xs) = .arr (xs.map (wire E env item))) ∧
    (∀ fl kt vt (kvs : List (String × PyVal)),
      wire E env (.map fl kt vt) (.dict (kvs.map fun kx => (.str kx.1, kx.2))) =
        .obj (kvs.map fun kx => (kx.1, wire E env vt kx.2))) := by
  refine ⟨?_, ?_, ?_, ?_, ?_, ?_, ?_, ?_, ?_⟩ <;> intros <;>
    simp [wire, wireList_eq_map, wireDict_strKeys]

/-- For a caller without permissions and no redaction, on every valid value in stored-normal form,
`StoneToPythonPrimitiveSerializer.encode_sub` (model: `encode`) succeeds and produces exactly the
representation json_serializer.rst prescribes (`wire`), whatever the `norm` flag of the enclosing container.

`hchain : envWFX env = true`: the registered fields of every class of a struct's chain are, field by field (name,
validator, nullable / has-default / omitted-caller attributes), the first fields of the struct. Without it the
statement is false of the model: `encode_eq_wire_needs_chain`. -/
theorem encode_eq_wire (E : Ext) (env : Env) (hwf : envWF env = true) (hchain : envWFX env = true)
    (t : PTy) (v : PyVal) (norm : Bool)
    (htwf : tyWF env t = true) (hv : validB E env t v = true) (hn : normalB env t v = true) :
    encode E env [] false norm t v = .ok (wire E env t v) :=
  encode_wire E env hwf hchain t v norm htwf hv hn

theorem jsonCompatObjEncode_eq_wire (E : Ext) (env : Env) (hwf : envWF env = true) (hchain : envWFX env = true)
    (t : PTy) (v : PyVal)
    (htwf : tyWF env t = true) (hv : validB E env t v = true) (hn : normalB env t v = true) :
    jsonCompatObjEncode E env [] false t v = .ok (wire E env t v) :=
  encode_wire E env hwf hchain t v false htwf hv hn

theorem encode_parts_eq_wire (E : Ext) (env : Env) (hwf : envWF env = true) (hchain : envWFX env = true) :
    (∀ t xs, tyWF env t = true → validList E env t xs = true → normalList env t xs = true →
      encodeList E env [] false t xs = .ok (wireList E env t xs)) ∧
    (∀ fl a b p vt kvs, fl.nullable = false → tyWF env vt = true →
      validDict E env (.str fl a b p) vt kvs = true → normalDict env (.str fl a b p) vt kvs = true →
      encodeDict E env [] false (.str fl a b p) vt kvs = .ok (wireDict E env vt kvs)) ∧
    (∀ fields slots, (∀ f ∈ fields, tyWF env f.ty = true) → fields.all (fun f => attrHas f slots) = true →
      validSlots E env fields slots = true → normalSlots env fields slots = true →
      assembleStruct fields slots (encodeSlots E env [] false fields slots) =
        .ok (pick fields (wireSlots E env fields slots))) := by
  refine ⟨encodeList_wire E env hwf hchain, ?_, ?_⟩
  · intro fl a b p vt kvs hfl
    exact encodeDict_wire E env hwf hchain _ vt kvs (by simp [hfl])
  · intro fields slots hty hall hv hn
    rw [encodeSlots_wire E env hwf hchain fields slots hty hv hn]
    exact assembleStruct_ok fields slots _ hall

theorem encode_struct_keys (E : Ext) (env : Env) (hwf : envWF env = true) (hchain : envWFX env = true)
    (fl : Flags) (cls c : String) (slots : List (String × PyVal)) (norm : Bool)
    (htwf : tyWF env (.struct fl cls) = true) (hv : validB E env (.struct fl cls) (.struct c slots) = true)
    (hn : normalB env (.struct fl cls) (.struct c slots) = true) :
    ∃ kvs, encode E env [] false norm (.struct fl cls) (.struct c slots) = .ok (.obj kvs) ∧
      kvs.map (·.1) = ((publicFields env cls).filter fun f => slotSet f.name slots).map (·.name) := by
  obtain ⟨kvs, hw, hk⟩ := wire_struct_keys E env fl cls c slots
  exact ⟨kvs, by rw [encode_eq_wire E env hwf hchain _ _ norm htwf hv hn, hw], hk⟩

/-- an `Ext` for the concrete examples (none of them consults it) -/
def exE : Ext where
  fltLt := fun _ _ => false
  fltIsNan := fun _ => false
  fltIsInf := fun _ => false
  fltOfInt := fun _ => none
  patMatch := fun _ _ => true
  b64enc := id
  b64dec := fun _ => none
  strftime := fun _ _ => ""
  strptime := fun _ _ => none
  md5 := id
  reSearch := fun _ _ => none
  strOfInt := fun _ => ""
  strOfFlt := fun _ => ""

def i64 : PTy := .int {} "Int64" (-9223372036854775808) 9223372036854775807

def fld (n : String) (t : PTy) (nullable : Bool := false) (dflt : Option PyVal := none) : FieldDef :=
  { name := n, ty := t, attrNullable := nullable, attrUserDefined := false, dflt := dflt, omitted := none }

/-- `ns.A` is registered with a required field `x`, but the copy of `ns.A`'s level inside the chain of its
subclass `ns.B` says `x` is nullable. `envWF` (names only) accepts this; no generated module looks like it. -/
def chainWitnessEnv : Env :=
  { structs := [
      { cls := "ns.A", levels := [{ cls := "ns.A", fields := [fld "x" i64] }], subtypes := none, catchAll := false },
      { cls := "ns.B", levels := [{ cls := "ns.A", fields := [fld "x" i64 (nullable := true)] },
                                  { cls := "ns.B", fields := [] }], subtypes := none, catchAll := false }],
    unions := [] }

/-- About the model's `envWF`, not about the Python: with `envWF` alone `encode_eq_wire` fails.
`B()` with nothing set is valid for `Struct(A)` by the table of its own class (where `x` is nullable), and
the encoder, reading `A`'s table, reports a missing required field. `envWFX` is false of this environment. -/
theorem encode_eq_wire_needs_chain :
    envWF chainWitnessEnv = true ∧ envWFX chainWitnessEnv = false ∧
    tyWF chainWitnessEnv (.struct {} "ns.A") = true ∧
    validB exE chainWitnessEnv (.struct {} "ns.A") (.struct "ns.B" []) = true ∧
    normalB chainWitnessEnv (.struct {} "ns.A") (.struct "ns.B" []) = true ∧
    (encode exE chainWitnessEnv [] false false (.struct {} "ns.A") (.struct "ns.B" [])).isOk = false := by
  decide +kernel

def lvA : Level := { cls := "ns.A", fields := [fld "w" i64] }

/-- the specs of json_serializer.rst: `Coordinate`, `SurveyAnswer`, the enumerated-subtypes tree `A`/`B`/`C`,
the unions `U` and `Infinity` -/
def docEnv : Env :=
  { structs := [
      { cls := "ns.Coordinate", levels := [{ cls := "ns.Coordinate", fields := [fld "x" i64, fld "y" i64] }],
        subtypes := none, catchAll := false },
      { cls := "ns.SurveyAnswer", levels := [{ cls := "ns.SurveyAnswer", fields :=
          [fld "age" i64, fld "name" (.str {} none none none) (dflt := some (.str "John Doe")),
           fld "address" (.str { nullable := true } none none none) (nullable := true)] }],
        subtypes := none, catchAll := false },
      { cls := "ns.A", levels := [lvA], subtypes := some [(["b"], "ns.B", false), (["c"], "ns.C", false)],
        catchAll := true },
      { cls := "ns.B", levels := [lvA, { cls := "ns.B", fields := [fld "x" i64] }], subtypes := none,
        catchAll := false },
      { cls := "ns.C", levels := [lvA, { cls := "ns.C", fields := [fld "y" i64] }], subtypes := none,
        catchAll := false }],
    unions := [
      { cls := "ns.U", levels := [{ cls := "ns.U", tags := [
          { name := "singularity", ty := .void {}, omitted := none },
          { name := "number", ty := i64, omitted := none },
          { name := "coord", ty := .struct { nullable := true } "ns.Coordinate", omitted := none },
          { name := "infinity", ty := .union {} "ns.Infinity", omitted := none }] }], catchAll := none },
      { cls := "ns.Infinity", levels := [{ cls := "ns.Infinity", tags := [
          { name := "positive", ty := .void {}, omitted := none },
          { name := "negative", ty := .void {}, omitted := none }] }], catchAll := none }] }

theorem docEnv_wf : envWF docEnv = true ∧ envWFX docEnv = true := by decide +kernel

/-- "Serializing `A` when it contains a struct `B` (with values of 1 for each field)" -/
example : encode exE docEnv [] false false (.tree {} "ns.A") (.struct "ns.B" [("x", .int 1), ("w", .int 1)]) =
    .ok (.obj [(".tag", .str "b"), ("w", .int 1), ("x", .int 1)]) := by
  rw [encode_eq_wire exE docEnv docEnv_wf.1 docEnv_wf.2 _ _ _ (by decide +kernel) (by decide +kernel)
    (by decide +kernel)]
  rfl

/-- `SurveyAnswer` with only `age` set: the unset optional fields are omitted -/
example : encode exE docEnv [] false false (.struct {} "ns.SurveyAnswer") (.struct "ns.SurveyAnswer" [("age", .int 28)]) =
    .ok (.obj [("age", .int 28)]) := by
  rw [encode_eq_wire exE docEnv docEnv_wf.1 docEnv_wf.2 _ _ _ (by decide +kernel) (by decide +kernel)
    (by decide +kernel)]
  rfl

/-- a list of `U`: void tag, primitive member, flattened struct member, unset nullable member, nested union -/
example : encode exE docEnv [] false false (.list {} (.union {} "ns.U") none none)
      (.list [.union "ns.U" "singularity" .none, .union "ns.U" "number" (.int 42),
              .union "ns.U" "coord" (.struct "ns.Coordinate" [("x", .int 1), ("y", .int 2)]),
              .union "ns.U" "coord" .none,
              .union "ns.U" "infinity" (.union "ns.Infinity" "positive" .none)]) =
    .ok (.arr [.obj [(".tag", .str "singularity")],
               .obj [(".tag", .str "number"), ("number", .int 42)],
               .obj [(".tag", .str "coord"), ("x", .int 1), ("y", .int 2)],
               .obj [(".tag", .str "coord")],
               .obj [(".tag", .str "infinity"), ("infinity", .obj [(".tag", .str "positive")])]]) := by
  rw [encode_eq_wire exE docEnv docEnv_wf.1 docEnv_wf.2 _ _ _ (by decide +kernel) (by decide +kernel)
    (by decide +kernel)]
  rfl

/-- the hypotheses of `encode_struct_keys` are satisfiable; slot order does not matter, declaration order does -/
example : ∃ kvs, encode exE docEnv [] false true (.struct {} "ns.SurveyAnswer")
      (.struct "ns.SurveyAnswer" [("address", .str "x"), ("age", .int 28)]) = .ok (.obj kvs) ∧
      kvs.map (·.1) = ["age", "address"] := by
  obtain ⟨kvs, h, hk⟩ := encode_struct_keys exE docEnv docEnv_wf.1 docEnv_wf.2 {} "ns.SurveyAnswer" "ns.SurveyAnswer"
    [("address", .str "x"), ("age", .int 28)] true (by decide +kernel) (by decide +kernel) (by decide +kernel)
  exact ⟨kvs, h, hk.trans (by decide +kernel)⟩

end StoneVerif.C05
