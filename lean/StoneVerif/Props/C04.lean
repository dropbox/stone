import StoneVerif.Lemmas.RtRoundTrip.Canon
/-!
Property theorems for C04: decoding the JSON that serialising a valid value produces yields an equal value,
and serialising that result yields the same JSON again — strict and lenient, through the helper and the
`json_compat_obj_decode` entry point, for every type constructor (primitives, lists, maps, nullable, structs
with inheritance, enumerated subtypes, unions incl. struct-valued and union-valued members).

The theorems are stated over `wire` (Model/Rt/Spec.lean: json_serializer.rst as a function); C05 proves that the
encoder produces `wire`, so the two compose to the round trip of the property text.

Hypotheses (all decidable, evaluated on real data by the harness, except `ExtLaws`):
* `envWF env`, `tyWF env t`          what an accepted spec guarantees (Model/Rt/WF.lean)
* `envRT env`                        Model/Rt/RoundTripSpec.lean: attribute flags agree with the validators, subclasses
                                     inherit their parents' descriptors, and no field with an implicit validator
                                     default carries another explicit default (`nullable_alias_default_witness`
                                     shows the last clause is necessary)
* `validB`, `normalB`                the value is valid and in stored form
* `valWF E env t v`                  unique attribute / key names, exact class at `Struct` positions
                                     (`subclass_witness`), no catch-all tag (`catch_all_witness`), timestamps
                                     representable in their format (`timestamp_witness`)
* `ambiguousEmpty env t v = false`   the documented exception (`ambiguous_empty_witness`)
* `ExtLaws E env`                    base64 round trip, irreflexivity of float `<`, reflexivity of `==` on
                                     declared defaults (decidable as `dfltsReflB`)
-/
namespace StoneVerif.C04
open StoneVerif.Rt StoneVerif.Rt.RoundTrip

/-- **C04, helper level.** Decoding the wire form of a valid value succeeds, in both modes, and yields a value
equal (Python `==`) to the original. -/
theorem decode_wire (E : Ext) (env : Env) (hwf : envWF env = true) (hrt : envRT env = true) (hE : ExtLaws E env)
    (strict : Bool) (t : PTy) (v : PyVal)
    (htwf : tyWF env t = true) (hv : validB E env t v = true) (hn : normalB env t v = true)
    (hvw : valWF E env t v = true) (hamb : ambiguousEmpty env t v = false) :
    ∃ v', decode E env [] strict t (wire E env t v) = .ok v' ∧ pyEq E env v v' = true :=
  have g : Good E env t v := ⟨htwf, hv, hn, hvw, hamb⟩
  ⟨canon env t v, decode_wire_canon hwf hrt hE strict t v g, pyEq_canon hwf hrt hE t v g⟩

/-- **C04, entry point.** The same through `json_compat_obj_decode` (which validates primitives and top-level
lists / maps / nullables in addition). -/
theorem jsonCompatObjDecode_wire (E : Ext) (env : Env) (hwf : envWF env = true) (hrt : envRT env = true)
    (hE : ExtLaws E env) (strict : Bool) (t : PTy) (v : PyVal)
    (htwf : tyWF env t = true) (hv : validB E env t v = true) (hn : normalB env t v = true)
    (hvw : valWF E env t v = true) (hamb : ambiguousEmpty env t v = false) :
    ∃ v', jsonCompatObjDecode E env [] strict t (wire E env t v) = .ok v' ∧ pyEq E env v v' = true :=
  have g : Good E env t v := ⟨htwf, hv, hn, hvw, hamb⟩
  ⟨canon env t v, jsonCompatObjDecode_wire_canon hwf hrt hE strict t v g, pyEq_canon hwf hrt hE t v g⟩

/-- **C04, complete statement.** One decoded value `v'` is returned by both entry points in both modes, it is
equal to the original, it passes the validator, it is again valid and in stored-normal form (so C05's
`encode_eq_wire` applies to it), and serialising it gives the same JSON again (so a second round trip changes
nothing). `v'` is the canonical form `canon env t v`. -/
theorem round_trip (E : Ext) (env : Env) (hwf : envWF env = true) (hrt : envRT env = true) (hE : ExtLaws E env)
    (t : PTy) (v : PyVal)
    (htwf : tyWF env t = true) (hv : validB E env t v = true) (hn : normalB env t v = true)
    (hvw : valWF E env t v = true) (hamb : ambiguousEmpty env t v = false) :
    ∃ v', (∀ strict, decode E env [] strict t (wire E env t v) = .ok v') ∧
      (∀ strict, jsonCompatObjDecode E env [] strict t (wire E env t v) = .ok v') ∧
      pyEq E env v v' = true ∧
      validate E env t v' = .ok v' ∧
      validB E env t v' = true ∧ normalB env t v' = true ∧
      wire E env t v' = wire E env t v :=
  have g : Good E env t v := ⟨htwf, hv, hn, hvw, hamb⟩
  ⟨canon env t v, fun strict => decode_wire_canon hwf hrt hE strict t v g,
    fun strict => jsonCompatObjDecode_wire_canon hwf hrt hE strict t v g,
    pyEq_canon hwf hrt hE t v g, validate_canon hwf hrt t v g,
    (canon_valid hwf hrt t v g).1, (canon_valid hwf hrt t v g).2, wire_canon hwf hrt t v g⟩

/-- **C04 in the words of the property**, given the encoder theorem of C05 for the type at hand
(`henc` is `C05.encode_eq_wire E env hwf hchain t · false htwf`): encoding a valid value succeeds with some
JSON `j`; decoding `j` (either entry point, either mode) yields a value equal to the original; and encoding
that result yields `j` again. -/
theorem encode_decode_encode (E : Ext) (env : Env) (hwf : envWF env = true) (hrt : envRT env = true)
    (hE : ExtLaws E env) (t : PTy) (v : PyVal)
    (htwf : tyWF env t = true) (hv : validB E env t v = true) (hn : normalB env t v = true)
    (hvw : valWF E env t v = true) (hamb : ambiguousEmpty env t v = false)
    (henc : ∀ w, validB E env t w = true → normalB env t w = true →
      encode E env [] false false t w = .ok (wire E env t w)) :
    ∃ j v', encode E env [] false false t v = .ok j ∧
      (∀ strict, decode E env [] strict t j = .ok v') ∧
      (∀ strict, jsonCompatObjDecode E env [] strict t j = .ok v') ∧
      pyEq E env v v' = true ∧
      encode E env [] false false t v' = .ok j := by
  obtain ⟨v', h1, h2, h3, _, h5, h6, h7⟩ := round_trip E env hwf hrt hE t v htwf hv hn hvw hamb
  exact ⟨wire E env t v, v', henc v hv hn, h1, h2, h3, by rw [henc v' h5 h6, h7]⟩

/-- Stability on its own: whatever a decoder returns for the wire form serialises to the same JSON. -/
theorem wire_stable (E : Ext) (env : Env) (hwf : envWF env = true) (hrt : envRT env = true) (hE : ExtLaws E env)
    (strict : Bool) (t : PTy) (v v' : PyVal)
    (htwf : tyWF env t = true) (hv : validB E env t v = true) (hn : normalB env t v = true)
    (hvw : valWF E env t v = true) (hamb : ambiguousEmpty env t v = false)
    (hdec : decode E env [] strict t (wire E env t v) = .ok v') :
    wire E env t v' = wire E env t v := by
  have g : Good E env t v := ⟨htwf, hv, hn, hvw, hamb⟩
  rw [decode_wire_canon hwf hrt hE strict t v g] at hdec
  cases hdec
  exact wire_canon hwf hrt t v g

/-! ## Non-vacuity: a concrete environment with inheritance, an enumerated-subtypes tree, and a union with
void / primitive / nullable / struct / nullable-struct / list / union / tree members and a catch-all. -/

def E0 : Ext where
  fltLt a b := a < b
  fltIsNan _ := false
  fltIsInf _ := false
  fltOfInt n := some n.toNat
  patMatch _ _ := true
  b64enc h := h
  b64dec s := some (some s)
  strftime _ _ := "t"
  strptime _ _ := some 3          -- only the timestamp with id 3 is representable
  md5 s := s
  reSearch _ _ := none
  strOfInt _ := ""
  strOfFlt _ := ""

def i32 : PTy := .int {} "Int32" (-2147483648) 2147483647
def nul : Flags := { nullable := true }
def lBase : Level := ⟨"ns.Base", [⟨"a", i32, false, false, none, none⟩,
  ⟨"b", .str nul none none none, true, false, none, none⟩]⟩
def lDer : Level := ⟨"ns.Derived", [
  ⟨"c", .list {} (.float {} "Float64" none none) none none, false, false, none, none⟩,
  ⟨"d", i32, false, false, some (.int 7), none⟩,
  ⟨"e", .struct nul "ns.Opt", true, true, none, none⟩,
  ⟨"t", .ts {} "%Y", false, false, none, none⟩,
  ⟨"m", .map {} (.str {} none none none) (.bytes {}), false, false, none, none⟩]⟩
def lOpt : Level := ⟨"ns.Opt", [⟨"x", .int nul "Int32" (-2147483648) 2147483647, true, false, none, none⟩]⟩
def lRoot : Level := ⟨"ns.Root", [⟨"r", i32, false, false, none, none⟩]⟩
def lLeaf : Level := ⟨"ns.Leaf", [⟨"l", .str {} none none none, false, false, none, none⟩]⟩

def env0 : Env where
  structs := [⟨"ns.Base", [lBase], none, false⟩, ⟨"ns.Derived", [lBase, lDer], none, false⟩,
    ⟨"ns.Opt", [lOpt], none, false⟩,
    ⟨"ns.Root", [lRoot], some [(["leaf"], "ns.Leaf", false)], false⟩,
    ⟨"ns.Leaf", [lRoot, lLeaf], none, false⟩]
  unions := [
    ⟨"ns.V", [⟨"ns.V", [⟨"a", .void {}, none⟩, ⟨"b", .str {} none none none, none⟩]⟩], none⟩,
    ⟨"ns.U", [⟨"ns.U", [⟨"v", .void {}, none⟩, ⟨"i", i32, none⟩, ⟨"ni", .int nul "Int32" 0 10, none⟩,
       ⟨"s", .struct {} "ns.Derived", none⟩, ⟨"no", .struct nul "ns.Opt", none⟩,
       ⟨"l", .list {} (.struct {} "ns.Opt") none none, none⟩, ⟨"uu", .union {} "ns.V", none⟩,
       ⟨"t", .tree {} "ns.Root", none⟩, ⟨"other", .void {}, none⟩]⟩], some "other"⟩]

/-- an instance of a struct that extends another: inherited field, list of floats, unset defaulted field,
all-optional struct member, timestamp, map of bytes -/
def vDer : PyVal := .struct "ns.Derived" [("a", .int 5), ("c", .list [.flt 3, .flt 4]), ("e", .struct "ns.Opt" []),
  ("t", .ts 3 true), ("m", .dict [(.str "k", .bytes "00ff")])]
def tU : PTy := .union {} "ns.U"
/-- a list of union values covering every kind of member -/
def tUs : PTy := .list {} tU none none
def vUs : PyVal := .list [.union "ns.U" "s" vDer, .union "ns.U" "v" .none, .union "ns.U" "i" (.bool true),
  .union "ns.U" "ni" .none, .union "ns.U" "ni" (.int 3), .union "ns.U" "no" .none,
  .union "ns.U" "no" (.struct "ns.Opt" [("x", .int 1)]),
  .union "ns.U" "l" (.list [.struct "ns.Opt" [], .struct "ns.Opt" [("x", .int 1)]]),
  .union "ns.U" "uu" (.union "ns.V" "b" (.str "q")), .union "ns.U" "uu" (.union "ns.V" "a" .none),
  .union "ns.U" "t" (.struct "ns.Leaf" [("r", .int 1), ("l", .str "z")])]

theorem E0_laws : ExtLaws E0 env0 :=
  ⟨fun _ => rfl, fun x => by simp [E0], dflt_refl_of_dfltsReflB (by decide +kernel)⟩

example : envWF env0 = true ∧ envRT env0 = true := by decide +kernel

theorem vUs_good : tyWF env0 tUs = true ∧ validB E0 env0 tUs vUs = true ∧ normalB env0 tUs vUs = true ∧
    valWF E0 env0 tUs vUs = true ∧ ambiguousEmpty env0 tUs vUs = false := by decide +kernel

example : ∀ strict, (match decode E0 env0 [] strict tUs (wire E0 env0 tUs vUs),
      jsonCompatObjDecode E0 env0 [] strict tUs (wire E0 env0 tUs vUs) with
    | .ok v', .ok v'' => pyEq E0 env0 vUs v' && pyEq E0 env0 vUs v'' && !pyEq E0 env0 vUs (.list [])
    | _, _ => false) = true := by decide +kernel

/-- the code-following encoder feeding the decoder on the same value (what C05 ∘ C04 says) -/
example : ∀ strict, (match encode E0 env0 [] false false tUs vUs with
    | .ok j => (match decode E0 env0 [] strict tUs j with
      | .ok v' => pyEq E0 env0 vUs v'
      | .error _ => false)
    | .error _ => false) = true := by decide +kernel

example : ∃ v', (∀ strict, decode E0 env0 [] strict tUs (wire E0 env0 tUs vUs) = .ok v') ∧
    (∀ strict, jsonCompatObjDecode E0 env0 [] strict tUs (wire E0 env0 tUs vUs) = .ok v') ∧
    pyEq E0 env0 vUs v' = true ∧ validate E0 env0 tUs v' = .ok v' ∧
    validB E0 env0 tUs v' = true ∧ normalB env0 tUs v' = true ∧ wire E0 env0 tUs v' = wire E0 env0 tUs vUs :=
  round_trip E0 env0 (by decide +kernel) (by decide +kernel) E0_laws tUs vUs
    vUs_good.1 vUs_good.2.1 vUs_good.2.2.1 vUs_good.2.2.2.1 vUs_good.2.2.2.2

/-! ## The hypotheses are necessary: witnesses (each replayable on the Python) -/

def roundTrips (E : Ext) (env : Env) (strict : Bool) (t : PTy) (v : PyVal) : Bool :=
  match decode E env [] strict t (wire E env t v) with
  | .ok v' => pyEq E env v v'
  | .error _ => false

/-- The documented exception (json_serializer.rst): a union member of nullable struct type carrying an instance
with no field set serialises as the bare tag and deserialises as `None`: `U.no(Opt())` comes back as `U.no(None)`. -/
theorem ambiguous_empty_witness :
    let v := PyVal.union "ns.U" "no" (.struct "ns.Opt" [])
    validB E0 env0 tU v = true ∧ normalB env0 tU v = true ∧ valWF E0 env0 tU v = true ∧
    ambiguousEmpty env0 tU v = true ∧
    (∀ strict, (match decode E0 env0 [] strict tU (wire E0 env0 tU v) with
      | .ok (.union _ "no" .none) => true
      | _ => false) = true) ∧
    (∀ strict, roundTrips E0 env0 strict tU v = false) := by decide +kernel

/-- The catch-all tag is a valid value of the union but cannot be sent: the decoder refuses it. -/
theorem catch_all_witness :
    let v := PyVal.union "ns.U" "other" .none
    validB E0 env0 tU v = true ∧ normalB env0 tU v = true ∧ ambiguousEmpty env0 tU v = false ∧
    valWF E0 env0 tU v = false ∧
    (∀ strict, (match decode E0 env0 [] strict tU (wire E0 env0 tU v) with
      | .ok _ => false
      | .error e => e.isVerr) = true) := by decide +kernel

/-- An instance of a subclass held where the parent class is declared is valid, but only the parent's fields are
serialised (documented in `Struct.validate_type_only`), so the decoded parent instance is not equal to it. -/
theorem subclass_witness :
    let t := PTy.struct {} "ns.Base"
    validB E0 env0 t vDer = true ∧ normalB env0 t vDer = true ∧ ambiguousEmpty env0 t vDer = false ∧
    valWF E0 env0 t vDer = false ∧
    (∀ strict, roundTrips E0 env0 strict t vDer = false) := by decide +kernel

/-- A timestamp that `strptime (strftime ·)` does not give back (e.g. microseconds under a format without `%f`). -/
theorem timestamp_witness :
    let t := PTy.ts {} "%Y"
    let v := PyVal.ts 4 true
    validB E0 env0 t v = true ∧ normalB env0 t v = true ∧ ambiguousEmpty env0 t v = false ∧
    valWF E0 env0 t v = false ∧
    (∀ strict, roundTrips E0 env0 strict t v = false) := by decide +kernel

def envAlias : Env where
  structs := [⟨"ns.S", [⟨"ns.S", [⟨"f", .int nul "Int32" (-2147483648) 2147483647, false, false, some (.int 5), none⟩]⟩],
    none, false⟩]
  unions := []

/-- `alias NI = Int32?` / `struct S` / `f NI = 5` (`envAlias`): the attribute is not nullable (the IR type is an alias),
the validator is, and the field has the default 5. `S()` reads `f == 5`, serialises as `{}`, and the decoder assigns
`get_default()` of the *validator* — `None` — so the decoded instance reads `f == None`. Accepted by the
compiler until f0802b6 (a spec error: C10 `default_type_shape`); `envRT` excludes it. -/
theorem nullable_alias_default_witness :
    let t := PTy.struct {} "ns.S"
    let v := PyVal.struct "ns.S" []
    envWF envAlias = true ∧ envRT envAlias = false ∧ dfltsReflB E0 envAlias = true ∧ tyWF envAlias t = true ∧
    validB E0 envAlias t v = true ∧ normalB envAlias t v = true ∧ valWF E0 envAlias t v = true ∧
    ambiguousEmpty envAlias t v = false ∧
    (∀ strict, (match decode E0 envAlias [] strict t (wire E0 envAlias t v) with
      | .ok (.struct "ns.S" [("f", .none)]) => true
      | _ => false) = true) ∧
    (∀ strict, roundTrips E0 envAlias strict t v = false) := by decide +kernel

end StoneVerif.C04
