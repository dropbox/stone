import StoneVerif.Lemmas.Order
/-!
# C12 -- code generation is deterministic

"Running any built-in backend on the same specs with the same arguments produces byte-identical files every time:
across separate processes with different hash seeds, into different output directories, and regardless of which
other specs or backends were run earlier in the same process."

What is proved. Two such runs differ only in (1) the order in which Python `set`s (and dicts filled from sets) hand out
their elements (string hashes, object addresses) and (2) class-level state left behind by an earlier run. For (1) the
models of `Model/Order.lean` take that order as a parameter `π`, and the theorems say that the text produced at each
site is the same for every `π` (`*_order_free`); where a site was order-dependent in the code and has been repaired, the
former form is kept as a regression model with two orders that give different text (`*_order_dependent`), and the repair
agrees with it wherever it was determined (`*_as_before`). `sites_covered` / `sort_sites_covered` tie the modelled sites
to the list the translator extracts from the source (`ex_setiter.py`): a new unordered iteration breaks the build. For
(2), `class_state_covered` pins the class-level containers, and the `*_history_free` theorems say when they cannot
influence the output.

What is NOT proved (observed by the byte comparison of `harness/suites/determinism.py` instead): that the models
are the code (correspondence runs on the modelled lines only), everything outside the modelled sites, the
behaviour of CPython's hashing and allocation, and that the dependency search of the route whitelist visits the
same *set* of types whatever order it follows (`whitelist_types_order_free_partial` assumes it).
-/
namespace StoneVerif.C12
open StoneVerif StoneVerif.Order

/-- every unsorted iteration over an unordered collection found in the generators is one of the modelled sites -/
theorem sites_covered : subsetB Tables.setIterSites modelledSites = true := by
  -- each extracted row is found as written among the modelled rows: `eq_self` closes the equation of two identical
  -- literals, so that no string is evaluated (slow)
  rw [subsetB_iff]
  simp only [Tables.setIterSites, List.forall_mem_cons, List.not_mem_nil, false_imp_iff, implies_true, and_true]
  simp only [modelledSites, List.mem_cons, eq_self, true_or, or_true, and_true]

/-- every `sorted(..)` / `.sort(..)` over an unordered collection has a classified key -/
theorem sort_sites_covered : subsetB Tables.setSortSites (modelledSortSites.map (·.1)) = true := by
  rw [subsetB_iff]
  simp only [Tables.setSortSites, List.forall_mem_cons, List.not_mem_nil, false_imp_iff, implies_true, and_true]
  simp only [modelledSortSites, callerKeySrc, List.map, List.mem_cons, eq_self, true_or, or_true, and_true]

/-- class attributes holding containers / objects that outlive a run -/
theorem class_state_covered : subsetB Tables.classMutableState modelledClassState = true := by
  rw [subsetB_iff]
  simp only [Tables.classMutableState, List.forall_mem_cons, List.not_mem_nil, false_imp_iff, implies_true, and_true]
  simp only [modelledClassState, List.mem_cons, eq_self, true_or, or_true, and_true]

/-- none of the class-level containers is ever iterated (for / comprehension / `.items()` .. / `list(..)` ..): whatever
order they were filled in cannot reach the text through them -/
theorem class_state_never_iterated :
    (Tables.classStateUses.all fun r => r.2.2.2.1 != "iterate") = true := by decide +kernel

/-- the class-level tables of the frontend are lookup-only: `IRGenerator._init_argspecs` (built once from the LIST
`data_types`) is only read with `.get(cls)`, `default_env` only `copy.copy`-ed -/
theorem frontend_class_state_lookup_only :
    Tables.classStateUses.filter (fun r => r.1 == "stone/frontend/ir_generator.py") =
      [("stone/frontend/ir_generator.py", "IRGenerator._get_or_create_env", "default_env", "other",
        "copy.copy(self.default_env)"),
       ("stone/frontend/ir_generator.py", "IRGenerator._instantiate_data_type", "_init_argspecs", "get", "")] := by decide +kernel

/-- the by-name dicts of `ApiNamespace` (whose insertion order can follow a set after whitelisting) are only used
for lookup; the single iteration is the one inside `get_imported_namespaces`, which sorts (`imports_order_free`) -/
theorem by_name_dicts_lookup_only :
    Tables.byNameDictIterations = [("stone/ir/api.py", "ApiNamespace.get_imported_namespaces", "_imported_namespaces")] := rfl

/-- no clock / pid / directory listing / `id()` / `hash()` / random source in the generators -/
theorem no_ambient_sources : Tables.ambientSources = [] := rfl

/-- both sorted sites of the stub's import block (#0 typing names, #1 ad-hoc statements) are in the extracted table;
dropping either `sorted(..)` moves the site into `Tables.setIterSites`, where nothing models it: `sites_covered` fails -/
theorem stub_import_sites_sorted :
    (Tables.setSortSites.filter fun r => r.1 == "stone/backends/python_type_stubs.py") =
      [("stone/backends/python_type_stubs.py", "PythonTypeStubsBackend._generate_imports_needed_for_typing", 0, ""),
       ("stone/backends/python_type_stubs.py", "PythonTypeStubsBackend._generate_imports_needed_for_typing", 1, "")] ∧
    (Tables.setIterSites.filter fun r => r.1 == "stone/backends/python_type_stubs.py") = [] := by decide +kernel

/-- the class-level `ImportTracker` is cleared at the start of every namespace module: no statement before the `clear()`
contains a call (`first-call`), so nothing can register an import, or raise, before it -/
theorem tracker_cleared : Tables.importTrackerClearSites =
    [("stone/backends/python_type_stubs.py", "PythonTypeStubsBackend._generate_base_namespace_module", "first-call")] := rfl

/-- a sort of strings by themselves forgets the order they arrived in (sites of key class `.strings`:
manifest outputs, Obj-C import lists and auth types, `from typing import (..)`, whitelisted type names) -/
theorem sorted_strings_order_free {π₁ π₂ : List String} (hp : π₁.Perm π₂) :
    sortBy id strLe π₁ = sortBy id strLe π₂ :=
  sortBy_eq_of_perm_of_inj strLe_totalLe hp (fun _ _ _ _ h => h)

theorem sorted_site_order_free {α : Type} (key : α → String) {π₁ π₂ : List α} (hp : π₁.Perm π₂)
    (hinj : ∀ a ∈ π₁, ∀ b ∈ π₁, key a = key b → a = b) : sortBy key strLe π₁ = sortBy key strLe π₂ :=
  sortBy_eq_of_perm_of_inj strLe_totalLe hp hinj

/-- stability: items with equal keys leave the sort in the order they arrived -- which is why a non-injective key
does not repair an unordered input -/
theorem sorted_site_keeps_ties {α : Type} (key : α → String) (k : String) (π : List α) :
    cls key k (sortBy key strLe π) = cls key k π :=
  cls_sortBy strLe_totalLe k π

example : sortBy id strLe ["b", "a", "c"] = ["a", "b", "c"] := by decide +kernel

/-- the per-caller tables (`_generate_struct_class_reflection_attributes`, `_generate_union_..`) are written in the same
order whatever order the caller set is iterated in, for EVERY set of callers: the key `(str(caller), caller is not None)`
tells `None` from a caller named `"None"` -/
theorem caller_loop_order_free {π₁ π₂ : List Caller} (hp : π₁.Perm π₂) :
    callerLoop π₁ = callerLoop π₂ :=
  sortBy_eq_of_perm_of_inj pairLe_totalLe hp (fun a _ b _ h => callerKey_inj a b h)

theorem struct_tables_order_free {π₁ π₂ : List Caller} (hp : π₁.Perm π₂) :
    structTableNames π₁ = structTableNames π₂ := by
  unfold structTableNames; rw [caller_loop_order_free hp]

theorem union_tables_order_free {π₁ π₂ : List Caller} (hp : π₁.Perm π₂) :
    unionTableNames π₁ = unionTableNames π₂ := by
  unfold unionTableNames; rw [caller_loop_order_free hp]

example : callerLoop [some "beta", none, some "alpha"] = [none, some "alpha", some "beta"] := by decide +kernel
example : unionTableNames [some "beta", none, some "alpha"] = ["_tagmap", "_alpha_tagmap", "_beta_tagmap"] := by decide +kernel

/-- regression (the witness of the repaired defect, now correct): `Omitted("None")` -- the public tables come first in
both iteration orders -/
example : unionTableNames [none, some "None"] = ["_tagmap", "_None_tagmap"] ∧
    unionTableNames [some "None", none] = ["_tagmap", "_None_tagmap"] := by decide +kernel

/-- the repair changes no generated file that was determined before it: where no omitted caller is literally named
`"None"` the loop visits the callers in the order `sorted(.., key=str)` gave -/
theorem caller_loop_as_before (π : List Caller) (hnone : some "None" ∉ π) : callerLoop π = callerLoopStr π :=
  sortBy_lex_tie (le₂ := fun a b : Nat => decide (a ≤ b)) strLe_totalLe.refl natLe_totalLe.refl pyStr
    (fun c => if c.isSome then 1 else 0) π
    fun a ha b hb h => by rw [pyStr_inj hnone a ha b hb h]

/-- why the key had to change: with `key=str`, `str(None) == str("None")`, so a caller named `None` tied with the
public caller and the (stable) sort left the two in iteration order -/
theorem caller_loop_order_dependent :
    ∃ π₁ π₂ : List Caller, π₁.Perm π₂ ∧ callerLoopStr π₁ ≠ callerLoopStr π₂ :=
  ⟨[none, some "None"], [some "None", none], List.Perm.swap _ _ _, by decide +kernel⟩

/-- D15: the `_permissioned_tagmaps` line as it was (the set itself printed) has two possible texts for two omitted
callers; it is why `sort_sites_covered` insists on the `sorted(..)` site -/
theorem tagmaps_order_dependent :
    ∃ π₁ π₂ : List String, π₁.Perm π₂ ∧ π₁.Nodup ∧ tagmapsLine "U" π₁ ≠ tagmapsLine "U" π₂ :=
  ⟨["alpha", "beta"], ["beta", "alpha"], List.Perm.swap _ _ _, by decide +kernel, by decide +kernel⟩

theorem tagmaps_order_free_small (cls : String) {π₁ π₂ : List String} (hp : π₁.Perm π₂) (h : π₁.length ≤ 1) :
    tagmapsLine cls π₁ = tagmapsLine cls π₂ := by
  have : π₁ = π₂ :=
    match π₁, h, hp with
    | [], _, hp => hp.nil_eq
    | [_], _, hp => List.singleton_perm.1 hp
  rw [this]

theorem tagmaps_sorted_order_free (cls : String) {π₁ π₂ : List String} (hp : π₁.Perm π₂) :
    tagmapsLineSorted cls π₁ = tagmapsLineSorted cls π₂ := by
  unfold tagmapsLineSorted; rw [sorted_strings_order_free hp]

example : tagmapsLine "U" ["alpha", "beta"] = ["U._permissioned_tagmaps = {'alpha', 'beta'}"] := by decide +kernel
example : tagmapsLine "U" [] = [] := by decide +kernel

/-- `remaining_annotations` does not depend on the iteration order of the set difference.
`hid`: an annotation is identified by its namespace and name (what the frontend guarantees: `annotation_by_name`). -/
theorem remaining_order_free {πr₁ πr₂ : List (String × Ann)} (hr : πr₁.Perm πr₂)
    (hid : ∀ a ∈ πr₁, ∀ b ∈ πr₁, a.2.key = b.2.key → a.2 = b.2) : remaining πr₁ = remaining πr₂ := by
  unfold remaining
  apply sortBy_eq_of_perm_of_inj strPairLe_totalLe (hr.map _)
  intro a ha b hb h
  obtain ⟨x, hx, rfl⟩ := List.mem_map.mp ha
  obtain ⟨y, hy, rfl⟩ := List.mem_map.mp hb
  exact hid x hx y hy h

/-- One activation of `_generate_custom_annotation_processors` maps class-equal inputs to class-equal outputs (the
induction step over lists, maps and enumerated subtypes); classes by the sort key `(annotation type name, its
namespace)`. The only hypothesis is `hid`: same-named annotation types of two namespaces and several annotations of
one type along an alias chain are covered. -/
theorem procsOf_classEq (ns : String) (k : Kind) {inner₁ inner₂ : List Proc} {πd₁ πd₂ πr₁ πr₂ : List (String × Ann)}
    (extras : List Ann)
    (hin : ClassEq Proc.key inner₁ inner₂) (hd : πd₁.Perm πd₂) (hr : πr₁.Perm πr₂)
    (hid : ∀ a ∈ πr₁, ∀ b ∈ πr₁, a.2.key = b.2.key → a.2 = b.2) :
    ClassEq Proc.key (procsOf ns k inner₁ πd₁ πr₁ extras) (procsOf ns k inner₂ πd₂ πr₂ extras) := by
  unfold procsOf
  apply ClassEq.append
  · apply ClassEq.append
    · cases k with
      | prim => exact ClassEq.refl _
      | composite =>
        apply ClassEq.dedupTy
        apply classEq_of_perm_of_inj (hd.map _)
        intro p hp q hq hpq
        obtain ⟨a, ha, rfl⟩ := List.mem_map.mp hp
        obtain ⟨b, hb, rfl⟩ := List.mem_map.mp hq
        have h1 : a.2.tyName = b.2.tyName := congrArg Prod.fst hpq
        have h2 : a.2.tyNs = b.2.tyNs := congrArg Prod.snd hpq
        simp only [structProc, h1, h2]
      | subtypes => exact ClassEq.dedupTy hin
      | list => exact ClassEq.map _ (wrapProc_key _) hin
      | map => exact ClassEq.map _ (wrapProc_key _) hin
    · rw [remaining_order_free hr hid]
      exact ClassEq.refl _
  · exact ClassEq.refl _

/-- the `if annotation_type is ..:` blocks emitted for one field do not depend on the iteration order of
`recursive_custom_annotations` (at any depth: `hin` is what this theorem gives for the nested activation) -/
theorem field_procs_order_free (ns : String) (k : Kind) {inner₁ inner₂ : List Proc}
    {πd₁ πd₂ πr₁ πr₂ : List (String × Ann)} (extras : List Ann)
    (hin : ClassEq Proc.key inner₁ inner₂) (hd : πd₁.Perm πd₂) (hr : πr₁.Perm πr₂)
    (hid : ∀ a ∈ πr₁, ∀ b ∈ πr₁, a.2.key = b.2.key → a.2 = b.2) :
    emitProcs ns (procsOf ns k inner₁ πd₁ πr₁ extras) = emitProcs ns (procsOf ns k inner₂ πd₂ πr₂ extras) := by
  unfold emitProcs
  rw [sortBy_congr strPairLe_totalLe (procsOf_classEq ns k extras hin hd hr hid)]

/-- annotation of type `Meta` on a field of a struct reached directly, `Note` on the alias the field is typed with -/
example : emitProcs "a" (procsOf "a" .composite [] [("S.x", ⟨"a", "Meta", "Meta(x='one')", "a", "M1"⟩)]
      [("A", ⟨"a", "Note", "Note()", "a", "N"⟩)] []) =
    [("Meta", "bb.make_struct_annotation_processor(Meta, processor)"), ("Note", "bb.partially_apply(processor, Note())")] := by
  decide +kernel

/-- regression (witness of a repaired defect, now correct): two annotations of one annotation type along an alias chain
(`alias A1 = String @M1`, `alias A2 = A1 @M2`, field `f A2`) -- the two `partially_apply` lines come in the order of the
annotations' names in both iteration orders of the set -/
example :
    emitProcs "a" (procsOf "a" .prim [] [] [("A1", ⟨"a", "Meta", "Meta(x='one')", "a", "M1"⟩),
      ("A2", ⟨"a", "Meta", "Meta(x='two')", "a", "M2"⟩)] []) =
      [("Meta", "bb.partially_apply(processor, Meta(x='one'))"), ("Meta", "bb.partially_apply(processor, Meta(x='two'))")] ∧
    emitProcs "a" (procsOf "a" .prim [] [] [("A2", ⟨"a", "Meta", "Meta(x='two')", "a", "M2"⟩),
      ("A1", ⟨"a", "Meta", "Meta(x='one')", "a", "M1"⟩)] []) =
      [("Meta", "bb.partially_apply(processor, Meta(x='one'))"), ("Meta", "bb.partially_apply(processor, Meta(x='two'))")] := by
  decide +kernel

/-- regression (witness of a repaired defect, now correct): annotation types of the same name defined in two namespaces,
both met inside one struct -- `a.Meta` before `b.Meta` in both iteration orders -/
example :
    emitProcs "c" (procsOf "c" .composite [] [("T.x", ⟨"a", "Meta", "a.Meta(x='one')", "c", "M1"⟩),
      ("T.y", ⟨"b", "Meta", "b.Meta(x='two')", "c", "M2"⟩)] [] []) =
      [("a.Meta", "bb.make_struct_annotation_processor(a.Meta, processor)"),
       ("b.Meta", "bb.make_struct_annotation_processor(b.Meta, processor)")] ∧
    emitProcs "c" (procsOf "c" .composite [] [("T.y", ⟨"b", "Meta", "b.Meta(x='two')", "c", "M2"⟩),
      ("T.x", ⟨"a", "Meta", "a.Meta(x='one')", "c", "M1"⟩)] [] []) =
      [("a.Meta", "bb.make_struct_annotation_processor(a.Meta, processor)"),
       ("b.Meta", "bb.make_struct_annotation_processor(b.Meta, processor)")] := by
  decide +kernel

/-- why `remaining_annotations` had to be sorted: yielded in the iteration order of the set difference
(`procsOfUnsorted`), two annotations of one annotation type tie on every key that looks at the type only, and the
emitted order of the two `partially_apply` lines follows the set -/
theorem procs_order_dependent_same_type :
    ∃ πr₁ πr₂ : List (String × Ann), πr₁.Perm πr₂ ∧ πr₁.Nodup ∧
      emitProcs "a" (procsOfUnsorted "a" .prim [] [] πr₁ []) ≠ emitProcs "a" (procsOfUnsorted "a" .prim [] [] πr₂ []) :=
  ⟨[("A1", ⟨"a", "Meta", "Meta(x='one')", "a", "M1"⟩), ("A2", ⟨"a", "Meta", "Meta(x='two')", "a", "M2"⟩)],
   [("A2", ⟨"a", "Meta", "Meta(x='two')", "a", "M2"⟩), ("A1", ⟨"a", "Meta", "Meta(x='one')", "a", "M1"⟩)],
   List.Perm.swap _ _ _, by decide +kernel, by decide +kernel⟩

/-- why the sort key had to include the namespace: sorted by the annotation type's NAME only (`emitProcsByName`),
annotation types of the same name defined in two namespaces, both met inside one struct, tie and follow the set -/
theorem procs_order_dependent_same_name :
    ∃ πd₁ πd₂ : List (String × Ann), πd₁.Perm πd₂ ∧ πd₁.Nodup ∧
      emitProcsByName "c" (procsOf "c" .composite [] πd₁ [] []) ≠ emitProcsByName "c" (procsOf "c" .composite [] πd₂ [] []) :=
  ⟨[("T.x", ⟨"a", "Meta", "a.Meta(x='one')", "c", "M1"⟩), ("T.y", ⟨"b", "Meta", "b.Meta(x='two')", "c", "M2"⟩)],
   [("T.y", ⟨"b", "Meta", "b.Meta(x='two')", "c", "M2"⟩), ("T.x", ⟨"a", "Meta", "a.Meta(x='one')", "c", "M1"⟩)],
   List.Perm.swap _ _ _, by decide +kernel, by decide +kernel⟩

/-- the new sort key changes nothing where the old one decided: when no two processors of a field belong to different
annotation types of the same name, sorting by `(name, namespace)` gives what sorting by `name` gave -/
theorem emit_procs_as_before (ns : String) (l : List Proc)
    (h : ∀ p ∈ l, ∀ q ∈ l, p.tyName = q.tyName → p.tyNs = q.tyNs) : emitProcs ns l = emitProcsByName ns l :=
  congrArg (List.map _) (sortBy_lex_tie strLe_totalLe.refl strLe_totalLe.refl Proc.tyName Proc.tyNs l h)

/-- the step of the fold in `addAnnotationTypeImports`; on the entries of one namespace it is `bump`, so steps commute
up to `ClassEq` -/
def impStep (self : String) (st : Imports) (n : String) : Imports :=
  if n != self then addImported st n { annotationType := true } else st

theorem addAnnotationTypeImports_eq (self : String) (st : Imports) (π : List String) :
    addAnnotationTypeImports self st π = π.foldl (impStep self) st := rfl

theorem cls_impStep (self : String) (st : Imports) (n k : String) :
    cls Prod.fst k (impStep self st n) =
      if n ≠ self ∧ n = k then bump { annotationType := true } n (cls Prod.fst k st) else cls Prod.fst k st := by
  unfold impStep
  by_cases hn : n = self
  · simp [hn]
  · have : (n != self) = true := by simp [hn]
    rw [if_pos this, cls_addImported]
    simp [hn]

theorem impStep_congr (self n : String) {st₁ st₂ : Imports} (h : ClassEq Prod.fst st₁ st₂) :
    ClassEq Prod.fst (impStep self st₁ n) (impStep self st₂ n) := by
  intro k; rw [cls_impStep, cls_impStep, h k]

theorem impStep_swap (self x y : String) (st : Imports) :
    ClassEq Prod.fst (impStep self (impStep self st x) y) (impStep self (impStep self st y) x) := by
  intro k
  simp only [cls_impStep]
  by_cases h1 : x ≠ self ∧ x = k <;> by_cases h2 : y ≠ self ∧ y = k
  · obtain ⟨_, rfl⟩ := h1
    obtain ⟨_, rfl⟩ := h2
    rfl
  · simp [h1, h2]
  · simp [h1, h2]
  · simp [h1, h2]

theorem addAnnotationTypeImports_classEq (self : String) {π₁ π₂ : List String} (hp : π₁.Perm π₂) :
    ∀ st₁ st₂ : Imports, ClassEq Prod.fst st₁ st₂ →
      ClassEq Prod.fst (addAnnotationTypeImports self st₁ π₁) (addAnnotationTypeImports self st₂ π₂) :=
  ClassEq.foldl_perm (fun n _ _ => impStep_congr self n) (fun x y st => impStep_swap self x y st) hp

/-- `get_imported_namespaces(..)` (any flags) does not depend on the order in which the loop at the end of
`_populate_recursive_custom_annotations` meets the annotations -/
theorem imports_order_free (self : String) (st : Imports) (m a t : Bool) {π₁ π₂ : List String} (hp : π₁.Perm π₂) :
    importedNamespaces m a t (addAnnotationTypeImports self st π₁) =
      importedNamespaces m a t (addAnnotationTypeImports self st π₂) := by
  unfold importedNamespaces
  rw [sortBy_congr strLe_totalLe ((addAnnotationTypeImports_classEq self hp st st (ClassEq.refl _)).filter _)]

theorem import_lines_order_free (package self : String) (st : Imports) {π₁ π₂ : List String} (hp : π₁.Perm π₂) :
    importLines package self st π₁ = importLines package self st π₂ := by
  unfold importLines; rw [imports_order_free self st false false true hp]

example : importLines "pkg" "a" [("c", { dataType := true })] ["z", "a", "b", "z"] =
    ["from pkg import b", "from pkg import c", "from pkg import z"] := by decide +kernel

/-- `get_namespaces_imported_by_route_io` -/
theorem route_io_namespaces_order_free {ρ₁ ρ₂ : List String} (hp : ρ₁.Perm ρ₂) :
    routeIoNamespaces ρ₁ = routeIoNamespaces ρ₂ :=
  sorted_strings_order_free hp

/-- `get_route_io_data_types` when no two referenced types share a bare name -/
theorem route_io_types_order_free {π₁ π₂ : List TyRef} (hp : π₁.Perm π₂)
    (hinj : ∀ a ∈ π₁, ∀ b ∈ π₁, a.2 = b.2 → a = b) : routeIoTypes π₁ = routeIoTypes π₂ :=
  sorted_site_order_free _ hp hinj

theorem route_io_foreign_members (self : String) {π₁ π₂ : List TyRef} (hp : π₁.Perm π₂) (x : String) :
    x ∈ routeIoForeign self π₁ ↔ x ∈ routeIoForeign self π₂ := by
  unfold routeIoForeign routeIoTypes
  simp only [List.mem_map, List.mem_filter, mem_sortBy, hp.mem_iff]

/-- hence `get_namespaces_imported_by_route_io` is order-free end to end, same-named types or not -/
theorem route_io_namespaces_end_to_end (self : String) {π₁ π₂ : List TyRef} {ρ₁ ρ₂ : List String} (hp : π₁.Perm π₂)
    (h₁ : SetOrder ρ₁ (routeIoForeign self π₁)) (h₂ : SetOrder ρ₂ (routeIoForeign self π₂)) :
    routeIoNamespaces ρ₁ = routeIoNamespaces ρ₂ :=
  route_io_namespaces_order_free (SetOrder.perm h₁ h₂ (route_io_foreign_members self hp))

/-- order-dependent for same-named types of two namespaces (the bare name is the key): with `route r(x.T, y.T, Void)` in
namespace `m`, `m.get_route_io_data_types()` returns `x.T`, `y.T` in set (address) order -- observed on the real code.
NOT reachable from a built-in backend: the only caller inside stone is `get_namespaces_imported_by_route_io`, which is
order-free whatever the names (`route_io_namespaces_end_to_end`). -/
theorem route_io_types_order_dependent :
    ∃ π₁ π₂ : List TyRef, π₁.Perm π₂ ∧ π₁.Nodup ∧ routeIoTypes π₁ ≠ routeIoTypes π₂ :=
  ⟨[("a", "T"), ("b", "T")], [("b", "T"), ("a", "T")], List.Perm.swap _ _ _, by decide +kernel, by decide +kernel⟩

/-- `namespace.data_types` after `list(set(..))` and `normalize` depends only on which types were collected.
PARTIAL: that the traversal orders of `_find_dependencies_recursive` collect the same *set* of types (`hsame`) is the
textbook fact about depth-first search with a visited set; it is assumed here, not proved (C20's closure theorems are
about that search), and observed by the byte comparison with whitelists. -/
theorem whitelist_types_order_free_partial {v₁ v₂ π₁ π₂ : List String}
    (hsame : ∀ x, x ∈ v₁ ↔ x ∈ v₂) (h₁ : SetOrder π₁ v₁) (h₂ : SetOrder π₂ v₂) :
    filterDataTypes π₁ = filterDataTypes π₂ :=
  sorted_strings_order_free (SetOrder.perm h₁ h₂ hsame)

/-- `namespace.routes` after the filter: the route names pass through two sets (`output_routes_by_ns[..]`, iterated
in the order `out`, and `set(whitelisted_route_reprs + output_route_reprs)`, iterated in the order `π`) and are
sorted by `(name, version)` at the end -/
theorem whitelist_routes_order_free (lookup : String → String × Nat) (wl : List String)
    {out₁ out₂ : List (String × Nat)} {π₁ π₂ : List String} (hout : out₁.Perm out₂)
    (h₁ : SetOrder π₁ (wl ++ out₁.map routeRepr)) (h₂ : SetOrder π₂ (wl ++ out₂.map routeRepr)) :
    filterRoutes lookup π₁ = filterRoutes lookup π₂ := by
  unfold filterRoutes
  refine sortBy_eq_of_perm_of_inj pairLe_totalLe ((SetOrder.perm h₁ h₂ fun x => ?_).map _) (fun _ _ _ _ h => h)
  simp only [List.mem_append, (hout.map routeRepr).mem_iff]

example : filterRoutes (fun s => if s = "b:2" then ("b", 2) else (s, 1)) ["b:2", "c", "a"] =
    [("a", 1), ("b", 2), ("c", 1)] := by decide +kernel
example : SetOrder (dedup ["x", "y", "x"]) ["x", "y", "x"] := setOrder_dedup _

theorem typing_imports_order_free {π₁ π₂ : List String} (hp : π₁.Perm π₂) :
    typingImportLines π₁ = typingImportLines π₂ := by
  unfold typingImportLines
  rw [hp.isEmpty_eq, sorted_strings_order_free hp]

/-- the ad-hoc import statements of a stub (`import datetime`, `from <package> import <namespace>` for namespaces reached
only through an alias or an inherited field) are emitted sorted, for ANY set of registered statements -/
theorem adhoc_order_free {π₁ π₂ : List String} (hp : π₁.Perm π₂) : adhocImportLines π₁ = adhocImportLines π₂ := by
  unfold adhocImportLines
  rw [hp.isEmpty_eq, sorted_strings_order_free hp]

/-- regression (now correct): the date import and two indirectly reached namespaces, registered in two orders -/
example :
    adhocImportLines ["import datetime", "from pk import d  # type: ignore", "from pk import c  # type: ignore"] =
      ["", "from pk import c  # type: ignore", "from pk import d  # type: ignore", "import datetime"] ∧
    adhocImportLines ["from pk import c  # type: ignore", "import datetime", "from pk import d  # type: ignore"] =
      ["", "from pk import c  # type: ignore", "from pk import d  # type: ignore", "import datetime"] := by decide +kernel

example : adhocImportLines [] = [] := by decide +kernel

theorem adhoc_lines_spec (π : List String) (h : π ≠ []) : adhocImportLines π = "" :: sortBy id strLe π := by
  unfold adhocImportLines
  cases π with
  | nil => exact absurd rfl h
  | cons a t => rfl

/-- why the statements had to be sorted once a second one could be registered: emitted in set order
(`adhocImportLinesUnsorted`, the code before the stub repair) two statements show the order -/
theorem adhoc_unsorted_order_dependent :
    ∃ π₁ π₂ : List String, π₁.Perm π₂ ∧ π₁.Nodup ∧ adhocImportLinesUnsorted π₁ ≠ adhocImportLinesUnsorted π₂ :=
  ⟨["import datetime", "from pk import c"], ["from pk import c", "import datetime"], List.Perm.swap _ _ _,
    by decide +kernel, by decide +kernel⟩

/-- up to one registered statement the sort changes nothing: stubs that needed only `import datetime` are as before -/
theorem adhoc_as_before (π : List String) (h : π.length ≤ 1) : adhocImportLines π = adhocImportLinesUnsorted π := by
  match π, h with
  | [], _ => rfl
  | [x], _ => rfl

/-- a class-level cache keyed by type name (`obj_name_to_namespace`), rewritten for every data type of the current api
before it is read, answers about a current type as a fresh cache would -/
theorem class_cache_history_free (writes old : Cache) (k : String) (hk : k ∈ writes.map (·.1)) :
    lookup (overlay writes old) k = lookup (overlay writes []) k := by
  rw [overlay_eq, overlay_eq]
  exact lookup_foldl_writeStep k writes old [] (.inl hk)

example : lookup (overlay [("Foo", "DBA")] [("Foo", "DBOLD"), ("Bar", "DBB")]) "Foo" = some "DBA" := by decide +kernel

/-- with `clear()` at the start of every module, the import block of a module depends on its own registrations only
(neither on the modules generated before it nor on earlier runs in the process) -/
theorem tracker_history_free (cur₁ cur₂ : List String) (mods : List (List String)) :
    trackerRun true cur₁ mods = trackerRun true cur₂ mods := by
  cases mods with
  | nil => rfl
  | cons r rest => simp only [trackerRun, trackerStep, if_true, List.nil_append]

/-- `clear()` moved to the end of the module is NOT equivalent: it is skipped when a build is aborted inside a module
(any backend exception), and what that build registered leaks into the first module of the next build in the process.
(`tracker_history_free` covers this situation for the clear-first form: its `cur₁` is arbitrary.) -/
theorem tracker_late_clear_depends_on_aborted_build :
    (trackerRunLate [] [(["List"], false), (["Text"], true)]).drop 1 ≠ trackerRunLate [] [(["Text"], true)] := by decide +kernel

/-- as long as every module completes the late clear goes unnoticed -- which is why only a history with an aborted
build can observe it -/
theorem tracker_late_clear_unnoticed_without_abort :
    (trackerRunLate [] [(["List"], true), (["Text"], true)]).drop 1 = trackerRunLate [] [(["Text"], true)] := by decide +kernel

/-- without it the class-level tracker carries names over (from the previous module, or the previous run) -/
theorem tracker_without_clear_depends_on_history :
    trackerRun false [] [["Text"]] ≠ trackerRun false ["List"] [["Text"]] := by decide +kernel

/-- position by position permutations of each other (`List.Forall₂ List.Perm`) -/
inductive PermAll {α : Type} : List (List α) → List (List α) → Prop
  | nil : PermAll [] []
  | cons {a b : List α} {l₁ l₂ : List (List α)} : a.Perm b → PermAll l₁ l₂ → PermAll (a :: l₁) (b :: l₂)

theorem PermAll.flatMap_eq {α β : Type} {f : List α → List β} (hf : ∀ a b, a.Perm b → f a = f b)
    {l₁ l₂ : List (List α)} (h : PermAll l₁ l₂) : l₁.flatMap f = l₂.flatMap f := by
  induction h with
  | nil => rfl
  | cons hp _ ih => rw [List.flatMap_cons, List.flatMap_cons, hf _ _ hp, ih]

/-- the iteration orders a run picks at the modelled sites -/
structure SiteOrders where
  callers : List (List Caller)            -- one caller set per struct / union of the module
  annTypeNs : List String                 -- namespaces of the annotation types met in the namespace
  typing : List String                    -- stub: `cur_namespace_typing_imports`
  adhoc : List String                     -- stub: `cur_namespace_adhoc_imports`
  routes : List String                    -- whitelist: route names of the namespace
  types : List String                     -- whitelist: type names of the namespace

/-- two runs pick orders of the same sets -/
structure SiteOrders.Equiv (a b : SiteOrders) : Prop where
  callers : PermAll a.callers b.callers
  annTypeNs : a.annTypeNs.Perm b.annTypeNs
  typing : a.typing.Perm b.typing
  adhoc : a.adhoc.Perm b.adhoc
  routes : a.routes.Perm b.routes
  types : a.types.Perm b.types

/-- the text produced at the order-free sites (per-caller table names of every class, import lines, stub import
blocks, whitelisted routes and types) -/
def genSites (package self : String) (st : Imports) (lookup : String → String × Nat) (o : SiteOrders) : List String :=
  o.callers.flatMap unionTableNames ++ o.callers.flatMap structTableNames
  ++ importLines package self st o.annTypeNs
  ++ typingImportLines o.typing ++ adhocImportLines o.adhoc
  ++ (filterRoutes lookup o.routes).map routeRepr ++ filterDataTypes o.types

theorem gen_order_free (package self : String) (st : Imports) (lookup : String → String × Nat) {o₁ o₂ : SiteOrders}
    (he : o₁.Equiv o₂) : genSites package self st lookup o₁ = genSites package self st lookup o₂ := by
  unfold genSites
  have hr : filterRoutes lookup o₁.routes = filterRoutes lookup o₂.routes :=
    sortBy_eq_of_perm_of_inj pairLe_totalLe (he.routes.map _) (fun _ _ _ _ h => h)
  rw [he.callers.flatMap_eq fun _ _ => union_tables_order_free,
    he.callers.flatMap_eq fun _ _ => struct_tables_order_free,
    import_lines_order_free package self st he.annTypeNs, typing_imports_order_free he.typing,
    adhoc_order_free he.adhoc, hr,
    show filterDataTypes o₁.types = filterDataTypes o₂.types from sorted_strings_order_free he.types]

/-! "... into different output directories": a directory may already hold files (an earlier output, a copy whose line ends
were rewritten, stale files of the same names). `Model/Order.lean` models the one place every `Backend` writes a
generated file through (`output_to_relative_path`: `open(full_path, mode)` + `write`) on a directory given as
`path ↦ bytes`; the theorems say that every file opened with `wb` holds, after the run, exactly the promised bytes
whatever the directory held, and `fs_reads_pinned` / `output_modes_pinned` pin the list of places where the
generators look at the file system at all: a new "is it already there / unchanged?" test breaks the build.
NOT proved: that the model is the code (differential runs `order.outdir` of the harness and the byte comparison
into pre-populated directories), `shutil.copy` of resource files, the Swift backends' own writer (plain `open(.., "w")`). -/

/-- every place where the generators look at what the file system holds. Accounted for by hand:
* `Backend.output_to_relative_path`: `os.path.exists(directory)` guards `makedirs`; `open(full_path, mode)` with the
  modes of `output_modes_pinned` (`writeFile`);
* `Backend.copy_to_path` `isdir(dst)`: only selects the name recorded in the manifest;
* `Compiler.__init__` / `build`, `ObjCTypesBackend.generate`, `SwiftBaseBackend._write_output_in_target_folder`:
  existence tests of DIRECTORIES before creating them;
* tsd_client / tsd_types: the template, an input that lives in the output folder (`isfile` + read);
* obj_c_types / swift_types: the jazzy configuration (an input, `--documentation` only). -/
theorem fs_reads_pinned : Tables.fileSystemReads = [
    ("stone/backend.py", "Backend.copy_to_path", "path.isdir", "dst"),
    ("stone/backend.py", "Backend.output_to_relative_path", "open", "<mode: mode>"),
    ("stone/backend.py", "Backend.output_to_relative_path", "path.exists", "directory"),
    ("stone/backends/obj_c_types.py", "ObjCTypesBackend.generate", "open", "r"),
    ("stone/backends/obj_c_types.py", "ObjCTypesBackend.generate", "path.exists", "rsrc_output_folder"),
    ("stone/backends/swift.py", "SwiftBaseBackend._write_output_in_target_folder", "path.exists", "full_path"),
    ("stone/backends/swift_types.py", "SwiftTypesBackend._generate_jazzy_docs", "open", "r"),
    ("stone/backends/tsd_client.py", "TSDClientBackend.generate", "open", "r"),
    ("stone/backends/tsd_client.py", "TSDClientBackend.generate", "path.isfile", "template_path"),
    ("stone/backends/tsd_types.py", "TSDTypesBackend._read_template", "open", "r"),
    ("stone/backends/tsd_types.py", "TSDTypesBackend._read_template", "path.isfile", "template_path"),
    ("stone/compiler.py", "Compiler.__init__", "path.exists", "self.build_path"),
    ("stone/compiler.py", "Compiler.build", "path.exists", "self.build_path"),
    ("stone/compiler.py", "Compiler.build", "path.isdir", "self.build_path")] := rfl

/-- the modes handed to `output_to_relative_path`: the default and the one explicit one (the package marker) -/
theorem output_modes_pinned : Tables.outputFileModes = [
    ("stone/backend.py", "Backend.output_to_relative_path", "<default>", "wb"),
    ("stone/backends/python_types.py", "PythonTypesBackend.generate", "'__init__.py'", "ab")] := rfl

theorem output_modes_modelled :
    (Tables.outputFileModes.all fun r => (modeOfString r.2.2.2).isSome) = true := by decide +kernel

/-- **refinement**: whatever the directory held, a file for which the specification promises bytes (`promised`:
opened with `wb` at least once) holds exactly those after the run -/
theorem build_meets_promise {ws : List Write} {p : String} {b : Bytes} (h : promised ws p = some b) (d : Dir) :
    dirGet (build d ws) p = some b :=
  build_meets_promise_aux p b ws d none (Or.inl rfl) h

/-- what a file opened with `wb` at least once holds after the run does not depend on what the directory held -/
theorem build_history_free {ws : List Write} {p : String} (h : ∃ w ∈ ws, w.path = p ∧ w.mode = .wb) (d₁ d₂ : Dir) :
    dirGet (build d₁ ws) p = dirGet (build d₂ ws) p := by
  have := promisedFrom_isSome p ws none (Or.inr h)
  obtain ⟨b, hb⟩ := Option.isSome_iff_exists.mp this
  rw [build_meets_promise hb d₁, build_meets_promise hb d₂]

example : promised [⟨"a.py", .wb, [120, 10]⟩, ⟨"__init__.py", .ab, []⟩, ⟨"a.py", .ab, [121]⟩] "a.py" = some [120, 10, 121] := by decide +kernel

/-- the regression: with the text-mode "unchanged?" test a CR LF copy of the output survives the run -/
theorem skip_text_compare_history_dependent :
    ∃ (d₁ d₂ : Dir) (ws : List Write) (p : String), (∃ w ∈ ws, w.path = p ∧ w.mode = .wb) ∧
      dirGet (buildSkipText d₁ ws) p ≠ dirGet (buildSkipText d₂ ws) p :=
  ⟨[], [("a.py", [120, 13, 10])], [⟨"a.py", .wb, [120, 10]⟩], "a.py", ⟨_, List.mem_singleton.mpr rfl, rfl, rfl⟩, by decide +kernel⟩

/-- an appending write does see what was there: nothing is promised for the package marker -/
example : dirGet (build [("__init__.py", [35])] [⟨"__init__.py", .ab, []⟩]) "__init__.py"
    ≠ dirGet (build [] [⟨"__init__.py", .ab, []⟩]) "__init__.py" := by decide +kernel

end StoneVerif.C12
