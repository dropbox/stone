import StoneVerif.Lemmas.DeclJs
/-!
C16 — the JavaScript and TypeScript backends declare every type once, at the mapped types, and refer only to
names that are declared, builtin or imported (for tsd_client up to the bare `Timestamp`:
`refs_closed_tsd_client_partial`).

All statements are about the model of Model/DeclJs.lean (tied to js_*.py and tsd_*.py by the translator tables and the
differential suites of harness/suites/decl_js.py). `ApiWF` is C02's closure invariant in the form the generators rely
on, evaluated on every API the harness generates. Completion without exception and the lexical shape of the text are
observed by testing; `js_client_completes_iff` / `js_types_completes_iff` say what the model says about completion.
-/
namespace StoneVerif.C16
open StoneVerif.DeclJs

/-- namespaces distinct, types registered where they live under distinct names, every reachable user type registered,
every printed one visible, parents registered, route attributes total -/
def ApiWF (api : Api) : Prop := apiWF api = true

/-- every name the two `_base_type_table`s (and the `.get` defaults) can produce is a builtin of the target
language or `Timestamp`, which both type backends declare; an edit of a table entry to an undeclared name breaks
this theorem -/
theorem base_names_resolve :
    (∀ p ∈ Tables.jsBaseTypeTable, p.2 ∈ jsBuiltins ∨ p.2 = "Timestamp")
    ∧ (∀ p ∈ Tables.tsdBaseTypeTable, p.2 ∈ tsBuiltins ∨ p.2 = "Timestamp")
    ∧ (∀ s ∈ Tables.jsBaseTypeDefault, s ∈ jsBuiltins) ∧ (∀ s ∈ Tables.tsdBaseTypeDefault, s ∈ tsBuiltins) :=
  base_tables_resolve

/-- the format strings the model was written from -/
theorem tables_pinned :
    Tables.jsUrlStrings = ["{}/{}_v{}", "{}/{}"]
    ∧ Tables.jsFuncStrings = ["V{}"] ∧ Tables.tsdFuncStrings = ["V{}"]
    ∧ Tables.tsdReferenceStrings = ["Reference"]
    ∧ Tables.jsTypeNameStrings = ["{}{}", "Object", ".<", ">"]
    ∧ Tables.tsdTypeNameStrings = ["{}.{}", "Object", "<", ">", "string", "{{[key: {}]: {}}}"]
    ∧ Tables.jsUnionStrings = ["(", "|", ")"] ∧ Tables.tsdUnionStrings = ["|"]
    ∧ Tables.jsErrorTypeStrings = ["", "{}.<{}>", "", "Error"] ∧ Tables.tsdErrorTypeStrings = ["", "{}<{}>", "", "Error"]
    ∧ Tables.tsdTimestampDefinition = ["type Timestamp = string;"]
    ∧ Tables.jsClientCallStrings = ["routes.%s = function (arg, options) {", "routes.%s = function (arg) {",
        "routes.%s = function (options) {", "routes.%s = function () {",
        "return this.request('{}', arg, {}{});", "return this.request('{}', null, {}{});",
        "return this.request(\"{}\", arg{});", "return this.request(\"{}\", null{});"]
    ∧ Tables.splitWordsRegexes = [("_split_words_capitalization_re",
          "^[a-z0-9]+|[A-Z][a-z0-9]+|[A-Z]+(?=[A-Z][a-z0-9])|[A-Z]+$"), ("_split_words_dashes_re", "[-_/]+")] := by
  and_intros <;> rfl

/-- `js_helpers.fmt_type`: every identifier is a builtin, `Timestamp`, or the JSDoc name of a struct / union that
is reachable from the formatted type (`printed`: the type itself, list items, enumerated subtypes) -/
theorem js_refs_sub (api : Api) (t : IrTy) : ∀ r ∈ (jsFmtType api t).refs,
    r.ns = none ∧ (r.name ∈ jsBuiltins ∨ r.name = "Timestamp" ∨ ∃ q, URef.ty q ∈ printed api t ∧ r = jsName q) :=
  js_refs api t

/-- `tsd_helpers.fmt_type` (`poly = true`) and `fmt_type_name` (`poly = false`): every identifier is a builtin,
`Timestamp`, or the (possibly qualified) name / polymorphic reference name of a reachable user type -/
theorem tsd_refs_sub (api : Api) (inside : Option String) (t : IrTy) (poly : Bool) :
    ∀ r ∈ (tsdFmt api inside poly t).refs,
      (r.ns = none ∧ (r.name ∈ tsBuiltins ∨ r.name = "Timestamp")) ∨ ∃ u ∈ printed api t, r = tsdOut inside u :=
  tsd_refs api inside t poly

/-- what can be printed is reachable (`userTypes` also follows alias targets) -/
theorem printed_sub (api : Api) (t : IrTy) : ∀ u ∈ printed api t, u ∈ userTypes api t :=
  printed_sub_userTypes api t

/-- tsd_types, single file or one file per namespace: every identifier in a type position of every declaration is
a TypeScript builtin, a type parameter, declared in the same namespace or at the top of the same file, a name of
a sibling namespace of the same file, or a name of a namespace imported into that file -/
theorem refs_closed_tsd_types {opts : Opts} {api : Api} {out : TypesOut} (wf : ApiWF api)
    (h : tsdTypes opts api = .ok out) : ∀ d ∈ out.decls, ∀ r ∈ d.refs, resolvesTs out d r :=
  tsd_types_resolves (.of_ok wf h)

/-- js_types: every identifier of every `@typedef` is a JSDoc builtin, a `@template` parameter or a typedef of the
output -/
theorem refs_closed_js_types {opts : Opts} {api : Api} {ds : List Decl} (wf : ApiWF api)
    (h : jsTypes opts api = .ok ds) : ∀ d ∈ ds, ∀ r ∈ d.refs, resolvesJs ds d.tparams r :=
  js_types_resolves wf h

theorem jsRoute_name {opts : Opts} {api : Api} {ns : String} {rt : RouteD} {f : FnDecl}
    (h : jsRoute opts api ns rt = .ok f) : f.name = fmtFunc (ns ++ "_" ++ rt.name) rt.version := by
  obtain ⟨_, _, rfl⟩ := jsRoute_ok_iff.mp h
  rfl

/-- the JSDoc types js_client writes into `@arg` / `@returns` are declared by the js_types output of the same API -/
theorem refs_closed_js_client {opts o2 : Opts} {api : Api} {fns : List FnDecl} {ds : List Decl} (wf : ApiWF api)
    (hc : jsClient opts api = .ok fns) (ht : jsTypes o2 api = .ok ds) :
    ∀ f ∈ fns, ∀ t ∈ f.argTy.toList ++ [f.resultTy, f.errorTy], ∀ r ∈ t.refs, resolvesJs ds [] r := by
  intro f hf
  obtain ⟨n, hn, hE⟩ := List.mem_flatMap.mp ((mem_of_seqE hc f).mp hf)
  split at hE
  · simp at hE
  · obtain ⟨rt, hrt, hEq⟩ := List.mem_map.mp hE
    obtain ⟨_, _, rfl⟩ := jsRoute_ok_iff.mp hEq
    exact forall_route_tys (jsFmtType api) (wf_ns wf hn) hrt fun x hx =>
      js_resolve_fmt ht x (fun u hu => (printed_ok hx u hu).1) []

/-- tsd_client (types are written without an enclosing namespace): every identifier in a method signature is a
builtin, or `ns.X` with `X` declared in namespace `ns` of the single-file tsd_types output of the same API and, under
`--import-namespaces`, `ns` among the imported names — or it is the bare `Timestamp`.

PARTIAL: the last disjunct is not closed. Without `--import-namespaces` the bare `Timestamp` is the ambient top-level
declaration of the tsd_types file (`timestamp_ambient`); with it, nothing imports or declares `Timestamp` in the
client file (the real backend has the same gap: reported by the harness as a finding). -/
theorem refs_closed_tsd_client_partial {opts o2 : Opts} {api : Api} {co : ClientOut} {out : TypesOut} {f : String}
    (wf : ApiWF api) (hc : tsdClient opts api = .ok co) (ho2 : o2.filename = some f)
    (ht : tsdTypes o2 api = .ok out) :
    ∀ m ∈ co.methods, ∀ t ∈ m.argTy.toList ++ [m.resultTy, m.errorTy], ∀ r ∈ t.refs,
      (r.ns = none ∧ r.name ∈ tsBuiltins)
      ∨ (∃ ns, r.ns = some ns ∧ declaredAt out.decls f (some ns) r.name
          ∧ (opts.importNamespaces = true → ns ∈ co.imports))
      ∨ r = ⟨none, "Timestamp"⟩ := by
  intro m hm
  have c : Ctx o2 api out := .of_ok wf ht
  obtain ⟨hs, himp⟩ := tsdClient_ok hc
  obtain ⟨n, hn, hE⟩ := List.mem_flatMap.mp ((mem_of_seqE hs m).mp hm)
  split at hE
  · simp at hE
  · obtain ⟨rt, hrt, hEq⟩ := List.mem_map.mp hE
    cases hEq
    refine forall_route_tys (tsdFmt api none true) (wf_ns wf hn) hrt fun x hx r hr => ?_
    rcases tsd_refs api none x true r hr with ⟨hn1, hb | hb⟩ | ⟨u, hu, rfl⟩
    · exact Or.inl ⟨hn1, hb⟩
    · exact Or.inr (Or.inr (Ref.eq_bare hn1 hb))
    · obtain ⟨⟨n', hn', hname, hty⟩, hdecl⟩ := declared_uref c u (printed_ok hx u hu).1
      refine Or.inr (Or.inl ⟨u.q.ns, tsdOut_ns_other (by simp), ?_, fun h => ?_⟩)
      · rw [fileOf_single ho2] at hdecl
        rw [tsdOut_name]; exact hdecl
      · simp only [himp, h, if_true, List.mem_map, List.mem_filter]
        exact ⟨n', ⟨hn', hty⟩, hname⟩

/-- without `--import-namespaces` the bare `Timestamp` of a client signature is the top-level declaration of the
single-file tsd_types output (whenever that file exists) -/
theorem timestamp_ambient {o2 : Opts} {api : Api} {out : TypesOut} {f : String} (ho2 : o2.filename = some f)
    (ht : tsdTypes o2 api = .ok out) {n : NamespaceD} (hn : n ∈ api.namespaces) (hty : hasTypes n = true) :
    declaredAt out.decls f none "Timestamp" :=
  timestamp_at_top (tsdTypes_ok ht).1 ho2 hn hty

/-- tsd_types declares every struct and union exactly once: in the whole output exactly one declaration sits in the
namespace of the type and carries its name. `tsdNamesInjective`: the generated `XReference` / `UnionTag` interface
names do not collide with type names of the namespace (a hypothesis on the API, counted by the harness). -/
theorem decl_once_tsd_types {opts : Opts} {api : Api} {out : TypesOut} (wf : ApiWF api)
    (h : tsdTypes opts api = .ok out) (hinj : tsdNamesInjective opts api) {n : NamespaceD}
    (hn : n ∈ api.namespaces) {dt : DataType} (hdt : dt ∈ n.dataTypes) :
    out.decls.countP (fun d => decide (d.scope = some n.name ∧ d.name = dt.q.name)) = 1 :=
  tsd_count_one (.of_ok wf h) hinj hn (hasTypes_of_data hdt) (mem_tsdNames_data hdt)

theorem decl_once_tsd_types_alias {opts : Opts} {api : Api} {out : TypesOut} (wf : ApiWF api)
    (h : tsdTypes opts api = .ok out) (hinj : tsdNamesInjective opts api) {n : NamespaceD}
    (hn : n ∈ api.namespaces) {a : AliasD} (ha : a ∈ n.aliases) :
    out.decls.countP (fun d => decide (d.scope = some n.name ∧ d.name = a.q.name)) = 1 :=
  tsd_count_one (.of_ok wf h) hinj hn (hasTypes_of_alias ha) (mem_tsdNames_alias ha)

/-- js_types: the typedef names of the output are exactly the header names followed by `fmt_pascal(ns + name)` of
every struct and union, in order; hence, when those names are distinct, every struct and union is declared exactly
once (and no alias is) -/
theorem decl_once_js_types {opts : Opts} {api : Api} {ds : List Decl} (h : jsTypes opts api = .ok ds)
    (hinj : jsNamesInjective api) :
    ds.map (·.name) = jsNamesList api
    ∧ ∀ q ∈ api.dataQNames, (ds.map (·.name)).count (jsName q).name = 1 := by
  have hn := js_names_eq h
  refine ⟨hn, fun q hq => ?_⟩
  rw [hn, List.Nodup.count hinj]
  have : (jsName q).name ∈ jsNamesList api := by
    obtain ⟨n, hn', dt, hdt, rfl⟩ := mem_dataQNames hq
    unfold jsNamesList
    exact List.mem_append_right _ (List.mem_flatMap.mpr ⟨n, hn', List.mem_map.mpr ⟨dt, hdt, rfl⟩⟩)
  simp [this]

/-- tsd_types: the interface of a struct extends its parent and has one member per own field, in order, at the
mapped type (`tsField`) -/
theorem tsd_struct_covered {opts : Opts} {api : Api} {out : TypesOut} (wf : ApiWF api)
    (h : tsdTypes opts api = .ok out) {n : NamespaceD} (hn : n ∈ api.namespaces) {s : StructD}
    (hs : DataType.struct s ∈ n.dataTypes) :
    ∃ d ∈ out.decls, d.file = fileOf opts n.name ∧ d.scope = some n.name ∧ d.name = s.q.name
      ∧ d.kind = .interface ∧ d.ext = (s.parent.map (tsdName (some n.name))).toList
      ∧ d.members = s.fields.map (tsField api n.name) :=
  struct_iface (.of_ok wf h) hn hs

def unionRhs (alts : List Ref) : TExpr := if alts.isEmpty then bare "never" else .union alts

/-- tsd_types: every own tag of a union has its variant interface (`'.tag': 'name'`, the value at the mapped type
or `extends` the struct), and the union type lists the parent and all variants (`never` when there is neither) -/
theorem tsd_union_covered {opts : Opts} {api : Api} {out : TypesOut} (wf : ApiWF api)
    (h : tsdTypes opts api = .ok out) {n : NamespaceD} (hn : n ∈ api.namespaces) {u : UnionD}
    (hu : DataType.union u ∈ n.dataTypes) :
    (∃ d ∈ out.decls, d.scope = some n.name ∧ d.name = u.q.name ∧ d.kind = .typeAlias
        ∧ d.rhs = some (unionRhs ((u.parent.map (tsdName (some n.name))).toList
            ++ u.tags.map (fun t => ⟨none, variantName u t⟩))))
    ∧ ∀ t ∈ u.tags, ∃ d ∈ out.decls, d.scope = some n.name ∧ d.name = variantName u t ∧ d.kind = .interface
        ∧ (⟨".tag", .lits [t.name], false⟩ : Member) ∈ d.members
        ∧ (t.ty = .prim .void ∨
            (if isPlainStruct api t.ty then d.ext = (tsdFmt api (some n.name) true t.ty).refs
             else (⟨t.name, tsdFmt api (some n.name) true t.ty, false⟩ : Member) ∈ d.members)) := by
  have mem := Ctx.mem_union (.of_ok wf h) hn hu
  have hh : u.q.ns = n.name := (wf_ns wf hn).homeData _ hu
  rw [← hh]
  refine ⟨⟨_, mem _ (List.mem_append_right _ (List.mem_singleton.mpr rfl)), rfl, rfl, rfl, rfl⟩, fun t ht => ?_⟩
  refine ⟨_, mem _ (List.mem_append_left _ (List.mem_map_of_mem ht)), rfl, rfl, rfl, List.mem_cons_self, ?_⟩
  by_cases hv : t.ty = .prim .void
  · exact Or.inl hv
  · right
    by_cases hp : isPlainStruct api t.ty = true <;> simp [hp, hv]

/-- tsd_types: an alias is a type alias whose right-hand side is `fmt_type_name` of its target -/
theorem tsd_alias_covered {opts : Opts} {api : Api} {out : TypesOut} (wf : ApiWF api)
    (h : tsdTypes opts api = .ok out) {n : NamespaceD} (hn : n ∈ api.namespaces) {a : AliasD} (ha : a ∈ n.aliases) :
    ∃ d ∈ out.decls, d.scope = some n.name ∧ d.name = a.q.name ∧ d.kind = .typeAlias
      ∧ d.rhs = some (tsdFmt api (some n.name) false a.target) := by
  have c : Ctx opts api out := .of_ok wf h
  have hh : a.q.ns = n.name := (wf_ns wf hn).homeAlias _ ha
  rw [← hh]
  exact ⟨_, c.mem (mem_tsdTypesE_of_ns hn (mem_tsdNamespaceE_of_alias ha)), rfl, rfl, rfl, rfl⟩

/-- js_types: the typedef of a struct has one property per field of the struct and of all its ancestors
(`structAllFields`), at the mapped type (`jsField`) -/
theorem js_struct_covered {opts : Opts} {api : Api} {ds : List Decl} (h : jsTypes opts api = .ok ds)
    {n : NamespaceD} (hn : n ∈ api.namespaces) {s : StructD} (hs : DataType.struct s ∈ n.dataTypes) :
    ∃ d ∈ ds, d.name = (jsName s.q).name ∧ d.kind = .typedef
      ∧ ∀ f ∈ structAllFields api (api.structs.length + 1) s, jsField api f ∈ d.members := by
  obtain ⟨d, hd, hmem, hname⟩ := jsDataE_ok h hn hs
  obtain ⟨_, _, rfl⟩ := jsStructDecl_ok_iff.mp hd
  exact ⟨_, hmem, hname, rfl, fun f hf => List.mem_append_right _ (List.mem_map_of_mem hf)⟩

/-- `structAllFields` (`Struct.all_fields`) has exactly the fields of the struct and of its ancestors -/
theorem all_fields_chain (api : Api) (fuel : Nat) (s : StructD) (f : FieldD) :
    f ∈ structAllFields api fuel s ↔ f ∈ chainFields api fuel s :=
  mem_structAllFields

/-- js_types: the typedef of a union has an optional property per non-void tag of the union and of all its
ancestors at the mapped type, and - unless the union has no tag at all - a `.tag` property listing every tag -/
theorem js_union_covered {opts : Opts} {api : Api} {ds : List Decl} (h : jsTypes opts api = .ok ds)
    {n : NamespaceD} (hn : n ∈ api.namespaces) {u : UnionD} (hu : DataType.union u ∈ n.dataTypes) :
    ∃ d ∈ ds, d.name = (jsName u.q).name ∧ d.kind = .typedef
      ∧ ((unionAllTags api (api.unions.length + 1) u).isEmpty = false →
          (⟨".tag", .lits ((unionAllTags api (api.unions.length + 1) u).map (·.name)), false⟩ : Member) ∈ d.members)
      ∧ ∀ t ∈ unionAllTags api (api.unions.length + 1) u, (unwrapAll t.ty).1 ≠ .prim .void →
          (⟨t.name, jsFmtType api (unwrapAll t.ty).1, true⟩ : Member) ∈ d.members := by
  obtain ⟨d, hd, hmem, hname⟩ := jsDataE_ok h hn hu
  obtain rfl : _ = d := Except.ok.inj hd
  refine ⟨_, hmem, hname, rfl, fun hne => by simp [hne], fun t ht hv => ?_⟩
  refine List.mem_append_left _ (List.mem_filterMap.mpr ⟨t, ht, ?_⟩)
  simp [hv]

theorem unwrapAll_nullable (t : IrTy) : (unwrapAll t).2 = isNullable t := by
  induction t with
  | nullable t _ => simp [unwrapAll, isNullable]
  | alias q t ih => simpa [unwrapAll, isNullable] using ih
  | _ => simp [unwrapAll, isNullable]

/-- JSDoc marks a field optional exactly when it is nullable (the type, seen through aliases, is `T?`) -/
theorem jsdoc_optional_iff (api : Api) (f : FieldD) : (jsField api f).optional = isNullable f.ty := by
  simp [jsField, unwrapAll_nullable]

/-- TypeScript marks a field optional exactly when it is nullable (also behind aliases) or defaulted.
(Until the repair of `_generate_struct_type` this held only for fields whose type is not an alias of a nullable
type: `unwrap_nullable` alone does not look through aliases.) -/
theorem ts_optional_iff (api : Api) (ns : String) (f : FieldD) :
    (tsField api ns f).optional = (isNullable f.ty || f.hasDefault) := by
  cases hf : f.ty <;> simp [tsField, unwrapNullable, unwrapAll_nullable, hf, isNullable]

/-- regression (the former gap `alias NS = String?` / `f NS`): both generators mark the field optional, and the
TypeScript annotation keeps the alias name -/
example (api : Api) :
    let f : FieldD := ⟨"f", .alias ⟨"a", "NS"⟩ (.nullable (.prim .string)), false⟩
    isNullable f.ty = true ∧ (tsField api "a" f).optional = true ∧ (jsField api f).optional = true
      ∧ (tsField api "a" f).ty = tsdFmt api (some "a") true f.ty := by
  simp [isNullable, tsField, jsField, unwrapNullable, unwrapAll]

/-- the attribute values `json.dumps` serialises; `fmt_obj` refuses exactly the others (`attrArg_ok_iff`) -/
def supported : AttrVal → Bool
  | .unsupported _ => false
  | _ => true

theorem attrArg_ok_iff (r : RouteD) (a : String) (c : CallArg) :
    attrArg r a = .ok c ↔
      (∃ v, r.attrs.lookup a = some v ∧ supported v = true) ∧ c = .attr ((r.attrs.lookup a).getD .null) := by
  unfold attrArg
  cases r.attrs.lookup a with
  | none => simp
  | some v =>
    cases v with
    | unsupported ty => simp [fmtObj, supported]
    | _ => exact ⟨fun h => ⟨⟨_, rfl, rfl⟩, (Except.ok.inj h).symm⟩, fun h => h.2 ▸ rfl⟩

/-- js_client: when it completes, the function of a route version is named `fmt_func(ns + '_' + route, version)`,
takes `arg` unless the argument type is Void (and `options` under --request-options), and calls
`this.request(url, arg | null, attribute values in schema order [, options])` with url `ns/route` or `ns/route_vN` -/
theorem js_route_call {opts : Opts} {api : Api} {ns : String} {r : RouteD} {f : FnDecl}
    (hattrs : ∀ a ∈ api.routeSchema, (r.attrs.lookup a).isSome = true)
    (h : jsRoute opts api ns r = .ok f) :
    f.name = fmtFunc (ns ++ "_" ++ r.name) r.version
    ∧ f.url = (if r.version = 1 then ns ++ "/" ++ r.name else ns ++ "/" ++ r.name ++ "_v" ++ toString r.version)
    ∧ f.params = (if r.arg = .prim .void then [] else ["arg"]) ++ (if opts.requestOptions then ["options"] else [])
    ∧ f.call = routeCallSpec opts api.routeSchema r := by
  obtain ⟨_, hadd, rfl⟩ := jsRoute_ok_iff.mp h
  obtain ⟨_, rfl⟩ := (mapM_ok_iff (attrArg_ok_iff r)).mp hadd
  refine ⟨rfl, ?_, rfl, rfl⟩
  simp only [jsRouteFn, jsFmtUrl, ne_eq, ite_not]

/-- js_client emits one function per route version, in order -/
theorem js_client_one_fn_per_route {opts : Opts} {api : Api} {fns : List FnDecl} (h : jsClient opts api = .ok fns) :
    fns.map (·.name) = routeNamesList api := by
  rw [map_of_seqE h]
  unfold jsClientE routeNamesList
  refine filterMap_flatMap_of _ _ _ _ fun n hn => ?_
  have hm : ∀ e ∈ (if routeNamesConflict n then [.error "RuntimeError: There is a name conflict"]
      else n.routes.map (jsRoute opts api n.name)), e ∈ jsClientE opts api :=
    fun e he => List.mem_flatMap.mpr ⟨n, hn, he⟩
  split at hm
  · exact absurd (hm _ List.mem_cons_self) (no_error_of_seqE h _)
  · rw [if_neg ‹_›, List.filterMap_map]
    refine filterMap_eq_map_of _ _ _ fun r hr => ?_
    have hm := hm _ (List.mem_map_of_mem hr)
    cases hd : jsRoute opts api n.name r with
    | error e => exact absurd (hd ▸ hm) (no_error_of_seqE h e)
    | ok f => simp [okMap, hd, jsRoute_name hd]

/-- js_client completes exactly when no namespace has two routes with the same `fmt_func` name and every attribute value
of every route is JSON-serialisable (a union tag, a Bytes or a Timestamp value is not: the real backend raises
TypeError in `fmt_obj`) -/
theorem js_client_completes_iff {opts : Opts} {api : Api}
    (hattrs : ∀ n ∈ api.namespaces, ∀ r ∈ n.routes, ∀ a ∈ api.routeSchema, (r.attrs.lookup a).isSome = true) :
    (∃ fns, jsClient opts api = .ok fns) ↔
      ∀ n ∈ api.namespaces, routeNamesConflict n = false ∧
        ∀ r ∈ n.routes, ∀ a ∈ api.routeSchema, ∀ v, r.attrs.lookup a = some v → supported v = true := by
  have hroute : ∀ n ∈ api.namespaces, ∀ r ∈ n.routes, ((∃ f, jsRoute opts api n.name r = .ok f) ↔
      ∀ a ∈ api.routeSchema, ∀ v, r.attrs.lookup a = some v → supported v = true) := by
    intro n hn r hr
    have hiff : (∃ f, jsRoute opts api n.name r = .ok f) ↔
        ∀ a ∈ api.routeSchema, ∃ v, r.attrs.lookup a = some v ∧ supported v = true :=
      ⟨fun ⟨f, hf⟩ => let ⟨_, hadd, _⟩ := jsRoute_ok_iff.mp hf; ((mapM_ok_iff (attrArg_ok_iff r)).mp hadd).1,
       fun h => ⟨_, jsRoute_ok_iff.mpr ⟨_, (mapM_ok_iff (attrArg_ok_iff r)).mpr ⟨h, rfl⟩, rfl⟩⟩⟩
    rw [hiff]
    refine forall₂_congr fun a ha => ?_
    have := hattrs n hn r hr a ha
    cases hl : r.attrs.lookup a <;> simp [hl] at this ⊢
  unfold jsClient jsClientE
  rw [seqE_ok_iff, List.forall_mem_flatMap]
  refine forall₂_congr fun n hn => ?_
  cases routeNamesConflict n with
  | true => simp
  | false =>
    simp only [Bool.false_eq_true, if_false, List.forall_mem_map, true_and]
    exact forall₂_congr fun r hr => hroute n hn r hr

/-- js_types completes exactly when the tag paths of the enumerated-subtypes trees are found; a union never stops it
(until the repair of `_generate_union` a union without tags did: `fmt_jsdoc_union([])` raised IndexError) -/
theorem js_types_completes_iff {opts : Opts} {api : Api} :
    (∃ ds, jsTypes opts api = .ok ds) ↔
      (∀ n ∈ api.namespaces, ∀ dt ∈ n.dataTypes,
        match dt with
        | .struct s => ∀ e, tagMember api s ≠ .error e
        | .union _ => True) := by
  have one : ∀ dt : DataType, (∃ d, jsDataE opts api dt = .ok d) ↔
      (match dt with
       | .struct s => ∀ e, tagMember api s ≠ .error e
       | .union _ => True) := by
    intro dt
    cases dt with
    | struct s =>
      show (∃ d, jsStructDecl api opts.out s = .ok d) ↔ _
      rw [jsStructDecl_eq]
      cases htm : tagMember api s <;> simp [Except.map, htm]
    | union u => exact ⟨fun _ => trivial, fun _ => ⟨_, rfl⟩⟩
  unfold jsTypes
  rw [seqE_ok_iff, jsTypesE_eq, List.forall_mem_append, List.forall_mem_flatMap]
  simp only [List.forall_mem_map]
  exact ⟨fun h n hn dt hdt => (one dt).mp (h.2 n hn dt hdt),
    fun h => ⟨fun d _ => ⟨d, rfl⟩, fun n hn dt hdt => (one dt).mpr (h n hn dt hdt)⟩⟩

/-- tsd_client declares one method per route version: named like the js_client function, with `arg: fmt_type(arg)`
unless the argument is Void, result type `fmt_type(result)` (inside `Promise<..>` / the response wrapper) and error
type `fmt_type(error)` (documented inside `Error<..>` / the error wrapper) -/
theorem tsd_client_method {opts : Opts} {api : Api} {co : ClientOut} (h : tsdClient opts api = .ok co) :
    co.methods = api.namespaces.flatMap (fun n => n.routes.map (tsdRoute api n.name))
    ∧ (co.methods.map (·.name) = routeNamesList api)
    ∧ ∀ n ∈ api.namespaces, ∀ r ∈ n.routes,
        let m := tsdRoute api n.name r
        m.name = fmtFunc (n.name ++ "_" ++ r.name) r.version
        ∧ m.argTy = (if r.arg = .prim .void then none else some (tsdFmt api none true r.arg))
        ∧ m.resultTy = tsdFmt api none true r.result ∧ m.errorTy = tsdFmt api none true r.error := by
  obtain ⟨hs, _⟩ := tsdClient_ok h
  have hmeth : co.methods = api.namespaces.flatMap (fun n => n.routes.map (tsdRoute api n.name)) := by
    rw [← List.map_id co.methods, map_of_seqE hs]
    unfold tsdClientE
    refine filterMap_flatMap_of _ _ _ _ fun n hn => ?_
    split
    · rename_i hc
      exact absurd (List.mem_flatMap.mpr ⟨n, hn, by simp [hc]⟩)
        (no_error_of_seqE hs "RuntimeError: There is a name conflict")
    · rw [List.filterMap_map]
      exact filterMap_eq_map_of _ _ _ (fun _ _ => rfl)
  refine ⟨hmeth, ?_, fun n hn r hr => ⟨rfl, rfl, rfl, rfl⟩⟩
  simp only [hmeth, routeNamesList, List.map_flatMap, List.map_map]
  rfl

/-- Non-vacuity. A two-namespace API: an enumerated-subtypes tree with a catch-all root, a union,
an alias, a cross-namespace field and two route versions -/
def demoApi : Api :=
  let root : QName := ⟨"base", "Root"⟩
  let leaf : QName := ⟨"base", "Leaf"⟩
  { routeSchema := ["host"],
    namespaces := [
      { name := "base", imports := [], routes := [],
        aliases := [⟨⟨"base", "Roots"⟩, .list (.struct root)⟩],
        dataTypes := [
          .struct ⟨leaf, some root, [⟨"peers", .list (.struct root), false⟩, ⟨"n", .nullable (.prim .int32), false⟩],
                   [], false⟩,
          .struct ⟨root, none, [⟨"id", .prim .string, true⟩], [("leaf", leaf)], true⟩,
          .union ⟨⟨"base", "Choice"⟩, none, [⟨"none", .prim .void⟩, ⟨"one", .struct leaf⟩, ⟨"when", .prim .timestamp⟩]⟩] },
      { name := "use", imports := ["base"], aliases := [],
        dataTypes := [.struct ⟨⟨"use", "Holder"⟩, none, [⟨"r", .struct root, false⟩,
                        ⟨"a", .alias ⟨"base", "Roots"⟩ (.list (.struct root)), false⟩], [], false⟩],
        routes := [⟨"get", 1, .struct ⟨"use", "Holder"⟩, .struct root, .union ⟨"base", "Choice"⟩, [("host", .str "api")]⟩,
                   ⟨"get", 2, .prim .void, .prim .void, .prim .void, [("host", .null)]⟩] }] }

example : ApiWF demoApi := by unfold ApiWF; decide +kernel
example : tsdNamesInjective {} demoApi ∧ jsNamesInjective demoApi ∧ routeNamesInjective demoApi := by
  unfold tsdNamesInjective jsNamesInjective routeNamesInjective
  decide +kernel
example : ∃ out, tsdTypes {} demoApi = .ok out ∧ out.decls.length = 16 ∧ out.imports = [("use.d.ts", "base")] := by
  refine ⟨_, rfl, ?_, ?_⟩ <;> decide +kernel
example : ∃ out, tsdTypes { filename := some "t.d.ts" } demoApi = .ok out ∧ out.decls.length = 13 :=
  ⟨_, rfl, by decide +kernel⟩
example : renderTs (tsdFmt demoApi (some "use") true (.struct ⟨"base", "Root"⟩)) = "base.LeafReference|base.RootReference" := by
  decide +kernel
example : renderJs (jsFmtType demoApi (.list (.struct ⟨"base", "Root"⟩))) = "Array.<(BaseLeaf|BaseRoot)>" := by
  decide +kernel
example : ∃ fns, jsClient { requestOptions := true } demoApi = .ok fns ∧ fns.map (·.name) = ["useGet", "useGetV2"]
    ∧ fns.map (·.url) = ["use/get", "use/get_v2"]
    ∧ fns.map (·.call) = [[.arg, .attr (.str "api"), .options], [.null, .attr .null, .options]] :=
  ⟨_, rfl, by decide +kernel, by decide +kernel, by decide +kernel⟩
/-- a union-typed attribute value makes js_client fail, as the real backend does -/
example : jsRoute {} demoApi "use" ⟨"r", 1, .prim .void, .prim .void, .prim .void, [("host", .unsupported "TagRef")]⟩
    = .error "TypeError: Object of type TagRef is not JSON serializable" := by rfl
/-- regression (formerly the IndexError of `fmt_jsdoc_union([])`): a union without tags gets a typedef without a
`.tag` property, and its TypeScript declaration is `type E = never` -/
example : jsUnionDecl demoApi "t.js" ⟨⟨"base", "E"⟩, none, []⟩
    = .ok { file := "t.js", scope := none, kind := .typedef, name := "BaseE", rhs := some (bare "Object"),
            members := [] } := by
  rfl
example : (tsdUnionDecls demoApi "t.d.ts" ⟨⟨"base", "E"⟩, none, []⟩).map (·.rhs) = [some (bare "never")] := by
  decide +kernel

end StoneVerif.C16
