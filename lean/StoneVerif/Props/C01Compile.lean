import StoneVerif.Lemmas.FeCompileFull
import StoneVerif.Model.FeAttrVal
import StoneVerif.Props.C02Compile
/-!
# C01 for the compile model: accepted = legal

`Legal rx fs` (Model/FeCompile.lean) is the conjunction of the rules of the language over the declarations of all
files, written without reference to the order of files, declarations or passes (names: `FeNames.NoClash`; imports;
references; aliases; structs and unions; enumerated subtypes; routes; patches; applied annotations); `LegalFull` adds
the rules for `stone_cfg` and route attributes.  `compile` / `compileFull` follow the passes of
`IRGenerator.generate_IR`.  `rx` says which patterns `re.compile` accepts; `nsLexical fs` says that namespace names
are identifiers (no `/`) -- a fact about the parser's output (token `ID`), not a rule; it is what makes the canonical
keys of C01's name model unambiguous (`FeNames.register_ok_iff_noclash`).
-/
namespace StoneVerif.C01Compile
open StoneVerif.FeCompile

/-- **Accepted = legal.** The model of the IR generator accepts a set of spec files exactly when the files obey every
rule: each check of each pass -- made in the order the passes run, against the aliases set and the types populated at
that moment -- is, taken together with the others, the order-free rule; and the rules leave nothing for a check to
trip over.  `vc` is the test of one route-attribute value against the type of its attribute: the statement holds for
every such test (`compile_ok_iff_legal_values` below instantiates it with C10's value checker). -/
theorem compile_ok_iff_legal (rx : String → Bool) (vc : ValCk) (fs : List File) (hl : nsLexical fs = true) :
    (∃ api, compileFull rx vc fs = .ok api) ↔ LegalFull rx vc fs = true :=
  L.compileFull_ok_iff_legalFull rx vc fs hl

/-- **Never refused.** A set of spec files that violates no rule is compiled: no pass refuses it -- and none of
the model's recursion bounds is hit, no impossible state is reached (`outOfFuel`, `fuelAlias`, `fuelAncestors`,
`fuelImports`, `internal` do not occur on legal input). -/
theorem legal_accepted (rx : String → Bool) (vc : ValCk) (fs : List File) (hl : nsLexical fs = true) (h : LegalFull rx vc fs = true) :
    ∃ api, compileFull rx vc fs = .ok api :=
  (compile_ok_iff_legal rx vc fs hl).mpr h

/-- **Every violation is reported.** A set of spec files that violates a rule -- any rule, anywhere, in any order of
files and declarations -- is refused. (WHICH error is raised when several rules are violated follows the order of
the passes; the correspondence suite compares the kinds on single violations.) -/
theorem violation_refused (rx : String → Bool) (vc : ValCk) (fs : List File) (hl : nsLexical fs = true) (h : LegalFull rx vc fs = false) :
    ∃ e, compileFull rx vc fs = .error e := by
  cases hc : compileFull rx vc fs with
  | error e => exact ⟨e, rfl⟩
  | ok api =>
    have := (compile_ok_iff_legal rx vc fs hl).mp ⟨api, hc⟩
    rw [h] at this
    cases this

/-- **Whatever is refused violates a rule**: an error of any kind -- the kinds of the
`InvalidSpec` sites, and the model's own `crash` / fuel / `internal` answers alike -- is only ever produced on input
that is not legal. -/
theorem compile_error_sound (rx : String → Bool) (vc : ValCk) (fs : List File) (hl : nsLexical fs = true) (e : Err)
    (h : compileFull rx vc fs = .error e) : LegalFull rx vc fs = false := by
  cases hL : LegalFull rx vc fs with
  | false => rfl
  | true =>
    obtain ⟨api, hapi⟩ := (compile_ok_iff_legal rx vc fs hl).mpr hL
    rw [h] at hapi
    cases hapi

/-- Two inputs with the same verdict of `LegalFull` are accepted or refused alike: `compile_ok_iff_legal` twice.  (That
the verdict does not depend on the arrangement of the declarations is not proved.) -/
theorem acceptance_by_rules (rx : String → Bool) (vc : ValCk) (fs fs' : List File) (hl : nsLexical fs = true)
    (hl' : nsLexical fs' = true) (h : LegalFull rx vc fs = LegalFull rx vc fs') :
    (∃ api, compileFull rx vc fs = .ok api) ↔ (∃ api, compileFull rx vc fs' = .ok api) := by
  rw [compile_ok_iff_legal rx vc fs hl, compile_ok_iff_legal rx vc fs' hl', h]

/-- **Accepted = legal, values included.** With the value test `attrVal E C` (Model/FeAttrVal.lean: C10's model of
`<Type>.check`, `IrCheck.check`, reached through aliases and `Nullable` the way `check_attr_repr` does).  `E`, `C` are
IrCheck's external calls -- float comparison, `float(int)`, the `re` match, `strptime` --, the same on both sides:
parameters, not hypotheses. -/
theorem compile_ok_iff_legal_values (rx : String → Bool) (E : StoneVerif.Rt.Ext) (C : StoneVerif.IrCheck.CExt)
    (fs : List File) (hl : nsLexical fs = true) :
    (∃ api, compileFull rx (attrVal E C) fs = .ok api) ↔ LegalFull rx (attrVal E C) fs = true :=
  compile_ok_iff_legal rx (attrVal E C) fs hl

/-- the same without the route-attribute stage: types, patches and applied annotations -/
theorem compile_ok_iff_legal_types (rx : String → Bool) (fs : List File) (hl : nsLexical fs = true) :
    (∃ api, compile rx fs = .ok api) ↔ Legal rx fs = true :=
  L.compile_ok_iff_legal_types rx fs hl

/-- what `compileFull` accepts, `compile` accepts with the same result: C02's theorems about the result apply -/
theorem compileFull_compile {rx vc fs api} (h : compileFull rx vc fs = .ok api) : compile rx fs = .ok api :=
  (L.compileFull_ok_iff.mp h).1

/-- **Names and imports, both ways.** The first two passes (registration with the canonical-name check; imports)
accept exactly the inputs whose names obey `FeNames.NoClash` and whose imports are not reflexive, name existing
namespaces and form no cycle. -/
theorem buildEnv_ok_iff (fs : List File) (hl : nsLexical fs = true) :
    isOk (buildEnv fs) = (namesLegal fs && importsLegal fs) :=
  L.buildEnv_ok_iff fs hl

section Examples

def href (n : String) (nullable := false) : RefHead := { ns := none, name := n, kw := [], nullable := nullable }
def ref (n : String) (nullable := false) : TRef := .leaf (href n nullable) []
def one (ds : List Decl) : List File := [{ ns := "na", decls := ds }]
def errOf {α} : Except Err α → Option Err
  | .error e => some e
  | .ok _ => none
def rx1 : String → Bool := fun _ => true

/-- what is refused is not legal (`compile_ok_iff_legal_types`): in the examples below the input is evaluated once, by
`compile`, and the verdict of `Legal` follows -/
theorem refused_not_legal {rx fs e} (hl : nsLexical fs = true) (h : errOf (compile rx fs) = some e) :
    errOf (compile rx fs) = some e ∧ Legal rx fs = false := by
  refine ⟨h, ?_⟩
  cases hL : Legal rx fs with
  | false => rfl
  | true =>
    obtain ⟨api, hc⟩ := (compile_ok_iff_legal_types rx fs hl).mpr hL
    rw [hc] at h
    cases h

theorem refusedFull_not_legal {rx vc fs e} (hl : nsLexical fs = true) (h : errOf (compileFull rx vc fs) = some e) :
    errOf (compileFull rx vc fs) = some e ∧ LegalFull rx vc fs = false :=
  ⟨h, compile_error_sound rx vc fs hl e (by
    cases hc : compileFull rx vc fs with
    | error e' => rw [hc] at h; cases h; rfl
    | ok api => rw [hc] at h; cases h)⟩

example : Legal rx1 StoneVerif.C02Compile.sample = true ∧ (compile rx1 StoneVerif.C02Compile.sample).toOption.isSome = true :=
  ⟨(compile_ok_iff_legal_types rx1 _ (by decide +kernel)).mp ⟨_, StoneVerif.C02Compile.sample_compiled⟩,
   by rw [show compile rx1 _ = _ from StoneVerif.C02Compile.sample_compiled]; rfl⟩

example : errOf (compile rx1 (one [.alias "A" (ref "String"), .type { name := "A", kind := .struct }])) = some .symbolDefined ∧
    Legal rx1 (one [.alias "A" (ref "String"), .type { name := "A", kind := .struct }]) = false :=
  refused_not_legal (by decide +kernel) (by decide +kernel)

example : errOf (compile rx1 [{ ns := "na", decls := [.imp "nb"] }, { ns := "nb", decls := [.imp "na"] }]) = some .importCircular ∧
    Legal rx1 [{ ns := "na", decls := [.imp "nb"] }, { ns := "nb", decls := [.imp "na"] }] = false :=
  refused_not_legal (by decide +kernel) (by decide +kernel)

example : errOf (compile rx1 (one [.type { name := "S", kind := .struct, fields := [{ name := "x", ty := some (ref "T") }] }]))
      = some .undefinedSymbol ∧
    Legal rx1 (one [.type { name := "S", kind := .struct, fields := [{ name := "x", ty := some (ref "T") }] }]) = false :=
  refused_not_legal (by decide +kernel) (by decide +kernel)

example : errOf (compile rx1 (one [.type { name := "S", kind := .struct, fields := [{ name := "x", ty := some (ref "N" true) }] },
                                    .alias "N" (ref "String" true)])) = some .nullableNullable ∧
    Legal rx1 (one [.type { name := "S", kind := .struct, fields := [{ name := "x", ty := some (ref "N" true) }] },
                    .alias "N" (ref "String" true)]) = false :=
  refused_not_legal (by decide +kernel) (by decide +kernel)

example : errOf (compile rx1 (one [.alias "A" (ref "B"), .alias "B" (.app1 (href "List") (ref "A"))])) = some .aliasCycle ∧
    Legal rx1 (one [.alias "A" (ref "B"), .alias "B" (.app1 (href "List") (ref "A"))]) = false :=
  refused_not_legal (by decide +kernel) (by decide +kernel)

example : errOf (compile rx1 (one [.type { name := "S", kind := .struct, «extends» := some (ref "T") },
                                    .type { name := "T", kind := .struct, «extends» := some (ref "S") }])) = some .circular ∧
    Legal rx1 (one [.type { name := "S", kind := .struct, «extends» := some (ref "T") },
                    .type { name := "T", kind := .struct, «extends» := some (ref "S") }]) = false :=
  refused_not_legal (by decide +kernel) (by decide +kernel)

example : errOf (compile rx1 (one [.type { name := "S", kind := .struct, «extends» := some (ref "P"),
                                            fields := [{ name := "x", ty := some (ref "Int32") }] },
                                    .type { name := "P", kind := .struct, fields := [{ name := "x", ty := some (ref "String") }] }]))
      = some .parentField ∧
    Legal rx1 (one [.type { name := "S", kind := .struct, «extends» := some (ref "P"),
                            fields := [{ name := "x", ty := some (ref "Int32") }] },
                    .type { name := "P", kind := .struct, fields := [{ name := "x", ty := some (ref "String") }] }]) = false :=
  refused_not_legal (by decide +kernel) (by decide +kernel)

example : errOf (compile rx1 (one [.type { name := "P", kind := .union false, fields := [{ name := "a", ty := none }] },
                                    .type { name := "C", kind := .union true, «extends» := some (ref "P") }])) = some .closedExtendsOpen ∧
    Legal rx1 (one [.type { name := "P", kind := .union false, fields := [{ name := "a", ty := none }] },
                    .type { name := "C", kind := .union true, «extends» := some (ref "P") }]) = false :=
  refused_not_legal (by decide +kernel) (by decide +kernel)

example : errOf (compile rx1 (one [.type { name := "S", kind := .struct,
                                            fields := [{ name := "x", ty := some (.app1 (href "List") (ref "String")), hasDefault := true }] }]))
      = some .defaultNotAllowed ∧
    Legal rx1 (one [.type { name := "S", kind := .struct,
                            fields := [{ name := "x", ty := some (.app1 (href "List") (ref "String")), hasDefault := true }] }]) = false :=
  refused_not_legal (by decide +kernel) (by decide +kernel)

example : errOf (compile rx1 (one [.type { name := "R", kind := .struct, subtypes := some ([("a", ref "A")], false) },
                                    .type { name := "A", kind := .struct, «extends» := some (ref "R") },
                                    .type { name := "B", kind := .struct, «extends» := some (ref "R") }])) = some .missingSubtype ∧
    Legal rx1 (one [.type { name := "R", kind := .struct, subtypes := some ([("a", ref "A")], false) },
                    .type { name := "A", kind := .struct, «extends» := some (ref "R") },
                    .type { name := "B", kind := .struct, «extends» := some (ref "R") }]) = false :=
  refused_not_legal (by decide +kernel) (by decide +kernel)

example : errOf (compile rx1 (one [.type { name := "S", kind := .struct, fields := [{ name := "x", ty := some (ref "String") }] },
                                    .patch { name := "S", kind := .struct, fields := [{ name := "x", ty := some (ref "Int32") }] }]))
      = some .patchFieldClash ∧
    Legal rx1 (one [.type { name := "S", kind := .struct, fields := [{ name := "x", ty := some (ref "String") }] },
                    .patch { name := "S", kind := .struct, fields := [{ name := "x", ty := some (ref "Int32") }] }]) = false :=
  refused_not_legal (by decide +kernel) (by decide +kernel)

example : errOf (compile rx1 (one [.type { name := "S", kind := .union false },
                                    .patch { name := "S", kind := .union true, fields := [{ name := "a", ty := none }] }]))
      = some .patchMismatch ∧
    Legal rx1 (one [.type { name := "S", kind := .union false },
                    .patch { name := "S", kind := .union true, fields := [{ name := "a", ty := none }] }]) = false :=
  refused_not_legal (by decide +kernel) (by decide +kernel)

example : errOf (compile rx1 (one [.annot "Dep" .deprecated, .annot "Pre" .preview,
      .type { name := "S", kind := .struct,
              fields := [{ name := "x", ty := some (ref "String"), annots := [⟨none, "Dep"⟩, ⟨none, "Pre"⟩] }] }]))
      = some .deprecatedPreview ∧
    Legal rx1 (one [.annot "Dep" .deprecated, .annot "Pre" .preview,
      .type { name := "S", kind := .struct,
              fields := [{ name := "x", ty := some (ref "String"), annots := [⟨none, "Dep"⟩, ⟨none, "Pre"⟩] }] }]) = false :=
  refused_not_legal (by decide +kernel) (by decide +kernel)

example : errOf (compile rx1 (one [.annot "Blot" .redacted, .alias "A" (ref "String"),
      .type { name := "S", kind := .struct, fields := [{ name := "x", ty := some (ref "A"), annots := [⟨none, "Blot"⟩] }] }]))
      = some .redactorOnAliasRef ∧
    Legal rx1 (one [.annot "Blot" .redacted, .alias "A" (ref "String"),
      .type { name := "S", kind := .struct, fields := [{ name := "x", ty := some (ref "A"), annots := [⟨none, "Blot"⟩] }] }]) = false :=
  refused_not_legal (by decide +kernel) (by decide +kernel)

/-- legal uses: a redactor on a string member, on an alias definition, Deprecated with Omitted -/
example : Legal rx1 (one [.annot "Blot" .redacted, .annot "Dep" .deprecated, .annot "Omi" .omitted,
      .alias "A" (ref "String"), .aliasAnnots "A" [⟨none, "Blot"⟩],
      .type { name := "S", kind := .struct,
              fields := [{ name := "x", ty := some (ref "String"), annots := [⟨none, "Dep"⟩, ⟨none, "Omi"⟩, ⟨none, "Blot"⟩] },
                         { name := "y", ty := some (.app1 (href "List") (ref "A")) }] }]) = true := by
  decide +kernel

example : errOf (compile rx1 (one [.route { name := "r", version := 1, arg := ref "Void", result := ref "Void",
                                             error := some (ref "Void"), deprecated := some (some ("s", 1)) }])) = some .undefinedRoute ∧
    Legal rx1 (one [.route { name := "r", version := 1, arg := ref "Void", result := ref "Void",
                             error := some (ref "Void"), deprecated := some (some ("s", 1)) }]) = false :=
  refused_not_legal (by decide +kernel) (by decide +kernel)

def vcT : ValCk := fun _ _ _ _ _ _ => true
def cfg (fields : List AField) (more : List Decl := []) : File :=
  { ns := "stone_cfg", decls := .type { name := "Route", kind := .struct, fields := fields } :: more }
def rt (attrs : List (String × AVal)) : Decl :=
  .route { name := "r", version := 1, arg := ref "Void", result := ref "Void", error := some (ref "Void"), attrs := attrs }
def styleHost : List AField :=
  [{ name := "style", ty := some (ref "String") }, { name := "host", ty := some (ref "String" true) },
   { name := "auth", ty := some (ref "String"), hasDefault := true }]

example : LegalFull rx1 vcT (cfg styleHost :: one [rt [("style", .str "rpc")]]) = true ∧
    (compileFull rx1 vcT (cfg styleHost :: one [rt [("style", .str "rpc"), ("host", .null)]])).toOption.isSome = true := by
  decide +kernel

example : errOf (compileFull rx1 vcT (cfg styleHost :: one [rt []])) = some .attrMissing ∧
    LegalFull rx1 vcT (cfg styleHost :: one [rt []]) = false :=
  refusedFull_not_legal (by decide +kernel) (by decide +kernel)

example : errOf (compileFull rx1 vcT (cfg styleHost :: one [rt [("style", .str "rpc"), ("zzz", .int 1)]])) = some .attrUnknown ∧
    errOf (compileFull rx1 vcT (one [rt [("style", .str "rpc")]])) = some .attrUnknown ∧
    LegalFull rx1 vcT (one [rt [("style", .str "rpc")]]) = false :=
  ⟨by decide +kernel, refusedFull_not_legal (by decide +kernel) (by decide +kernel)⟩

example : errOf (compileFull rx1 vcT [cfg styleHost [rt []]]) = some .cfgRoutes ∧
    errOf (compileFull rx1 vcT [cfg [] [.type { name := "Other", kind := .struct }]]) = some .cfgNotRoute ∧
    LegalFull rx1 vcT [cfg [] [.type { name := "Other", kind := .struct }]] = false :=
  ⟨by decide +kernel, refusedFull_not_legal (by decide +kernel) (by decide +kernel)⟩

example : errOf (compileFull rx1 vcT
      (cfg [{ name := "l", ty := some (.app1 (href "List" true) (ref "String")) }] :: one [rt [("l", .str "a")]]))
      = some .attrNotSettable ∧
    (compileFull rx1 vcT
      (cfg [{ name := "l", ty := some (.app1 (href "List" true) (ref "String")) }] :: one [rt [("l", .null)]])).toOption.isSome
      = true := by decide +kernel

/-! values of route attributes, by C10's checker (the examples need none of its external calls except the pattern) -/
def extT : StoneVerif.Rt.Ext :=
  { fltLt := fun _ _ => false, fltIsNan := fun _ => false, fltIsInf := fun _ => false, fltOfInt := fun _ => none,
    patMatch := fun p s => p == s, b64enc := id, b64dec := fun _ => none, strftime := fun f _ => f,
    strptime := fun _ _ => none, md5 := id, reSearch := fun _ _ => none, strOfInt := fun _ => "", strOfFlt := fun _ => "" }
def cextT : StoneVerif.IrCheck.CExt := { intExact := fun _ => true, strptimeOk := fun f s => f == s }
def vcV : ValCk := attrVal extT cextT
def kwRef (n : String) (kw : List (String × StoneVerif.FeParams.Arg)) : TRef :=
  .leaf { ns := none, name := n, kw := kw, nullable := false } []
def modeCfg : List File :=
  [cfg [{ name := "mode", ty := some (ref "Mode") }, { name := "n", ty := some (kwRef "Int32" [("max_value", .int 9)]), hasDefault := true },
        { name := "s", ty := some (kwRef "String" [("max_length", .int 2)]), hasDefault := true }]
       [.type { name := "Mode", kind := .union false, fields := [{ name := "fast", ty := none }, { name := "big", ty := some (ref "String") }] }]]

-- `stone_cfg` may define only `Route`: the union lives elsewhere in real specs; here the rule itself is shown
example : errOf (compileFull rx1 vcV (modeCfg ++ one [rt [("mode", .tag "fast")]])) = some .cfgNotRoute := by decide +kernel

def modeRoute : TypeDecl :=
  { name := "Route", kind := .struct,
    fields := [{ name := "mode", ty := some (.leaf { ns := some "nb", name := "Mode", kw := [], nullable := false } []) },
               { name := "n", ty := some (kwRef "Int32" [("max_value", .int 9)]), hasDefault := true },
               { name := "s", ty := some (kwRef "String" [("max_length", .int 2)]), hasDefault := true }] }
def modeUnion : TypeDecl :=
  { name := "Mode", kind := .union false, fields := [{ name := "fast", ty := none }, { name := "big", ty := some (ref "String") }] }
def modeFiles : List File :=
  [{ ns := "stone_cfg", decls := [.imp "nb", .type modeRoute] }, { ns := "nb", decls := [.type modeUnion] }]

example : LegalFull rx1 vcV (modeFiles ++ one [rt [("mode", .tag "fast"), ("n", .int 9), ("s", .str "ab")]]) = true ∧
    LegalFull rx1 vcV (modeFiles ++ one [rt [("mode", .tag "other")]]) = true := by decide +kernel

example : errOf (compileFull rx1 vcV (modeFiles ++ one [rt [("mode", .tag "slow")]])) = some .attrValue ∧      -- unknown tag
    errOf (compileFull rx1 vcV (modeFiles ++ one [rt [("mode", .tag "big")]])) = some .attrValue ∧             -- a tag with a value
    errOf (compileFull rx1 vcV (modeFiles ++ one [rt [("mode", .str "fast")]])) = some .attrValue ∧            -- not a tag
    errOf (compileFull rx1 vcV (modeFiles ++ one [rt [("mode", .tag "fast"), ("n", .int 10)]])) = some .attrValue ∧
    errOf (compileFull rx1 vcV (modeFiles ++ one [rt [("mode", .tag "fast"), ("n", .bool true)]])) = some .attrValue ∧
    errOf (compileFull rx1 vcV (modeFiles ++ one [rt [("mode", .tag "fast"), ("n", .null)]])) = some .attrValue ∧
    errOf (compileFull rx1 vcV (modeFiles ++ one [rt [("mode", .tag "fast"), ("s", .str "abc")]])) = some .attrValue ∧
    LegalFull rx1 vcV (modeFiles ++ one [rt [("mode", .tag "fast"), ("s", .str "abc")]]) = false :=
  -- the seven refusals are decided as one conjunction, which shares `modeFiles`
  (fun (h : _ ∧ _ ∧ _ ∧ _ ∧ _ ∧ _ ∧ _) =>
    ⟨h.1, h.2.1, h.2.2.1, h.2.2.2.1, h.2.2.2.2.1, h.2.2.2.2.2.1,
     refusedFull_not_legal (by decide +kernel) h.2.2.2.2.2.2⟩) (by decide +kernel)

end Examples

end StoneVerif.C01Compile
