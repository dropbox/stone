import StoneVerif.Lemmas.FeCompileFull
/-!
# C02 for the compile model: the Api is the image of the declarations

What `compile` (Model/FeCompile.lean: `IRGenerator.generate_IR` restricted to the type graph) returns is what the
declarations `denote` (docs/lang_ref.rst), closed, member by member the declared one, without cycles.
-/
namespace StoneVerif.C02Compile
open StoneVerif.FeCompile

/-- **Faithfulness.** Whenever the model of the IR generator accepts a set of spec files, the Api it builds -- types
with parents, members in declaration order with their type expressions, the implicit `other`, aliases, routes,
enumerated subtypes, per namespace in order of first mention -- is exactly what the declarations denote, whatever
the order in which types were populated on demand and aliases were set. -/
theorem compile_eq_denote (rx : String → Bool) (fs : List File) (api : Api) (h : compile rx fs = .ok api) :
    denote rx fs = some api :=
  L.compile_denote (L.compile_core h)

/-- **Closure.** Every (namespace, name) that a member type, an alias target, a route type (through List / Map /
Nullable), a parent link or an enumerated-subtype link of the compiled Api mentions is a data type -- respectively an
alias -- that the Api holds in the namespace it names (`Api.closed`, a decidable statement: the driver evaluates it on
every compiled case as well). -/
theorem api_closed (rx : String → Bool) (fs : List File) (api : Api) (h : compile rx fs = .ok api) :
    api.closed = true :=
  L.denote_closed (L.compile_denote (L.compile_core h))

/-- **Members.** Namespace by namespace (order of first mention), type by type (declaration order), member by member
(declaration order): the compiled Api lists exactly the declared types with exactly the declared members, each with
the type its declared type expression denotes, plus only the implicit `other` -- and that only for unions declared
open; aliases likewise with their declared targets. The declared members of a type are its own followed by those of
its patches, in the order of files and declarations (`mergeFiles`). -/
theorem fields_faithful (rx : String → Bool) (fs : List File) (api : Api) (h : compile rx fs = .ok api) :
    Faithful rx (mergeFiles fs) api :=
  L.denote_faithful (L.compile_denote (L.compile_core h))

/-- **Acyclicity.** In a compiled Api no type is its own ancestor, and no alias is reached from its own target
through aliases, List, Map and Nullable (`Path` = one or more steps).  For parents the proof reads it off
`UserDefined.set_attributes`, which walks up the parents of every type it enters (`while cur_type:`, in the model
`ancestorNames` on a bound): that walk came to an end.  For aliases it is the search of `Alias.set_attributes` against
the targets set so far, and that a target never changes once set.  (A struct or union MAY refer to itself through its
members: nothing is claimed there.) -/
theorem api_acyclic (rx : String → Bool) (fs : List File) (api : Api) (h : compile rx fs = .ok api) :
    (∀ k, ¬ Path api.parentEdge k k) ∧ (∀ k, ¬ Path api.aliasEdge k k) :=
  L.compile_acyclic (L.compile_core h)

/-- **Order independence of the image** (partial). Two accepted inputs that hold the same declarations in every
namespace once the patches are merged -- distributed over other files, files given in another order, declarations in
another order (`SameDecls` of the merged files; the members two patches add to one type follow the order of the
files) -- give every (namespace, name) the same data type (parent, members, catch-all) and the same alias.

Missing for the full statement `compile fs' ≈ compile fs`: that acceptance itself does not depend on the arrangement
(`compile fs = ok ↔ compile fs' = ok`: by `C01Compile.compile_ok_iff_legal` it is `Legal fs = Legal fs'`, which is
not proved; the suites layout / faithful test it), routes and enumerated-subtype tables per key, and the listing
orders (which DO follow the arrangement until Python's `Api.normalize` sorts them: `normalize_sorted`, Props/C02.lean). -/
theorem compile_order_independent_partial (rx : String → Bool) (fs fs' : List File) (api api' : Api)
    (h : compile rx fs = .ok api) (h' : compile rx fs' = .ok api') (hs : SameDecls (mergeFiles fs) (mergeFiles fs'))
    (k : Key) :
    api.type? k = api'.type? k ∧ api.alias? k = api'.alias? k :=
  L.compile_order_independent (L.compile_core h) (L.compile_core h') hs k

/-- **The fuel of the depth-first population suffices.** `populate` models the on-demand population of parents
(`_resolve_type(.., enforce_fully_defined=True)` with `_resolution_in_progress`) by recursion on explicit fuel. With
fuel = number of type declarations + 1 -- what `populateAll` gives it -- it never answers `outOfFuel`: each recursive call
moves a registered type that is not in progress into the in-progress set. (`outOfFuel` is raised nowhere else; the
walks along alias chains, ancestors and imports have their own bounds `fuelAlias` / `fuelAncestors` / `fuelImports`:
on legal input none of them is hit (`C01Compile.legal_accepted`); that an illegal input is never answered with one of
them is not proved, and the correspondence suite counts a model answer of that kind as a disagreement.) -/
theorem populate_fuel_sufficient (rx : String → Bool) (fs : List File) (E : Env) (h : buildEnv fs = .ok E)
    (st : St) (key : Key) (d : TypeDecl) :
    populate rx E (populateFuel E) [key] st key d ≠ .error .outOfFuel :=
  L.populate_fuel_sufficient (L.buildEnv_envOK h) st key d

/-- the built-in names the environment starts with are the classes of `IRGenerator.data_types` -/
theorem builtin_names_table : Tables.feBuiltinTypes = FeParams.TyKind.all.map (·.pyName) := rfl

/-- the reserved tag name: what `_populate_union_type_attributes` refuses as a declared tag and what it creates the
implicit catch-all under are the same name, the one the model uses -/
theorem catch_all_table :
    Tables.feCatchAllReserved = [otherField.name] ∧ Tables.feCatchAllCreated = [otherField.name] := ⟨rfl, rfl⟩

/-- a built-in annotation type cannot be redefined (`Tables.feBuiltinAnnotations` is consulted) -/
theorem builtin_annotation_refused (name : String) (hn : name ∈ Tables.feBuiltinAnnotations) (st : RegSt) (ns : String)
    (hfree : lookupSym st.items ns name = none) : regDecl st ns (.annotType name) = .error .builtinAnnotation := by
  simp only [regDecl, hfree]
  simp [hn]

section Examples

def href (n : String) (nullable := false) : RefHead := { ns := none, name := n, kw := [], nullable := nullable }

/-- two files of one namespace, a forward parent in another namespace, an open union below a closed one, an alias
used before it is declared, a patch (under another spelling of the canonical name) -/
def sample : List File := [
  { ns := "na", decls := [
      .imp "nb",
      .type { name := "S", kind := .struct, «extends» := some (.leaf { ns := some "nb", name := "T", kw := [], nullable := false } []),
              fields := [{ name := "x", ty := some (.app1 (href "List") (.leaf (href "A" true) [])) }] },
      .alias "B" (.app2 (href "Map") (.leaf (href "String") []) (.leaf (href "A" true) [])),
      .alias "A" (.leaf (href "U") []) ] },
  { ns := "nb", decls := [
      .type { name := "T", kind := .struct, fields := [{ name := "y", ty := some (.leaf (href "Int32") []) }] } ] },
  { ns := "na", decls := [
      .type { name := "U", kind := .union false, «extends» := some (.leaf (href "V") []),
              fields := [{ name := "a", ty := none }] },
      .type { name := "V", kind := .union true, fields := [{ name := "b", ty := some (.leaf (href "S") []) }] },
      .route { name := "r", version := 1, arg := .leaf (href "S") [], result := .leaf (href "Void") [],
               error := some (.leaf (href "U") []) },
      .patch { name := "u", kind := .union false, fields := [{ name := "p", ty := some (.leaf (href "B") []) }] } ] } ]

def sampleApi : Api :=
  let void : Ty := .prim (.plain .void)
  { nss := [
    { name := "na",
      types := [
        ("S", { isStruct := true, parent := some ("nb", "T"),
                fields := [{ name := "x", ty := .list (.nullable (.alias ("na", "A"))) none none }] }),
        ("U", { isStruct := false, parent := some ("na", "V"),
                fields := [{ name := "a", ty := void }, { name := "p", ty := .alias ("na", "B") },
                           { name := "other", ty := void }],
                catchAll := true }),
        ("V", { isStruct := false, closed := true, fields := [{ name := "b", ty := .user ("na", "S") }] })],
      aliases := [("B", .map (.prim (.string none none none)) (.nullable (.alias ("na", "A")))),
                  ("A", .user ("na", "U"))],
      routes := [{ name := "r", version := 1, arg := .user ("na", "S"), result := void, error := .user ("na", "U") }],
      enums := [] },
    { name := "nb",
      types := [("T", { isStruct := true, fields := [{ name := "y", ty := .prim (.int .int32 none none) }] })],
      aliases := [], routes := [], enums := [] }] }

/-- evaluated once; the examples below read the result -/
theorem sample_compiled : compile (fun _ => true) sample = .ok sampleApi := by
  have h : (compile (fun _ => true) sample).toOption = some sampleApi := by decide +kernel
  cases hc : compile (fun _ => true) sample with
  | error e => rw [hc] at h; cases h
  | ok a => rw [hc] at h; cases h; rfl

example : (compile (fun _ => true) sample).toOption.isSome = true := by rw [sample_compiled]; rfl

example : (compile (fun _ => true) sample).toOption = denote (fun _ => true) sample := by
  rw [sample_compiled]; decide +kernel

example : ((compile (fun _ => true) sample).toOption.map (·.closed)) = some true := by
  rw [sample_compiled]; decide +kernel

/-- the relations `api_acyclic` speaks about are inhabited on the sample: `na.S` has the parent `nb.T`, `na.U` the
parent `na.V`; the alias `na.B` mentions the alias `na.A` -/
example : (compile (fun _ => true) sample).toOption.map (fun api =>
    ((api.type? ("na", "S")).bind (·.parent), (api.type? ("na", "U")).bind (·.parent),
     (api.alias? ("na", "B")).map (·.aliases))) =
    some (some ("nb", "T"), some ("na", "V"), some [("na", "A")]) := by rw [sample_compiled]; decide +kernel

/-- the files of the sample in reverse order are accepted too and give `na.S` the same image (the
conclusion of `compile_order_independent_partial` at one key, evaluated; `nb.T` is populated first instead of on demand) -/
example : ((compile (fun _ => true) sample.reverse).toOption.bind (·.type? ("na", "S"))).isSome = true ∧
    (compile (fun _ => true) sample.reverse).toOption.bind (·.type? ("na", "S")) =
      (compile (fun _ => true) sample).toOption.bind (·.type? ("na", "S")) := by rw [sample_compiled]; decide +kernel

example : (buildEnv sample).toOption.map populateFuel = some 5 := by decide +kernel

def errOf {α} : Except Err α → Option Err
  | .error e => some e
  | .ok _ => none

/-- a refused input: the statement is not about a model that accepts everything -/
example : errOf (compile (fun _ => true)
    [{ ns := "na", decls := [.alias "A" (.app1 (href "List") (.leaf (href "A") []))] }]) = some .aliasCycle := by
  decide +kernel

example : errOf (compile (fun _ => true)
    [{ ns := "na", decls := [.type { name := "S", kind := .struct, «extends» := some (.leaf (href "T") []) },
                             .type { name := "T", kind := .struct, «extends» := some (.leaf (href "S") []) }] }])
    = some .circular := by
  decide +kernel

end Examples

end StoneVerif.C02Compile
