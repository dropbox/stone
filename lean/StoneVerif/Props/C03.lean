import StoneVerif.Lemmas.FeParams
import StoneVerif.Lemmas.FeNames
import StoneVerif.Lemmas.CliReport
/-!
# C03 — arbitrary text ends in an API description or a spec error: the proved part

The statement for whole specs and arbitrary text is covered by crash fuzzing of the real `specs_to_ir`
(`harness/suites/fe_fuzz.py`, the injections of C01) and is labelled testing.  Proved here: the crash layer of the two
component models (`FeParams.instantiate`, `FeNames.register`), which make Python's partiality explicit (`FeErr.crash`,
`Err.crash`).  Both are total Lean functions: termination is by construction.

The crash sites earlier versions of the code had (`List(T, min_items="a")`; a name clash that involves an annotation;
a definition named like a built-in type, a route or an annotation type) were repaired in the code; regression
statements record the new behaviour.

The last sentence of the property ("the command line always answers a bad spec with `path:line: error: message`") is
proved for the format operation that the `except InvalidSpec` handler of `stone.cli.main` holds - the translator copies
it from the handler as data, `Model/CliReport.lean` interprets Python's `str.format` / `%` on it with their partiality
explicit - for every value the three fields of an `InvalidSpec` can take (`cli_answers_spec_error`).  That the handler
is reached with exactly those values is tested (`fe.report`), not proved.
-/
namespace StoneVerif.C03
open StoneVerif.FeParams StoneVerif.FeNames

/-- Type instantiation (`_instantiate_data_type` + the `__init__` checks) ends in a type or in the spec error, for
every built-in type and every argument list. -/
theorem instantiate_no_crash (rx : String → Bool) (k : TyKind) (pos : List Arg) (kw : List (String × Arg)) :
    ∀ e, instantiate rx k pos kw ≠ .error (.crash e) :=
  FeParams.instantiate_no_crash rx k pos kw

/-- The same for a whole reference `K(args)` / `K(args)?`. -/
theorem resolveBuiltin_no_crash (rx : String → Bool) (k : TyKind) (pos : List Arg) (kw : List (String × Arg))
    (nullable : Bool) : ∀ e, resolveBuiltin rx k pos kw nullable ≠ .error (.crash e) :=
  FeParams.resolveBuiltin_no_crash rx k pos kw nullable

/-- Repaired: `List(String, min_items="a")`, `min_items=null`, `max_items=Int32` (were `TypeError`s from `<`). -/
theorem list_min_items_str_refused :
    instantiate (fun _ => true) .list [.ty true] [("min_items", .str "a")] = .error (.specerr .badArgument) ∧
    instantiate (fun _ => true) .list [.ty true] [("min_items", .null)] = .error (.specerr .badArgument) ∧
    instantiate (fun _ => true) .list [.ty true] [("max_items", .ty false)] = .error (.specerr .badArgument) := by
  decide +kernel

/-- non-vacuity: the model of the constructor call can fail (a call with the wrong number of arguments is a
`TypeError`); `instantiate_no_crash` says the bookkeeping in front of the call excludes it -/
example : construct (fun _ => true) .list [] [] = .error (.crash .typeError) := by decide +kernel

/-- Name registration ends in a state or in the spec error, for every list of files. -/
theorem register_no_crash (fs : List File) : ∀ e, register fs ≠ .error (.crash e) :=
  FeNames.register_no_crash fs

/-- non-vacuity: the model can fail (`min` of an empty `at_version`), from a state the pass never builds -/
example : addItem { env := [(("a".toList, "r".toList), .routes [])] } "a".toList ⟨.type, "r".toList⟩
    = .error (.crash .valueError) := FeNames.addItem_crashes

/-- Repaired: a clash that involves an annotation (was `AssertionError`). -/
theorem annotation_clash_refused :
    register [⟨"a".toList, [⟨.annotation, "Foo".toList⟩, ⟨.type, "foo".toList⟩]⟩] = .error (.specerr .nameConflict) :=
  FeNames.crash_sites_refused.1

/-- Repaired: `struct String` (was `AttributeError`: the message read `_ast_node` of a class). -/
theorem builtin_redefined_refused :
    register [⟨"a".toList, [⟨.type, "String".toList⟩]⟩] = .error (.specerr .symbolDefined) :=
  FeNames.crash_sites_refused.2.1

/-- Repaired: `route r` then `struct r`; `annotation_type T` then `struct T` (were `AttributeError`s). -/
theorem taken_name_refused :
    register [⟨"a".toList, [⟨.route 1, "r".toList⟩, ⟨.type, "r".toList⟩]⟩] = .error (.specerr .symbolDefined) ∧
    register [⟨"a".toList, [⟨.annotationType, "T".toList⟩, ⟨.type, "T".toList⟩]⟩] = .error (.specerr .symbolDefined) :=
  FeNames.crash_sites_refused.2.2.2.2.2

/-- For every `InvalidSpec` - with or without a path, with or without a line - the format operation of the handler in
`stone.cli.main` (`Tables.cliSpecErrorStyle / Template / Fields`) raises nothing and yields `path:line: error: message`. -/
theorem cli_answers_spec_error (e : CliReport.SpecErr) :
    ∃ out, CliReport.cliAnswer e = .ok out ∧ CliReport.Answers out e := by
  refine ⟨_, CliReport.cliAnswer_eq e, CliReport.pyStr (CliReport.pathVal e), CliReport.pyStr (CliReport.lineVal e), rfl, ?_, ?_⟩
  · intro p hp; simp [CliReport.pathVal, hp]
  · intro l hl; simp [CliReport.lineVal, hl, CliReport.pyStr]

/-- ... in particular no exception escapes the handler, whatever the fields hold. -/
theorem cli_answer_no_crash (e : CliReport.SpecErr) : ∀ x, CliReport.cliAnswer e ≠ .error (.crash x) := by
  intro x h
  rw [CliReport.cliAnswer_eq] at h
  cases h

/-- the answer goes to stderr and the handler ends with `sys.exit(1)` -/
theorem cli_spec_error_status : Tables.cliSpecErrorExit = 1 ∧ Tables.cliSpecErrorStream = "sys.stderr" :=
  ⟨rfl, rfl⟩

/-- Why `str.format` with `{}` fields is safe here whatever the template: it does not look at the kind of a value
(whether it raises depends on the template and the number of arguments only), so a line or a path that is `None`
cannot make a difference. -/
theorem format_style_kind_blind (t : List Char) (as bs : List CliReport.PyVal) (h : as.length = bs.length) :
    (CliReport.runFormat t as).isOk = (CliReport.runFormat t bs).isOk :=
  CliReport.runFormat_kind_blind t as bs h

/-- non-vacuity: errors without a line (the text ends where the grammar needs more), without line and path (nesting
beyond the recursion limit) and with both -/
example : CliReport.cliAnswer ⟨some "a.stone".toList, none, "Unexpected end of file.".toList⟩
    = .ok "a.stone:None: error: Unexpected end of file.".toList := by
  -- `String.toList_ofList` reads the characters of the literals off, so that `decide` compares lists of characters
  rw [CliReport.cliAnswer_eq]; repeat rw [String.toList_ofList]
  decide +kernel
example : CliReport.cliAnswer ⟨none, none, "The specs nest too deeply.".toList⟩
    = .ok "None:None: error: The specs nest too deeply.".toList := by
  rw [CliReport.cliAnswer_eq]; repeat rw [String.toList_ofList]
  decide +kernel
example : CliReport.cliAnswer ⟨some "a.stone".toList, some 3, "Symbol 'X' is undefined.".toList⟩
    = .ok "a.stone:3: error: Symbol 'X' is undefined.".toList := by
  rw [CliReport.cliAnswer_eq]; repeat rw [String.toList_ofList]
  decide +kernel

/-- the model can fail: the `%` operation is not kind blind - `%d` of a line that is `None` is a TypeError, and
`cli_answers_spec_error` would be false of a handler that holds it -/
example : CliReport.run "percent" "%s:%d: error: %s".toList [.str "a.stone".toList, .none, .str "m".toList]
    = .error (.crash .typeError) := by
  repeat rw [String.toList_ofList]
  decide +kernel
example : CliReport.run "percent" "%s:%d: error: %s".toList [.str "a".toList, .int 3, .str "m".toList]
    = .ok "a:3: error: m".toList := by
  repeat rw [String.toList_ofList]
  decide +kernel
example : CliReport.run "format" "{}:{}: error: {}".toList [.str "a".toList, .none] = .error (.crash .indexError) := by
  repeat rw [String.toList_ofList]
  decide +kernel

end StoneVerif.C03
