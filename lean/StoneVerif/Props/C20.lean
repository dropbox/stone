import StoneVerif.Lemmas.GraphComplete
/-!
# C20 — a route whitelist yields a dependency-closed, minimal API

`Edge` is the dependency relation of the property text, `closure g seeds` the reference closure
(fuel = number of nodes), `whitelistFilter` the code-following model of
`IRGenerator._filter_namespaces_by_route_whitelist`.

Side conditions (all decidable, evaluated by the driver on every dump, `Model/Graph.lean`):
* `refsOk` - the dump is well formed (ids as documented, references name nodes);
* `docsAgree` - every doc string the walk parses yields, in the namespace it is parsed in, what its
  references denote where they were written;
* `tagDefaultsOk` - the union of a tag default is the unwrapped type of its field.

`routeDocsClosed` and `seedDocRoutesKept` (no doc mentions a route outside the whitelist) are hypotheses of no theorem:
the walk follows those doc edges. The regression examples below evaluate them to `false` on graphs where the
conclusions hold.
-/
namespace StoneVerif.C20
open StoneVerif.Graph

theorem edge_iff_mem_succ (g : Graph) (a b : Id) : Edge g a b ↔ b ∈ succ g a := by
  have hdoc : ∀ {ns : String} {refs : List DocRef}, b ∈ docTargets g ns refs ↔ ∃ r ∈ refs, b ∈ refTargets g ns r :=
    List.mem_flatMap
  constructor
  · intro h
    have own : ∀ {n}, g.node? a = some n → b ∈ n.ownHard → b ∈ succ g a := fun hn h =>
      mem_succ.2 ⟨_, hn, Node.mem_succ.2 (.inl (.inr (.inl h)))⟩
    cases h with
    | fieldType hn ht hf hb => exact mem_succ.2 ⟨_, hn, Node.mem_succ.2 (.inl (.inl ⟨ht, _, hf, .inl hb⟩))⟩
    | parent hn ht hp => exact own hn (Node.mem_ownHard.2 (.inl ⟨ht, hp⟩))
    | subtype hn hk hb => exact own hn (Node.mem_ownHard.2 (.inr (.inl ⟨hk, hb⟩)))
    | aliasTarget hn hk hb => exact own hn (Node.mem_ownHard.2 (.inr (.inr (.inl ⟨hk, hb⟩))))
    | routeArg hn hk hb => exact own hn (Node.mem_ownHard.2 (.inr (.inr (.inr ⟨hk, .inl hb⟩))))
    | routeResult hn hk hb => exact own hn (Node.mem_ownHard.2 (.inr (.inr (.inr ⟨hk, .inr (.inl hb)⟩))))
    | routeError hn hk hb => exact own hn (Node.mem_ownHard.2 (.inr (.inr (.inr ⟨hk, .inr (.inr hb)⟩))))
    | tagDefault hn hk hf hb => exact mem_succ.2 ⟨_, hn, Node.mem_succ.2 (.inr ⟨hk, _, hf, hb⟩)⟩
    | docRef hn hr hb =>
      exact mem_succ.2 ⟨_, hn, Node.mem_succ.2 (.inl (.inr (.inr (hdoc.2 ⟨_, hr, hb⟩))))⟩
    | fieldDocRef hn ht hf hr hb =>
      exact mem_succ.2 ⟨_, hn, Node.mem_succ.2 (.inl (.inl ⟨ht, _, hf, .inr (hdoc.2 ⟨_, hr, hb⟩)⟩))⟩
  · intro h
    obtain ⟨n, hn, h⟩ := mem_succ.1 h
    rcases Node.mem_succ.1 h with (⟨ht, f, hf, hb | hb⟩ | h | hb) | ⟨hk, f, hf, hb⟩
    · exact .fieldType hn ht hf hb
    · obtain ⟨r, hr, hb⟩ := hdoc.1 hb
      exact .fieldDocRef hn ht hf hr hb
    · rcases Node.mem_ownHard.1 h with ⟨ht, hp⟩ | ⟨hk, hb⟩ | ⟨hk, hb⟩ | ⟨hk, hb | hb | hb⟩
      · exact .parent hn ht hp
      · exact .subtype hn hk hb
      · exact .aliasTarget hn hk hb
      · exact .routeArg hn hk hb
      · exact .routeResult hn hk hb
      · exact .routeError hn hk hb
    · obtain ⟨r, hr, hb⟩ := hdoc.1 hb
      exact .docRef hn hr hb
    · exact .tagDefault hn hk hf hb

theorem closure_contains_seeds (g : Graph) (S : List Id) : ∀ s ∈ S, s ∈ closure g S :=
  closureBy_contains _ _ S

theorem closure_least (g : Graph) (S : List Id) (T : Id → Prop) (hS : ∀ s ∈ S, T s)
    (hT : ∀ t u, T t → Edge g t u → T u) : ∀ x ∈ closure g S, T x :=
  closureBy_least T (fun a ha b hb => hT a b ha ((edge_iff_mem_succ g a b).2 hb)) _ hS

theorem closure_stable (g : Graph) (hwf : g.refsOk = true) (S : List Id) (hS : ∀ s ∈ S, s ∈ g.ids) :
    Stable (succ g) (· ∈ closure g S) :=
  closureBy_stable g.ids (fun _ _ _ hb => succ_ids hwf hb) hS (by simp [Graph.ids])

/-- The fuel bound (number of nodes) suffices: `closure g S` is closed under the dependency
relation, on a well-formed dump, for seeds that are ids of the dump. -/
theorem closure_closed (g : Graph) (hwf : g.refsOk = true) (S : List Id) (hS : ∀ s ∈ S, s ∈ g.ids) :
    ∀ t ∈ closure g S, ∀ u, Edge g t u → u ∈ closure g S :=
  fun t ht u he => closure_stable g hwf S hS t ht u ((edge_iff_mem_succ g t u).1 he)

theorem closure_mono (g : Graph) (hwf : g.refsOk = true) (S S' : List Id) (hS' : ∀ s ∈ S', s ∈ g.ids)
    (h : ∀ s ∈ S, s ∈ S') : ∀ x ∈ closure g S, x ∈ closure g S' :=
  closure_least g S (· ∈ closure g S') (fun s hs => closure_contains_seeds g S' s (h s hs))
    (fun t u ht he => closure_closed g hwf S' hS' t ht u he)

theorem seeds_are_ids (g : Graph) (hwf : g.refsOk = true) (wl : Whitelist) : ∀ s ∈ seeds g wl, s ∈ g.ids := by
  intro s hs
  have hns : ∀ ns, s ∈ nsDocSeeds g ns → s ∈ g.ids := by
    intro ns h
    simp only [nsDocSeeds] at h
    split at h
    · exact docTargets_ids h
    · simp at h
  rcases mem_seeds.1 hs with ⟨p, _, h | h⟩ | ⟨p, _, h | h⟩
  · exact hns _ h
  · obtain ⟨nd, hnd, _⟩ := wlRouteIds_route hwf h
    exact mem_ids_of_node hnd
  · exact hns _ h
  · obtain ⟨t, _, h⟩ := List.mem_flatMap.1 h
    exact typeByName_ids h

/-- `struct S`, `struct T`, `alias TA = T`, `route r (S, Void, Void)` (this and the graphs below: the hand-written specs
`harness/specs/graph_m*`) -/
def gAlias : Graph :=
  { nodes := [
      { id := "a.S", kind := .struct, ns := "a", name := "S", fields := [{ name := "f" }] },
      { id := "a.T", kind := .struct, ns := "a", name := "T", fields := [{ name := "g" }] },
      { id := "a.TA", kind := .alias, ns := "a", name := "TA", target := .ref "a.T" },
      { id := "a.r:1", kind := .route, ns := "a", name := "r", arg := .ref "a.S" }],
    namespaces := [{ name := "a", routes := ["a.r:1"], dataTypes := ["a.S", "a.T"], aliases := ["a.TA"] }] }

/-- `struct Arg "Compare :route:`other`."`, `route main (Arg, ..)`,
`route other (OtherArg, ..) "Uses :type:`Mentioned`."` -/
def gRouteDoc : Graph :=
  { nodes := [
      { id := "d.Arg", kind := .struct, ns := "d", name := "Arg", fields := [{ name := "a" }],
        docRefs := [{ tag := "route", val := "other" }] },
      { id := "d.OtherArg", kind := .struct, ns := "d", name := "OtherArg", fields := [{ name := "b" }] },
      { id := "d.Mentioned", kind := .struct, ns := "d", name := "Mentioned", fields := [{ name := "c" }] },
      { id := "d.main:1", kind := .route, ns := "d", name := "main", arg := .ref "d.Arg" },
      { id := "d.other:1", kind := .route, ns := "d", name := "other", arg := .ref "d.OtherArg",
        docRefs := [{ tag := "type", val := "Mentioned" }] }],
    namespaces := [{ name := "d", routes := ["d.main:1", "d.other:1"],
                     dataTypes := ["d.Arg", "d.OtherArg", "d.Mentioned"] }] }

/-- `route main (Arg, ..) "See :route:`see_also:2`."`, `route see_also:2 (SeeArg, ..)` -/
def gSeedDoc : Graph :=
  { nodes := [
      { id := "e.Arg", kind := .struct, ns := "e", name := "Arg", fields := [{ name := "a" }] },
      { id := "e.SeeArg", kind := .struct, ns := "e", name := "SeeArg", fields := [{ name := "c" }] },
      { id := "e.main:1", kind := .route, ns := "e", name := "main", arg := .ref "e.Arg",
        docRefs := [{ tag := "route", val := "see_also:2" }] },
      { id := "e.see_also:2", kind := .route, ns := "e", name := "see_also", version := 2, arg := .ref "e.SeeArg" }],
    namespaces := [{ name := "e", routes := ["e.main:1", "e.see_also:2"], dataTypes := ["e.Arg", "e.SeeArg"] }] }

/-- namespace `base`: `struct P { f String "Documented with :type:`Q`." }`, `struct Q`;
namespace `derived`: `struct C extends base.P`, `struct Q`, `route r (C, ..)` -/
def gInherit : Graph :=
  { nodes := [
      { id := "base.P", kind := .struct, ns := "base", name := "P",
        fields := [{ name := "f", docRefs := [{ tag := "type", val := "Q" }] }] },
      { id := "base.Q", kind := .struct, ns := "base", name := "Q", fields := [{ name := "g" }] },
      { id := "derived.C", kind := .struct, ns := "derived", name := "C", parent := some "base.P",
        fields := [{ name := "h" }] },
      { id := "derived.Q", kind := .struct, ns := "derived", name := "Q", fields := [{ name := "x" }] },
      { id := "derived.r:1", kind := .route, ns := "derived", name := "r", arg := .ref "derived.C" }],
    namespaces := [{ name := "base", dataTypes := ["base.P", "base.Q"] },
                   { name := "derived", routes := ["derived.r:1"], dataTypes := ["derived.C", "derived.Q"] }] }

/-- the same without `derived.Q`: the real filter raises `KeyError('Q')` -/
def gInheritCrash : Graph :=
  { gInherit with
    nodes := gInherit.nodes.filter (fun n => n.id != "derived.Q")
    namespaces := [{ name := "base", dataTypes := ["base.P", "base.Q"] },
                   { name := "derived", routes := ["derived.r:1"], dataTypes := ["derived.C"] }] }

def wlOne (ns r : String) : Whitelist := { routes := [(ns, [r])], datatypes := [] }

def typesOf (g : Graph) (wl : Whitelist) : Option (List Id) := (whitelistFilter g wl).toOption.map (·.types)
def routesOf (g : Graph) (wl : Whitelist) : Option (List Id) := (whitelistFilter g wl).toOption.map (·.routes)
def aliasesOf (g : Graph) (wl : Whitelist) : Option (List Id) := (whitelistFilter g wl).toOption.map (·.aliases)

/-- Minimality: no data type and no route outside the closure is retained. -/
theorem filter_subset_closure (g : Graph) (wl : Whitelist) (r : Filtered) (hwf : g.refsOk = true)
    (hda : docsAgree g = true) (h : whitelistFilter g wl = .ok r) :
    (∀ t ∈ r.types, t ∈ closure g (seeds g wl)) ∧ (∀ rt ∈ r.routes, rt ∈ closure g (seeds g wl)) :=
  filter_sound hwf hda h (closure_stable g hwf _ (seeds_are_ids g hwf wl)) (closure_contains_seeds g _)

/-- Regression: an inherited member's doc used to be read in the namespace of the child, so that `derived.Q` was
retained instead of `base.Q` and `docsAgree` failed on real dumps. The walk reads it with its owner: the dump satisfies
`docsAgree` and the retained data types are those of the closure. -/
example : gInherit.refsOk = true ∧ docsAgree gInherit = true ∧
    typesOf gInherit (wlOne "derived" "r") = some ["derived.C", "base.P", "base.Q"] ∧
    closure gInherit (seeds gInherit (wlOne "derived" "r")) = ["derived.r:1", "derived.C", "base.P", "base.Q"] := by
  decide +kernel

/-- ... and when the child namespace has no such name the filter used to fail with `KeyError('Q')`; it succeeds. -/
example : typesOf gInheritCrash (wlOne "derived" "r") = some ["derived.C", "base.P", "base.Q"] := by decide +kernel

/--
On a well-formed dump the data types retained by `whitelistFilter` are exactly those of `closure g (seeds g wl)`.
(Before the walk was repaired in /repo the statement was FALSE of the code for the docs of
routes that are kept because a doc refers to them and for docs of inherited members.)
-/
theorem filter_eq_closure (g : Graph) (wl : Whitelist) (r : Filtered) (hwf : g.refsOk = true)
    (hda : docsAgree g = true) (htd : tagDefaultsOk g = true)
    (h : whitelistFilter g wl = .ok r) :
    ∀ t, t ∈ r.types ↔ (t ∈ closure g (seeds g wl) ∧ g.isTypeId t = true) := by
  obtain ⟨st, hrun, e1, _, _⟩ := filterRun_of_ok hwf hda h
  intro t
  constructor
  · intro ht
    exact ⟨(filter_subset_closure g wl r hwf hda h).1 t ht, ((hrun.inv.types t).1 (e1 ▸ ht)).2⟩
  · rintro ⟨hc, hty⟩
    rw [e1]
    rcases closureBy_least _ (known_closed hwf hda htd hrun) _ (seeds_known hrun) t hc with hk | hk
    · exact (hrun.inv.types t).2 ⟨hk, hty⟩
    · -- a whitelisted route is no data type
      obtain ⟨n, hn, ht⟩ := isTypeId_iff.1 hty
      simp [Node.isType, wlAllRouteIds_kind hwf hk hn] at ht

/-- non-vacuity: the hypotheses of `filter_eq_closure` hold on a graph where the filter removes a type -/
example : gAlias.refsOk = true ∧ docsAgree gAlias = true ∧ tagDefaultsOk gAlias = true ∧
    typesOf gAlias (wlOne "a" "r") = some ["a.S"] := by decide +kernel

/-- Regression (`routeDocsClosed` fails here): `d.other` is kept because the doc of `d.Arg` refers to it; its own doc
refers to `d.Mentioned`, which is in the closure - and is retained. -/
example : gRouteDoc.refsOk = true ∧ docsAgree gRouteDoc = true ∧ routeDocsClosed gRouteDoc (wlOne "d" "main") = false ∧
    typesOf gRouteDoc (wlOne "d" "main") = some ["d.Arg", "d.OtherArg", "d.Mentioned"] ∧
    routesOf gRouteDoc (wlOne "d" "main") = some ["d.main:1", "d.other:1"] ∧
    "d.Mentioned" ∈ closure gRouteDoc (seeds gRouteDoc (wlOne "d" "main")) := by decide +kernel

/--
The routes retained are exactly the routes of the closure. (Before the repair in /repo a route referred to by the doc of
a whitelisted route or namespace contributed its types and was dropped itself.)
-/
theorem filter_routes_eq_closure (g : Graph) (wl : Whitelist) (r : Filtered) (hwf : g.refsOk = true)
    (hda : docsAgree g = true) (htd : tagDefaultsOk g = true) (h : whitelistFilter g wl = .ok r) :
    ∀ x, x ∈ r.routes ↔ (x ∈ closure g (seeds g wl) ∧ g.isRouteId x = true) := by
  obtain ⟨st, hrun, _, hmem, _⟩ := filterRun_of_ok hwf hda h
  intro x
  constructor
  · intro hx
    refine ⟨(filter_subset_closure g wl r hwf hda h).2 x hx, ?_⟩
    rcases (hmem x).1 hx with h' | h'
    · obtain ⟨_, _, _, nd, hnd, hkr, _⟩ := wlAllRouteIds_route hwf h'
      exact isRouteId_iff.2 ⟨nd, hnd, by simp [Node.isRoute, hkr]⟩
    · exact ((hrun.inv.routes x).1 h').2
  · rintro ⟨hc, hr⟩
    have hk := closureBy_least _ (known_closed hwf hda htd hrun) _ (seeds_known hrun) x hc
    rcases hk with hk | hk
    · exact (hmem x).2 (Or.inr ((hrun.inv.routes x).2 ⟨hk, hr⟩))
    · exact (hmem x).2 (Or.inl hk)

/-- Regression (`seedDocRoutesKept` fails here): `e.see_also:2` is referred to by the doc of the whitelisted `e.main`;
its argument type used to be retained and the route not - both are. -/
example : gSeedDoc.refsOk = true ∧ docsAgree gSeedDoc = true ∧
    seedDocRoutesKept gSeedDoc (wlOne "e" "main") = false ∧
    typesOf gSeedDoc (wlOne "e" "main") = some ["e.Arg", "e.SeeArg"] ∧
    routesOf gSeedDoc (wlOne "e" "main") = some ["e.main:1", "e.see_also:2"] ∧
    "e.see_also:2" ∈ closure gSeedDoc (seeds gSeedDoc (wlOne "e" "main")) := by decide +kernel

/-- every whitelisted route (`"*"` = all routes of the namespace, `name`, `name:version`) is retained -/
theorem routes_kept (g : Graph) (wl : Whitelist) (r : Filtered) (hwf : g.refsOk = true)
    (hda : docsAgree g = true) (h : whitelistFilter g wl = .ok r) :
    ∀ p ∈ wl.routes, ∀ rt ∈ wlRouteIds g p.1 p.2, rt ∈ r.routes := by
  obtain ⟨st, hrun, _, e2, _⟩ := filterRun_of_ok hwf hda h
  intro p hp rt hrt
  exact (e2 rt).2 (Or.inl (List.mem_flatMap.2 ⟨p, hp, hrt⟩))

theorem types_kept (g : Graph) (wl : Whitelist) (r : Filtered) (hwf : g.refsOk = true)
    (hda : docsAgree g = true) (h : whitelistFilter g wl = .ok r) :
    ∀ p ∈ wl.datatypes, ∀ name ∈ p.2, ∀ t, g.typeByName p.1 name = some t → t ∈ r.types := by
  obtain ⟨st, hrun, e1, _, _⟩ := filterRun_of_ok hwf hda h
  intro p hp name hname t ht
  rw [e1]
  have hs : Item.node t ∈ st.seen :=
    start_seen hrun (Or.inr ⟨p, hp, Or.inr (List.mem_flatMap.2 ⟨name, hname, by simp [ht]⟩)⟩)
  obtain ⟨n, hn, hty, _⟩ := typeByName_some ht
  exact (hrun.inv.types t).2 ⟨hs, isTypeId_iff.2 ⟨n, hn, hty⟩⟩

example : routesOf gAlias { routes := [("a", ["*"])], datatypes := [("a", ["T"])] } = some ["a.r:1"] ∧
    typesOf gAlias { routes := [("a", ["*"])], datatypes := [("a", ["T"])] } = some ["a.S", "a.T"] := by decide +kernel

/-- Regression (D16, repaired in /repo by "a route whitelist drops the aliases of data types it
removed"): `alias TA = T` goes when `T` goes (hand spec
`graph_m1_alias`), and stays when `T` is whitelisted. -/
example : aliasesOf gAlias (wlOne "a" "r") = some [] ∧ typesOf gAlias (wlOne "a" "r") = some ["a.S"] ∧
    "a.T" ∈ hardRefs gAlias "a.TA" ∧
    aliasesOf gAlias { routes := [], datatypes := [("a", ["T"])] } = some ["a.TA"] := by decide +kernel

/-- the items the filtered Api shows to a backend -/
def Retained (r : Filtered) (a : Id) : Prop := a ∈ r.types ∨ a ∈ r.routes ∨ a ∈ r.aliases

theorem reached_aliases_retained (g : Graph) (wl : Whitelist) (r : Filtered) (hwf : g.refsOk = true)
    (hda : docsAgree g = true) (h : whitelistFilter g wl = .ok r) :
    ∀ a ∈ r.reachedAliases g, a ∈ r.aliases := by
  obtain ⟨st, hrun, e1, e2, e4, hals⟩ := filterRun_of_ok hwf hda h
  obtain ⟨hall, hmem⟩ := filterAliases_mem hals
  intro a ha
  obtain ⟨hit, hal⟩ := mem_reachedAliases.1 ha
  rw [e4] at hit
  obtain ⟨nd, hnd, hk⟩ := isAliasId_iff.1 hal
  have hin : a ∈ g.allAliases := mem_allAliases.2 ⟨nd, hnd, hk⟩
  obtain ⟨nd', b, hnd', hb⟩ := hall a hin
  rw [hnd] at hnd'; cases hnd'
  refine (hmem a).2 ⟨hin, nd, hnd, ?_⟩
  -- everything the walk marked: data types are retained, aliases keep their targets marked
  have hb' : b = true := targetRetained_of_closed (fun i => Item.node i ∈ st.seen)
    (fun i n hi hn ht => (hrun.inv.types i).2 ⟨hi, isTypeId_iff.2 ⟨n, hn, ht⟩⟩)
    (fun i n hi hn hal' c hc => known_walked hwf hda hrun (Or.inl hi) hn (Node.walked_of_target hal' hc))
    hb (fun c hc => known_walked hwf hda hrun (Or.inl hit) hnd (Node.walked_of_target hk hc))
  rw [← hb']; exact hb

/-- No dangling reference: every reference held by a retained item (field / tag types, parent, enumerated subtypes,
route signature, alias target) names a retained data type or alias - or, if the id is that of a route (no type
expression of a compiled Api names one), a retained route. -/
theorem no_dangling (g : Graph) (wl : Whitelist) (r : Filtered) (hwf : g.refsOk = true)
    (hda : docsAgree g = true) (h : whitelistFilter g wl = .ok r) :
    ∀ a, Retained r a → ∀ b ∈ hardRefs g a,
      ((b ∈ r.types ∨ b ∈ r.aliases) ∨ (g.isRouteId b = true ∧ b ∈ r.routes)) := by
  obtain ⟨st, hrun, e1, e2, e4, hals⟩ := filterRun_of_ok hwf hda h
  obtain ⟨hall, hmem⟩ := filterAliases_mem hals
  have hreached := reached_aliases_retained g wl r hwf hda h
  -- a marked node is a retained data type, a retained alias or a retained route
  have hseen : ∀ b, Item.node b ∈ st.seen →
      ((b ∈ r.types ∨ b ∈ r.aliases) ∨ (g.isRouteId b = true ∧ b ∈ r.routes)) := by
    intro b hb
    obtain ⟨kids, he, _⟩ := seen_node hrun.inv hb
    obtain ⟨n, hn⟩ := expand_node_some he
    rcases kind_cases n with h' | h' | h'
    · left; left
      rw [e1]
      exact (hrun.inv.types b).2 ⟨hb, isTypeId_iff.2 ⟨n, hn, h'.1⟩⟩
    · left; right
      exact hreached b (mem_reachedAliases.2 ⟨e4 ▸ hb, isAliasId_iff.2 ⟨n, hn, h'.2.1⟩⟩)
    · right
      have hr : g.isRouteId b = true := isRouteId_iff.2 ⟨n, hn, h'.2.2.1⟩
      exact ⟨hr, (e2 b).2 (Or.inr ((hrun.inv.routes b).2 ⟨hb, hr⟩))⟩
  intro a ha b hb
  rcases ha with ha | ha | ha
  · rw [e1] at ha
    exact hseen b (known_hardRefs hwf hda hrun (Or.inl ((hrun.inv.types a).1 ha).1) hb)
  · have hk : Known g wl st a := ((e2 a).1 ha).elim Or.inr fun ha => Or.inl ((hrun.inv.routes a).1 ha).1
    exact hseen b (known_hardRefs hwf hda hrun hk hb)
  · -- a retained alias: its check was positive
    left
    obtain ⟨hin, nd, hnd, hcheck⟩ := (hmem a).1 ha
    obtain ⟨nd', hnd', hal⟩ := mem_allAliases.1 hin
    rw [hnd] at hnd'; cases hnd'
    have hb' : b ∈ nd.target.refs := by simpa [hardRefs, hnd, Node.hardRefs, kind_of_isAlias hal] using hb
    have hkb := targetRetained_true hcheck b hb'
    obtain ⟨nb, hnb⟩ : ∃ nb, g.node? b = some nb := by cases hkb <;> exact ⟨_, ‹_›⟩
    cases hal' : nb.isAlias
    · left; rw [e1]; exact (hkb.inv hnb).1 hal'
    · right
      have hbin : b ∈ g.allAliases := mem_allAliases.2 ⟨nb, hnb, hal'⟩
      obtain ⟨nb', bb, hnb', hbb⟩ := hall b hbin
      rw [hnb] at hnb'; cases hnb'
      have : bb = true := targetRetained_of_closed (Kept g st.types)
        -- a data type is no alias
        (fun i n hi hn ht => (hi.inv hn).1 ((kind_cases n).elim (·.2.1) fun h => nomatch ht.symm.trans (h.elim (·.1) (·.1))))
        (fun i n hi hn hal => (hi.inv hn).2 hal) hbb ((hkb.inv hnb).2 hal')
      exact (hmem b).2 ⟨hbin, nb, hnb, by rw [← this]; exact hbb⟩

/-- every retained alias is an alias of the dump whose whole target expression is retained: nothing
is invented, and what is dropped is dropped because a data type it mentions was removed -/
theorem aliases_kept_iff (g : Graph) (wl : Whitelist) (r : Filtered) (hwf : g.refsOk = true)
    (hda : docsAgree g = true) (h : whitelistFilter g wl = .ok r) :
    ∀ a, a ∈ r.aliases ↔ (g.isAliasId a = true ∧ ∃ nd, g.node? a = some nd ∧
      targetRetained g r.types (g.dfsFuel 0) nd.target.refs = .ok true) := by
  obtain ⟨st, hrun, e1, e2, e4, hals⟩ := filterRun_of_ok hwf hda h
  obtain ⟨_, hmem⟩ := filterAliases_mem hals
  intro a
  rw [hmem a, e1]
  constructor
  · rintro ⟨hin, hrest⟩
    exact ⟨isAliasId_iff.2 (mem_allAliases.1 hin), hrest⟩
  · rintro ⟨hal, hrest⟩
    exact ⟨mem_allAliases.2 (isAliasId_iff.1 hal), hrest⟩

end StoneVerif.C20
