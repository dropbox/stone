import StoneVerif.Lemmas.DeclSwiftCover
/-!
C17 -- the Swift and Objective-C backends: what is declared, exactly once, and every user-type name that is used is
declared.

The theorems are about `StoneVerif.DeclSwift` (Model/DeclSwift.lean), the declaration-level model of
`swift_types`, `swift_types --objc`, `swift_client`, `swift_client --objc`, `obj_c_types`, `obj_c_client`; the model is
tied to the Python by the `decl.swift.*` correspondence suites (every naming function, every type mapper, the
declaration lists of the six invocations on generated specs).

A mapper names no user type outside `userTypes t` (`*_refs_closed`); hence every user-type reference of every declaration
names a type the API mentions (`refs_mentioned`), which under `ApiWF` the type backends declare (`refs_closed`).

Partial (see the notes beside the theorems): lexical well-formedness of the emitted text is not a theorem (scanned
on every emitted file by the harness); `itemKeys` lists the items of the three type backends -- for the client
backends the per-route coverage is `route_covered_swiftClient_partial`; the bodies of `.m` files are not modelled.
-/
namespace StoneVerif.C17
open StoneVerif StoneVerif.DeclSwift

/-- The literal tables and format strings the model was written from. -/
theorem tables_pinned :
    Tables.swiftFmtTypeStrings = ["{}.{}", "<{}>", "<{}, {}>", "?"] ∧
    Tables.swiftFmtObjcTypeStrings = ["DBX{}{}", "<{}>", "<String, {}>", "?"] ∧
    Tables.swiftFmtSerialTypeStrings = ["{}.{}Serializer", "<{}>", "<{}, {}>", "NullableSerializer"] ∧
    Tables.swiftFmtSerialObjStrings =
      ["{}.{}Serializer()", "({})", "({})", "(\"{}\")", "Serialization._{}", "NullableSerializer({})"] ∧
    Tables.swiftFmtFuncStrings = ["{}_v{}"] ∧
    Tables.swiftFormatCamelcaseStrings = ["", "_"] ∧
    Tables.objcFmtCamelStrings = ["", "_", "d", "D"] ∧
    Tables.objcFmtClassPrefixStrings = ["DB{}{}"] ∧
    Tables.objcFmtEnumNameStrings = ["DB{}{}{}"] ∧
    Tables.objcFmtTypeStrings = ["{}", "{} *", "<{}>", "<{}> *", "<NSString *, {}>", "<NSString *, {}> *", "nullable "] ∧
    Tables.objcFmtSerialClassStrings = ["{}Serializer"] ∧
    Tables.objcFmtRouteObjClassStrings = ["DB{}RouteObjects"] ∧
    Tables.objcFmtRoutesClassStrings = ["noauth", "user", "DB{}{}AuthRoutes"] ∧
    Tables.objcFmtRouteVarStrings = ["DB{}{}", "{}V{}"] ∧
    Tables.objcFmtRouteFuncStrings = ["{}V{}"] ∧
    Tables.objcReservedPrefixes = ["copy", "new"] ∧
    Tables.swiftSplitWordsCapitalizationRe = "^[a-z0-9]+|[A-Z][a-z0-9]+|[A-Z]+(?=[A-Z][a-z0-9])|[A-Z]+$" ∧
    Tables.swiftSplitWordsDashesRe = "[-_/]+" := by and_intros <;> rfl

/-- the primitive tables cover the same IR classes; `User` / `Alias` are no keys, so `tableOr` falls through for them -/
theorem tables_consistent :
    Tables.swiftTypeTable.map (·.1) = Tables.swiftObjcTypeTable.map (·.1) ∧
    Tables.swiftTypeTable.map (·.1) = Tables.swiftSerialTypeTable.map (·.1) ∧
    Tables.swiftTypeTable.map (·.1) = Tables.objcPrimitiveTable.map (·.1) ∧
    (Tables.objcSerialTable.map (·.1)).all (Tables.objcPrimitiveTable.map (·.1)).contains = true ∧
    (Tables.swiftTypeTable.map (·.1)).contains "User" = false ∧
    (Tables.swiftTypeTable.map (·.1)).contains "Alias" = false := by decide +kernel

theorem swType_refs_closed (t : Ty) : ∀ r ∈ (swType t).refs, ∀ q, r.typeQ? = some q → q ∈ t.userTypes :=
  swType_refs t

theorem swObjcType_refs_closed (t : Ty) (allowNullable : Bool) :
    ∀ r ∈ (swObjcType t allowNullable).refs, ∀ q, r.typeQ? = some q → q ∈ t.userTypes :=
  swObjcType_refs t allowNullable

theorem swSerialType_refs_closed (t : Ty) : ∀ r ∈ (swSerialType t).refs, ∀ q, r.typeQ? = some q → q ∈ t.userTypes :=
  swSerialType_refs t

theorem swSerialObj_refs_closed (t : Ty) : ∀ r ∈ (swSerialObj t).refs, ∀ q, r.typeQ? = some q → q ∈ t.userTypes :=
  swSerialObj_refs t

theorem ocType_refs_closed (t : Ty) (tag hasDefault noPtr isProp : Bool) :
    ∀ r ∈ (ocType t tag hasDefault noPtr isProp).refs, ∀ q, r.typeQ? = some q → q ∈ t.userTypes :=
  ocType_refs t tag hasDefault noPtr isProp

theorem ocClassType_refs_closed (t : Ty) (suppressPtr : Bool) :
    ∀ r ∈ (ocClassType t suppressPtr).refs, ∀ q, r.typeQ? = some q → q ∈ t.userTypes :=
  ocClassType_refs t suppressPtr

theorem ocSerialObj_refs_closed (t : Ty) : ∀ r ∈ (ocSerialObj t).refs, ∀ q, r.typeQ? = some q → q ∈ t.userTypes :=
  ocSerialObj_refs t

theorem ocValidator_refs_closed (t : Ty) : ∀ r ∈ (ocValidator t).refs, r.typeQ? = none :=
  tableOr_refs _ t _

/-- a name that no declaration stands behind (`TRef.raw`) is printed only for an alias that survived
`remove_aliases_from_api`: without aliases every reference of `fmt_type` is a user-type reference -/
theorem swType_no_raw (t : Ty) (h : t.hasAlias = false) : ∀ r ∈ (swType t).refs, ∃ q, r = .swType q := by
  have table : ∀ (t : Ty) {P : TRef → Prop}, (∀ q, t ≠ .alias q) → ExprAll P (tableOr Tables.swiftTypeTable t swClass) := by
    intro t P hne
    unfold tableOr
    split
    · exact .lit
    · split
      · exact absurd rfl (hne _)
      · exact .lit
  suffices hs : ExprAll (fun r => ∃ q, r = TRef.swType q) (swType t) from hs
  induction t with
  | prim c => exact table _ nofun
  | ts f => exact table _ nofun
  | alias q0 => cases h
  | user q0 => exact ExprAll.ref ⟨q0, rfl⟩
  | list e ih => exact .cat (.cat (.cat .lit .lit) (ih h)) .lit
  | map k v ihk ihv =>
    have h := Bool.or_eq_false_iff.mp h
    exact .cat (.cat (.cat (.cat (.cat .lit .lit) (ihk h.1)) .lit) (ihv h.2)) .lit
  | nullable t ih =>
    by_cases hn : ∃ t1, t = .nullable t1
    · obtain ⟨t1, rfl⟩ := hn
      exact .cat (table _ nofun) .lit
    · rw [swType.eq_2 _ (fun t1 h => hn ⟨t1, h⟩)]
      exact .cat (ih h) .lit

/-- every user-type reference of every declaration, in each of the six outputs, names a type that the API description
mentions -/
theorem refs_mentioned (b : Backend) (api : Api) (o : Options) :
    ∀ d ∈ declsOf b api o, ∀ r ∈ d.refs, ∀ q, r.typeQ? = some q → q ∈ mentioned api :=
  declsOf_DeclsM b api o

/-- "uses no user-type name that it does not declare": with the closure invariant of an accepted specification every
user-type reference (Swift `Ns.T`, `Ns.TSerializer`, `DBXNsT`; Objective-C `DBNST`, `DBNSTSerializer`) of every
declaration is the name of a declaration of the type backends of the same language -/
theorem refs_closed (b : Backend) (api : Api) (o : Options) (wf : ApiWF api) :
    ∀ d ∈ declsOf b api o, ∀ r ∈ d.refs, ∀ k, r.typeQ?.isSome → r.target? = some k →
      k ∈ (swiftUniverse api ++ objcUniverse api).map Decl.nkey := by
  intro d hd r hr k hq hk
  obtain ⟨q, hq⟩ := Option.isSome_iff_exists.mp hq
  have hm := refs_mentioned b api o d hd r hr q hq
  have hdecl := wf q hm
  obtain ⟨t, ht⟩ := Option.isSome_iff_exists.mp hdecl
  simp only [swiftUniverse, objcUniverse, List.map_append, List.mem_append]
  cases r <;> simp [TRef.typeQ?] at hq <;> subst hq <;> simp [TRef.target?] at hk <;> subst hk
  · exact Or.inl (Or.inl (swiftTypes_declares ht).1)
  · exact Or.inl (Or.inl (swiftTypes_declares ht).2)
  · exact Or.inl (Or.inr (swiftTypesObjc_declares ht))
  · exact Or.inr (objcTypes_declares ht).1
  · exact Or.inr (objcTypes_declares ht).2

/-- coverage: every namespace, struct, union, field, tag, serializer and route object of the API has its declaration
in the output of the type backends -/
theorem covers (b : Backend) (api : Api) (o : Options) :
    ∀ k ∈ itemKeys b api, k ∈ (declsOf b api o).map Decl.key :=
  DeclSwift.covers b api o

/-- each item is declared exactly once when the naming scheme is injective on the names of the API -/
theorem decl_once (b : Backend) (api : Api) (o : Options) (inj : nameInjective b api o) :
    ∀ k ∈ itemKeys b api, ((declsOf b api o).filter fun d => decide (d.key = k)).length = 1 :=
  fun k hk => count_one_of_nodup Decl.key _ k inj (covers b api o k hk)

/-- `nameInjective` read per declaration (for the client backends it fails once two overloads share a name) -/
theorem decl_unique (b : Backend) (api : Api) (o : Options) (inj : nameInjective b api o) :
    ∀ d ∈ declsOf b api o, ((declsOf b api o).filter fun d' => decide (d'.key = d.key)).length = 1 :=
  fun d hd => count_one_of_nodup Decl.key _ d.key inj (List.mem_map_of_mem hd)

/-- coverage for the Swift client: every route that is valid for the auth type has its function in the routes class
of its namespace (one per client-argument variant of its style).
PARTIAL: `itemKeys` (and with it `decl_once`) lists the items of the three type backends only. For the client backends
"exactly once" means once per (route, client-argument variant) -- overloads share the function name -- which is
checked on the real output by the declaration scanner (expected multiplicities) but not stated as a theorem; the
Objective-C client methods (`obj_c_client`) and the request wrapper classes are covered by the correspondence suite
only. -/
theorem route_covered_swiftClient_partial (api : Api) (o : Options) :
    ∀ ns ∈ api.nss, ∀ r ∈ validRoutes o ns, o.variants r.style ≠ [] →
      ("", "func", [swRoutesClassName ns.name (isApp o)], swFunc r.name r.version) ∈
        (swiftClientDecls api o).map Decl.key := by
  intro ns hns r hr hv
  obtain ⟨v, hvm⟩ := List.exists_mem_of_ne_nil _ hv
  have hne : (validRoutes o ns).isEmpty = false := List.isEmpty_eq_false_iff_exists_mem.mpr ⟨r, hr⟩
  have hf : (⟨"", "func", [swRoutesClassName ns.name (isApp o)], swFunc r.name r.version, _⟩ : Decl)
      ∈ swClientFuncs api o ns := List.mem_flatMap.mpr ⟨r, hr, List.mem_map.mpr ⟨v, hvm, rfl⟩⟩
  exact key_mem_of_mem (List.mem_append_left _ (List.mem_append_left _ (List.mem_flatMap.mpr ⟨ns, hns, by
    simp only [swClientNsDecls, hne, Bool.false_eq_true, ↓reduceIte]
    exact .tail _ hf⟩)))

theorem decls_eq (b : Backend) (api : Api) (o : Options) :
    decls b api o = (match crash b api o with
      | some e => .error e
      | none => .ok (declsOf b api o)) := rfl

/-- `swift_types` has no input on which the model stops -/
theorem swiftTypes_total (api : Api) (o : Options) : decls .swiftTypes api o = .ok (swiftTypesDecls api) := rfl

/-- neither has `swift_types --objc` (it had one, D18, until `ObjcTypes.jinja` read the value type of a map) -/
theorem swiftTypesObjc_total (api : Api) (o : Options) :
    decls .swiftTypesObjc api o = .ok (swiftTypesObjcDecls api) := rfl

/-- Non-vacuity. Two namespaces; inheritance with enumerated subtypes, a cross-namespace reference, a list of nullables,
a map, a union with a foreign payload and a tag default, three routes (one in a second version) -/
def sampleApi : Api :=
  { nss := [
    { name := "common",
      types := [
        .struct { name := "Account", fields := [⟨"account_id", .prim "String", false, none⟩,
                                                 ⟨"reason", .user ⟨"common", "Reason"⟩, true, some (⟨"common", "Reason"⟩, "other")⟩] },
        .union { name := "Reason", fields := [⟨"bad_thing", .prim "Void", false, none⟩,
                                               ⟨"worse_thing", .prim "Int64", false, none⟩,
                                               ⟨"other", .prim "Void", false, none⟩] } ] },
    { name := "files",
      types := [
        .struct { name := "Metadata", fields := [⟨"name", .prim "String", false, none⟩],
                  subtypes := some [("file", ⟨"files", "FileMetadata"⟩), ("folder", ⟨"files", "FolderMetadata"⟩)],
                  catchAll := true },
        .struct { name := "FileMetadata", parent := some ⟨"files", "Metadata"⟩,
                  fields := [⟨"size", .prim "UInt64", true, none⟩,
                             ⟨"owner", .nullable (.user ⟨"common", "Account"⟩), false, none⟩,
                             ⟨"tags", .list (.nullable (.prim "String")), false, none⟩] },
        .struct { name := "FolderMetadata", parent := some ⟨"files", "Metadata"⟩,
                  fields := [⟨"children", .list (.user ⟨"files", "Metadata"⟩), false, none⟩,
                             ⟨"props", .map (.prim "String") (.user ⟨"common", "Account"⟩), false, none⟩] },
        .union { name := "LookupError", fields := [⟨"not_found", .prim "Void", false, none⟩,
                                                    ⟨"denied", .user ⟨"common", "Reason"⟩, false, none⟩,
                                                    ⟨"other", .prim "Void", false, none⟩] } ],
      routes := [
        { name := "get_metadata", arg := .user ⟨"files", "FileMetadata"⟩, result := .user ⟨"files", "Metadata"⟩,
          error := .user ⟨"files", "LookupError"⟩, style := some "rpc", auth := some "user" },
        { name := "get_metadata", version := 2, arg := .user ⟨"files", "FileMetadata"⟩,
          result := .user ⟨"files", "FolderMetadata"⟩, style := some "download", auth := some "app, user" },
        { name := "upload", result := .user ⟨"files", "FileMetadata"⟩, error := .user ⟨"files", "LookupError"⟩,
          deprecated := true, style := some "upload", auth := some "user" } ] } ] }

def sampleOpts : Options :=
  { className := "ApiClientBase", transport := "ApiTransportClient", moduleName := "ApiBase", auth := none,
    clientArgs := [("upload", [{ reqKey := "upload", extra := [("input", ".data(input)", "Data")] }]),
                   ("download", [{ reqKey := "download_file", extra := [("destination", "destination", "URL")] },
                                 { reqKey := "download_memory" }])],
    styleToRequest := [("rpc", "RpcRequest"), ("upload", "UploadRequest"), ("download_file", "DownloadRequestFile"),
                       ("download_memory", "DownloadRequestMemory")] }

/-- a small API for the quadratic `Nodup` checks (the kernel compares strings byte by byte) -/
def miniApi : Api :=
  { nss := [
    { name := "files",
      types := [
        .struct { name := "Entry", fields := [⟨"path_lower", .prim "String", false, none⟩,
                                               ⟨"kind", .user ⟨"files", "EntryKind"⟩, true, some (⟨"files", "EntryKind"⟩, "file")⟩] },
        .union { name := "EntryKind", fields := [⟨"file", .prim "Void", false, none⟩,
                                                  ⟨"folder", .prim "Int64", false, none⟩] } ],
      routes := [
        { name := "get_entry", arg := .user ⟨"files", "Entry"⟩, result := .user ⟨"files", "Entry"⟩,
          error := .user ⟨"files", "EntryKind"⟩, style := some "rpc", auth := some "user" },
        { name := "get_entry", version := 2, arg := .user ⟨"files", "Entry"⟩, style := some "upload",
          auth := some "user" } ] } ] }

example : ApiWF sampleApi := by decide +kernel
example : (mentioned sampleApi).length = 23 := by decide +kernel
example : ApiWF miniApi := by decide +kernel
/-- for four backends together: the kernel then computes each generated name of `miniApi` once, not once per backend -/
theorem miniApi_nameInjective :
    ∀ b ∈ [Backend.swiftTypes, .swiftTypesObjc, .objcTypes, .swiftClient], nameInjective b miniApi sampleOpts := by
  decide +kernel
example : nameInjective .swiftTypes miniApi sampleOpts := miniApi_nameInjective _ (by decide)
example : nameInjective .swiftTypesObjc miniApi sampleOpts := miniApi_nameInjective _ (by decide)
example : nameInjective .objcTypes miniApi sampleOpts := miniApi_nameInjective _ (by decide)
example : nameInjective .swiftClient miniApi sampleOpts := miniApi_nameInjective _ (by decide)
example : (validRoutes sampleOpts (miniApi.nss.headD default)).length = 2 ∧ sampleOpts.variants (some "upload") ≠ [] := by
  decide +kernel
example : (itemKeys .swiftTypes miniApi).length = 11 := by decide +kernel
example : (itemKeys .swiftTypes sampleApi).length = 31 := by decide +kernel
example : (itemKeys .objcTypes sampleApi).length = 44 := by decide +kernel
example : crash .swiftTypesObjc sampleApi sampleOpts = none := by decide +kernel
example : crash .swiftClientObjc sampleApi sampleOpts = none := by decide +kernel

/-- the references of the Swift class of `FileMetadata`: its parent, the foreign `Account` of a nullable field and of
the inherited initialiser, nothing else -/
example : ((swiftTypesDecls sampleApi).filter fun d => d.name == "FileMetadata").map (fun d => d.refs.map TRef.text) =
    [["Files.Metadata", "Common.Account", "Common.Account"]] := by decide +kernel

example : (swType (.map (.prim "String") (.list (.nullable (.user ⟨"team_log", "HTTPCode"⟩))))).render =
    "Dictionary<String, Array<TeamLog.HttpCode?>>" := by decide +kernel
example : (swObjcType (.list (.nullable (.user ⟨"files", "Metadata"⟩)))).render = "Array<DBXFilesMetadata>" := by decide +kernel
example : (swSerialObj (.nullable (.list (.ts "%Y-%m-%d")))).render =
    "NullableSerializer(ArraySerializer(NSDateSerializer(\"%Y-%m-%d\")))" := by decide +kernel
example : (ocType (.map (.prim "String") (.nullable (.user ⟨"files", "copy_ref"⟩))) true true).render =
    "nullable NSDictionary<NSString *, DBFILESDCopyRef *> *" := by decide +kernel

/-- D18 (repaired): a `Map` field whose value type enumerates subtypes used to stop `swift_types --objc`
(`ObjcTypes.jinja` read `field.data_type.data_type` of a `Map`); kept as a regression witness: it completes, and the
wrapper of the holder names the wrapper of the value type -/
def d18Api : Api :=
  { nss := [{ name := "files",
              types := [.struct { name := "Base", subtypes := some [("leaf", ⟨"files", "Leaf"⟩)] },
                        .struct { name := "Leaf", parent := some ⟨"files", "Base"⟩ },
                        .struct { name := "Holder",
                                  fields := [⟨"by_name", .map (.prim "String") (.user ⟨"files", "Base"⟩), false, none⟩] }] }] }

example : crash .swiftTypesObjc d18Api sampleOpts = none := by decide +kernel
example : ((swiftTypesObjcDecls d18Api).filter fun d => d.name == "DBXFilesHolder").map (fun d => d.refs.map TRef.text) =
    [["Files.Holder", "DBXFilesBase", "DBXFilesBase"]] := by decide +kernel
example : crash .swiftTypes d18Api sampleOpts = none := by decide +kernel
example : ApiWF d18Api := by decide +kernel

/-! `nameInjective` is a genuine hypothesis: -/

/-- names that differ only in case / underscores collapse -/
example : swVar "foo_bar" = swVar "fooBar" := swCamel_congr true (by decide +kernel)
example : ocVar "foo_bar" = ocVar "fooBar" := ocCamel_congr false (by decide +kernel)
/-- a route `get_file` in version 2 and a route `get_file_v2` -/
example : swFunc "get_file" 2 = swFunc "get_file_v2" 1 := swCamel_congr true (by decide +kernel)
/-- flat Objective-C compatible names: `DBX` + namespace + type is a concatenation -/
example : (TRef.swWrap ⟨"foo", "BarBaz"⟩).text = (TRef.swWrap ⟨"foo_bar", "Baz"⟩).text := by decide +kernel
/-- the wrapper class of a union tag and the wrapper of a type called <Union><Tag> -/
example : (TRef.swTag ⟨"files", "Status"⟩ "error").text = (TRef.swWrap ⟨"files", "StatusError"⟩).text := by decide +kernel
/-- a union tag called `tag`: the enum constant is the name of the enum type itself -/
example : (TRef.ocTagConst ⟨"files", "Status"⟩ "tag").text = (TRef.ocTagEnum ⟨"files", "Status"⟩).text := rfl

def dupFieldsApi : Api :=
  { nss := [{ name := "files", types := [.struct { name := "S", fields := [⟨"foo_bar", .prim "String", false, none⟩,
                                                                           ⟨"fooBar", .prim "String", false, none⟩] }] }] }

theorem dupFieldsApi_not_nameInjective :
    ∀ b ∈ [Backend.swiftTypes, .objcTypes], ¬ nameInjective b dupFieldsApi sampleOpts := by decide +kernel
example : ¬ nameInjective .swiftTypes dupFieldsApi sampleOpts := dupFieldsApi_not_nameInjective _ (by decide)
example : ¬ nameInjective .objcTypes dupFieldsApi sampleOpts := dupFieldsApi_not_nameInjective _ (by decide)

/-- without the closure invariant a field may name an unregistered type, which nothing declares -/
def openApi : Api :=
  { nss := [{ name := "files", types := [.struct { name := "S", fields := [⟨"x", .user ⟨"gone", "T"⟩, false, none⟩] }] }] }

example : ¬ ApiWF openApi := by decide +kernel
example : ("", ["Gone"], "T") ∉ (swiftUniverse openApi ++ objcUniverse openApi).map Decl.nkey := by decide +kernel

end StoneVerif.C17
