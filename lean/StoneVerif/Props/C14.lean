import StoneVerif.Lemmas.DeclPyClient
import StoneVerif.Gen.Tables
/-!
# C14 — generated Python client methods send the right route and argument

Theorems over `StoneVerif.DeclPyClient`: the model of `python_client.py`, of `Struct.all_fields` under
`remove_aliases_from_api`, of the `__init__` python_types generates, and of Python call binding and name resolution.

Every hypothesis the real generator does not establish is explicit and has a reachable counterexample (`example`s
below; the harness reports the same inputs on the real code): `hygienic` (no module name the body uses is hidden by a
parameter), `StructArgOk` (python_types and python_client agree on which fields are optional; `__init__`'s parameters
are distinct), `nsPrefixFree`. That the module loads (`loadModule = ok`: no duplicate / keyword parameter) is a
hypothesis of no theorem: they speak of `runMethod`; the `example`s go through `callMethod`, which loads first.
`defaultsWellTyped` is what the frontend builds. String defaults that pprint wraps, tag defaults through an alias of
another namespace and route namespaces without data types need no hypothesis since the generator was repaired.
-/
namespace StoneVerif.C14
open StoneVerif.DeclPyClient

/-- The parameters python_client derives from a struct argument: the required fields in declaration order (super types
first) without a default, then the optional ones carrying the spec default (`None` for nullable fields). -/
theorem struct_params_eq_spec (api : Api) (r : Ref) (hwt : defaultsWellTyped api r = true) :
    (allFields stripFirst api r).mapM fieldParam = .ok (specParams api r) := by
  rw [mapM_ok_of_forall fieldParam specParam _ fun f hf => fieldParam_spec f (wellTyped_field hwt (mem_allFields.mp hf))]
  unfold allFields specParams
  rw [List.map_append, funext isRequired_strip]
  refine congrArg Except.ok (congr (congrArg _ (List.map_congr_left fun f hf => ?_)) (List.map_congr_left fun f hf => ?_))
  · rw [specParam, if_pos (List.mem_filter.mp hf).2]
  · rw [specParam, if_neg (by simpa using (List.mem_filter.mp hf).2)]

theorem required_positional_optional_keyword (api : Api) (ns : Namespace) (r : Route) (m : Method)
    (sns sname : Name) (harg : specUnalias r.arg = .struct sns sname)
    (hstrip : stripFirst r.arg = .struct sns sname)
    (hwt : defaultsWellTyped api (sns, sname) = true)
    (hm : routeMethod api ns r false = .ok m) :
    m.params = (if r.style = some "upload".toList then [⟨['f'], none⟩] else []) ++ specParams api (sns, sname) := by
  obtain ⟨ps, hps, rfl⟩ := routeMethod_ok hm
  rw [argParamsOf_struct hstrip, struct_params_eq_spec api (sns, sname) hwt] at hps
  cases hps
  exact mkMethod_params api ns r _

/-- the hypothesis `hstrip` of the previous theorem is not an extra assumption: it follows from the spec-level one
whenever the backend produced a method at all -/
theorem strip_of_unalias_struct (api : Api) (ns : Namespace) (r : Route) (m : Method) (sns sname : Name)
    (harg : specUnalias r.arg = .struct sns sname) (hm : routeMethod api ns r false = .ok m) :
    stripFirst r.arg = .struct sns sname := by
  obtain ⟨ps, hps, -⟩ := routeMethod_ok hm
  rcases argParamsOf_ok hps with ⟨a, b, e, -⟩ | ⟨a, b, e, -⟩ | ⟨e, -⟩
  · rw [e, ← harg, unalias_of_strip e]
  · rw [unalias_of_strip e] at harg; cases harg
  · rw [unalias_of_strip e] at harg; cases harg

/-- Both generators walk `all_fields`; python_types sees the aliases, python_client does not. When no field type is an
alias of a nullable type the two walks agree, so the positional call `arg = ns.T(p₁, …, pₙ)` in the method body hands
every parameter to the `__init__` parameter of the same field. -/
theorem ctor_params_line_up (api : Api) (ns : Namespace) (r : Route) (m : Method) (toFile : Bool)
    (hm : routeMethod api ns r toFile = .ok m) (mod cls : Name) (ty : Ref) (args : List Name)
    (hb : m.argBuild = .ctor mod cls ty args) (h : noNullableAlias api ty = true) :
    args.map fmtVarR = structCtorParams api ty ∧ (mod, cls) = typesClassOf ty := by
  obtain ⟨ps, -, rfl⟩ := routeMethod_ok hm
  obtain ⟨-, hmc, rfl⟩ := argBuildOf_ctor hb
  refine ⟨?_, hmc⟩
  rw [structCtorParams, ← allFields_views_agree api ty h, List.map_map]
  rfl

/-- … and the hypothesis is needed: `alias OptText = String?`, `struct A (id String, note OptText, last String)`.
python_types orders `__init__(id, note, last)` (an alias is not `Nullable`), python_client calls `A(id, last, note)`. -/
def exNullAlias : Api :=
  { namespaces := [{ name := "al".toList, dataTypes := ["A".toList], aliases := [("OptText".toList, .nullable (.prim "String".toList))], routes :=
      [{ name := "r".toList, version := 1, arg := .struct "al".toList "A".toList, result := .void, deprecated := none, style := none }] }]
    structs := [{ ref := ("al".toList, "A".toList), parent := none, fields := [
      ⟨"id".toList, .prim "String".toList, none⟩,
      ⟨"note".toList, .alias "al".toList "OptText".toList (.nullable (.prim "String".toList)), none⟩,
      ⟨"last".toList, .prim "String".toList, none⟩] }] }

example : structCtorParams exNullAlias ("al".toList, "A".toList) = ["id".toList, "note".toList, "last".toList] := by decide +kernel

example : (allFields stripFirst exNullAlias ("al".toList, "A".toList)).map (·.name) = ["id".toList, "last".toList, "note".toList] := by
  decide +kernel

example : noNullableAlias exNullAlias ("al".toList, "A".toList) = false := by decide +kernel

/-- the hypotheses about a struct argument type that the generator does not establish itself -/
def StructArgOk (api : Api) (ty : Ref) : Prop :=
  noNullableAlias api ty = true ∧
  ∀ f ∈ declFields api ty, ∀ f' ∈ declFields api ty, fmtVarR f'.name = fmtVarR f.name → f'.name = f.name

theorem buildArg_expected (api : Api) (cm : ClientModule) (ns : Namespace) (r : Route) (ps : List Param)
    (hp : argParamsOf api ns r = .ok ps) (hyg : hygienic cm (mkMethod api ns r false ps) = true)
    (hst : ∀ sns sname, stripFirst r.arg = .struct sns sname → StructArgOk api (sns, sname))
    (σ : List (Name × Val)) (hσ : σ.map (·.1) = (mkMethod api ns r false ps).params.map (·.name)) :
    buildArg api cm (mkMethod api ns r false ps) σ = .ok (expectedRequest api ns r σ).arg := by
  have hkey : ∀ n ∈ ps.map (·.name), n ∈ σ.map (·.1) := fun n hn => by
    rw [hσ, mkMethod_params, List.map_append]
    exact List.mem_append_right _ hn
  unfold buildArg expectedRequest
  rcases argParamsOf_ok hp with ⟨sns, sname, harg, hps⟩ | ⟨uns, uname, harg, rfl⟩ | ⟨harg, rfl⟩
  · obtain ⟨hna, hinj⟩ := hst sns sname harg
    have hab : (mkMethod api ns r false ps).argBuild = .ctor (fmtNamespace sns) (fmtClass sname) (sns, sname)
        ((allFields stripFirst api (sns, sname)).map (·.name)) := by simp only [mkMethod, argBuildOf, harg]
    have hkeys : ∀ f ∈ declFields api (sns, sname), f.name ∈ σ.map (·.1) := fun f hf => by
      obtain ⟨p, hp, hfp⟩ := (mapM_ok_mem hps).2 f (mem_allFields.mpr hf)
      exact hkey _ (fieldParam_name hfp ▸ List.mem_map_of_mem hp)
    have hargs := mapM_lookupLocal (σ := σ) ((allFields stripFirst api (sns, sname)).map (·.name)) (by
      intro n hn
      obtain ⟨f, hf, rfl⟩ := List.mem_map.mp hn
      exact hkeys f (mem_allFields.mp hf))
    simp only [hab, resolveGlobal_ok hyg (mem_globalsUsed.mpr (.inr (.inl ⟨_, _, _, hab⟩))), hargs, unalias_of_strip harg]
    exact ctorApply_direct api (sns, sname) σ hna hinj hkeys
  · obtain ⟨v, hv, hl⟩ := lookupLocal_of_key (hkey "arg".toList (.head _))
    simp only [mkMethod, argBuildOf, harg, hl, hv, unalias_of_strip harg, Except.map]
  · simp only [mkMethod, argBuildOf, harg, unalias_of_strip harg]

theorem bodyArg_expected (api : Api) (ns : Namespace) (r : Route) (ps : List Param)
    (σ : List (Name × Val)) (hσ : σ.map (·.1) = (mkMethod api ns r false ps).params.map (·.name)) :
    bodyArg (mkMethod api ns r false ps) σ = .ok (expectedRequest api ns r σ).body := by
  unfold bodyArg expectedRequest
  cases hu : styleIs r "upload"
  · have hu' : (r.style == some "upload".toList) = false := hu
    simp only [mkMethod, hu, hu', Bool.false_eq_true, ↓reduceIte]
  · have hu' : (r.style == some "upload".toList) = true := hu
    obtain ⟨v, hv, hl⟩ := lookupLocal_of_key (σ := σ) (n := ['f']) (by
      rw [hσ, mkMethod_params, if_pos (beq_iff_eq.mp hu')]
      exact .head _)
    simp only [mkMethod, hu, hu', hl, hv, Except.map, ↓reduceIte]

/-- For the method generated for a route whose argument is a struct, a union or Void, and every complete binding `σ` of
its parameters, running the body issues exactly one request: the route object python_types defines for that route
version, the namespace name, the struct built directly from the bound values (equal field by field) - the union value
itself, or nothing for Void -, the upload body for upload routes; it warns iff the route is deprecated and returns the
result, or None when the result type is Void. Not established by the generator: `hygienic` and `StructArgOk`. -/
theorem client_call_builds_arg (api : Api) (cm : ClientModule) (ns : Namespace) (r : Route) (m : Method)
    (hm : routeMethod api ns r false = .ok m)
    (hyg : hygienic cm m = true)
    (hst : ∀ sns sname, stripFirst r.arg = .struct sns sname → StructArgOk api (sns, sname))
    (σ : List (Name × Val)) (hσ : σ.map (·.1) = m.params.map (·.name)) :
    runMethod api cm m σ = .ok (expectedOutcome api ns r σ) := by
  obtain ⟨ps, hp, rfl⟩ := routeMethod_ok hm
  rw [runMethod_steps api cm _ σ _ _ hyg rfl (buildArg_expected api cm ns r ps hp hyg hst σ hσ)
    (bodyArg_expected api ns r ps σ hσ)]
  simp only [expectedOutcome, expectedRequest, mkMethod, typesRouteObj, strip_isVoid]

/-- `client_call_builds_arg` for a binding produced by Python's call rules -/
theorem client_call_via_bindArgs (api : Api) (cm : ClientModule) (ns : Namespace) (r : Route) (m : Method)
    (hm : routeMethod api ns r false = .ok m) (hyg : hygienic cm m = true)
    (hst : ∀ sns sname, stripFirst r.arg = .struct sns sname → StructArgOk api (sns, sname))
    (ps : List BParam) (hps : ps.map (·.1) = m.params.map (·.name))
    (call : Call) (σ : List (Name × Val)) (hb : bindArgs ps call = .ok σ) :
    runMethod api cm m σ = .ok (expectedOutcome api ns r σ) :=
  client_call_builds_arg api cm ns r m hm hyg hst σ (by rw [bindArgs_keys ps call σ hb, hps])

theorem bind_positional_prefix : ∀ (ps : List BParam) (vs : List Val),
    vs.length ≤ ps.length → (∀ p ∈ ps.drop vs.length, p.2.isSome) →
    bindArgs ps ⟨vs, []⟩ = .ok ((ps.take vs.length).map (·.1) |>.zip vs |>.append
      ((ps.drop vs.length).map fun p => (p.1, p.2.getD .none))) := by
  intro ps vs hlen hd
  simp only [bindArgs, hasDup, List.map_nil, List.any_nil, Bool.false_eq_true, ↓reduceIte]
  induction ps generalizing vs with
  | nil =>
    cases vs with
    | nil => rfl
    | cons v vs => simp at hlen
  | cons p ps ih =>
    cases vs with
    | nil =>
      have hp : p.2.isSome := hd p (by simp)
      have := ih [] (by simp) (fun q hq => hd q (by simp at hq ⊢; exact .inr hq))
      simp only [List.length_nil, List.take_zero, List.map_nil, List.zip_nil_left, List.drop_zero, List.append_eq,
        List.nil_append] at this ⊢
      cases hv : p.2 with
      | none => rw [hv] at hp; cases hp
      | some d => simp [bindGo, lookup, hv, this, Except.map]
    | cons v vs =>
      have := ih vs (by simpa using hlen) (fun q hq => hd q (by simpa using hq))
      simp only [List.append_eq] at this
      simp [bindGo, lookup, this, Except.map]

/-- Inside one namespace that passes `check_route_name_conflict`, two routes with the same method name are the
same route. -/
theorem method_names_injective_in_namespace (ns : Namespace) (h : routeNameConflict ns = false)
    (r1 r2 : Route) (h1 : r1 ∈ ns.routes) (h2 : r2 ∈ ns.routes) (he : mainName ns r1 = mainName ns r2) : r1 = r2 :=
  (conflict_go_false ns.routes [] h).2 r1 h1 r2 h2 (List.append_cancel_left he)

/-- Under `check_route_name_conflict` (per namespace, what the backend checks) and when no
namespace's prefix `<ns>_` is a prefix of another's (what it does not check), the method name determines the
route version: namespace, route and version. -/
theorem method_names_injective (api : Api)
    (hconf : ∀ ns ∈ api.namespaces, routeNameConflict ns = false)
    (hpf : nsPrefixFree api = true)
    (huniq : ∀ a ∈ api.namespaces, ∀ b ∈ api.namespaces, a.name = b.name → a = b)
    (ns1 ns2 : Namespace) (h1 : ns1 ∈ api.namespaces) (h2 : ns2 ∈ api.namespaces)
    (r1 r2 : Route) (hr1 : r1 ∈ ns1.routes) (hr2 : r2 ∈ ns2.routes)
    (he : mainName ns1 r1 = mainName ns2 r2) : ns1 = ns2 ∧ r1 = r2 := by
  have hns : ns1 = ns2 := by
    apply huniq ns1 h1 ns2 h2
    have hp := (List.all_eq_true.mp hpf)
    have h12 := (List.all_eq_true.mp (hp ns1 h1)) ns2 h2
    have h21 := (List.all_eq_true.mp (hp ns2 h2)) ns1 h1
    simp only [Bool.or_eq_true, beq_iff_eq, Bool.not_eq_true'] at h12 h21
    unfold mainName at he
    rcases isPrefix_of_append_eq _ _ _ _ he with hpre | hpre
    · rcases h12 with h | h
      · exact h
      · rw [hpre] at h; cases h
    · rcases h21 with h | h
      · exact h.symm
      · rw [hpre] at h; cases h
  subst hns
  exact ⟨rfl, method_names_injective_in_namespace ns1 (hconf ns1 h1) r1 r2 hr1 hr2 he⟩

/-- "offers one method per route version": when the backend produces a module at all, every route version of
every namespace has its method in the class. -/
theorem offers_method_per_route (api : Api) (cm : ClientModule) (h : pyClient api = .ok cm)
    (ns : Namespace) (hns : ns ∈ api.namespaces) (r : Route) (hr : r ∈ ns.routes) :
    ∃ m ∈ cm.methods, routeMethod api ns r false = .ok m ∧ m.name = mainName ns r := by
  unfold pyClient at h
  obtain ⟨mss, hmss, rfl⟩ := except_map_ok h
  have hin : ns ∈ api.namespaces.filter (fun ns => !ns.routes.isEmpty) :=
    List.mem_filter.mpr ⟨hns, by rw [List.isEmpty_eq_false_iff_exists_mem.mpr ⟨r, hr⟩]; rfl⟩
  obtain ⟨ms, hms, hnsm⟩ := (mapM_ok_mem hmss).2 ns hin
  obtain ⟨-, lss, hlss, rfl⟩ := nsMethods_ok hnsm
  obtain ⟨l, hl, hrl⟩ := (mapM_ok_mem hlss).2 r hr
  obtain ⟨m, hrm, hlm⟩ := routeMethods_ok hrl
  have hm : m ∈ l := by rcases hlm with rfl | ⟨_, -, rfl⟩ <;> exact .head _
  exact ⟨m, List.mem_flatten.mpr ⟨lss.flatten, hms, List.mem_flatten.mpr ⟨l, hl, hm⟩⟩, hrm, routeMethod_name hrm⟩

/-- … and nothing else: every method of the class is the method (or the `_to_file` twin) of a route of a
namespace that passed `check_route_name_conflict`. -/
theorem methods_come_from_routes (api : Api) (cm : ClientModule) (h : pyClient api = .ok cm)
    (m : Method) (hm : m ∈ cm.methods) :
    ∃ ns ∈ api.namespaces, routeNameConflict ns = false ∧ ∃ r ∈ ns.routes, ∃ tf, routeMethod api ns r tf = .ok m := by
  unfold pyClient at h
  obtain ⟨mss, hmss, rfl⟩ := except_map_ok h
  simp only [List.mem_flatten] at hm
  obtain ⟨ms, hms, hmms⟩ := hm
  obtain ⟨ns, hns, hnsm⟩ := (mapM_ok_mem hmss).1 ms hms
  have hns' := (List.mem_filter.mp hns).1
  obtain ⟨hc, lss, hlss, rfl⟩ := nsMethods_ok hnsm
  obtain ⟨l, hl, hml⟩ := List.mem_flatten.mp hmms
  obtain ⟨r, hr, hrl⟩ := (mapM_ok_mem hlss).1 l hl
  refine ⟨ns, hns', hc, r, hr, ?_⟩
  obtain ⟨m0, hm0, rfl | ⟨m2, hm2, rfl⟩⟩ := routeMethods_ok hrl
  · cases List.mem_singleton.mp hml; exact ⟨false, hm0⟩
  · rcases List.mem_cons.mp hml with rfl | hml
    · exact ⟨false, hm0⟩
    · cases List.mem_singleton.mp hml; exact ⟨true, hm2⟩

/-- `hygienic` in terms of the spec: no parameter / local of the method has the name of a module the body uses.
The modules themselves are imported: the route's namespace because it has routes (since the repair of
c14-namespace-without-data-types-not-imported; only namespaces with data types used to be imported), the namespace
of a struct argument because it defines that struct. -/
theorem hygienic_of_spec (api : Api) (cm : ClientModule) (h : pyClient api = .ok cm)
    (ns : Namespace) (hns : ns ∈ api.namespaces) (r : Route) (hr : r ∈ ns.routes) (m : Method)
    (hm : routeMethod api ns r false = .ok m)
    (harg : ∀ sns sname, stripFirst r.arg = .struct sns sname → ∃ ns' ∈ api.namespaces, ns'.name = sns ∧ ns'.hasDataTypes = true)
    (hfree : ∀ n ∈ globalsUsed m, n ∉ localNames m) :
    hygienic cm m = true := by
  obtain ⟨ps, -, rfl⟩ := routeMethod_ok hm
  have hne : ns.routes.isEmpty = false := List.isEmpty_eq_false_iff_exists_mem.mpr ⟨r, hr⟩
  unfold hygienic
  apply List.all_eq_true.mpr
  intro n hn
  simp only [Bool.and_eq_true, Bool.not_eq_true', List.contains_eq_mem, decide_eq_false_iff_not, decide_eq_true_eq]
  refine ⟨hfree n hn, ?_⟩
  rcases mem_globalsUsed.mp hn with ⟨hd, rfl⟩ | ⟨cls, ty, args, hb⟩ | rfl
  · exact pyClient_imports_warnings h hns hr hd
  · obtain ⟨hs, hmc, -⟩ := argBuildOf_ctor hb
    obtain ⟨ns', hn', hname, ht'⟩ := harg _ _ hs
    cases hmc
    exact hname ▸ pyClient_imports h hn' (by simp [ht'])
  · exact pyClient_imports h hns (by simp [hne])

/-- The literals the model was written from, as the translator finds them in helpers.py, python_helpers.py and
python_client.py of the repository under test; editing any of them breaks this theorem. -/
theorem tables_pinned :
    Tables.helpersWordRegexes =
      [("_split_words_capitalization_re", "^[a-z0-9]+|[A-Z][a-z0-9]+|[A-Z]+(?=[A-Z][a-z0-9])|[A-Z]+$"),
       ("_split_words_dashes_re", "[-_/]+")] ∧
    Tables.pyHelpersReservedKeywords.map String.toList = reservedKeywords ∧
    Tables.fmtFuncVersionFormats = ["{}_v{}"] ∧ Tables.fmtFuncDefaultVersion = 1 ∧
    Tables.routeNameConflictKey = ["fmt_func(route.name, version=route.version)"] ∧
    Tables.pyClientStyleTestsHelper = ["upload", "download"] ∧
    Tables.pyClientStyleTestsRoutes = ["download", "download"] ∧
    Tables.pyClientToFileDecl = [("extra_args", "['download_path']"), ("method_name_suffix", "'_to_file'")] ∧
    Tables.pyClientDeclArgs = ["['self']", "'f'", "'arg'", "'{}=None'.format(field.name)", "arg", "field.name"] ∧
    Tables.pyClientRequestArgs =
      ["['{}.{}'.format(fmt_namespace(namespace.name), fmt_func(route.name, version=route.version)), \"'{}'\".format(namespace.name), 'arg']",
       "'f'", "'None'"] ∧
    Tables.pyClientBodyLines =
      ["'arg = None'", "'self._save_body_to_file(download_path, r[1])'", "'return None'", "'return r[0]'", "'return None'",
       "'return r'"] ∧
    Tables.pyClientMethodName =
      ["fmt_func(route.name + method_name_suffix, version=route.version)", "fmt_underscores(namespace.name)"] ∧
    Tables.pyClientImportTest = ["namespace.data_types or namespace.routes"] ∧
    Tables.pyClientRequestSignature = ["def request(self, route, namespace, request_arg, request_binary, timeout=None):"] :=
  ⟨rfl, rfl, rfl, rfl, rfl, rfl, rfl, rfl, rfl, rfl, rfl, rfl, rfl, rfl⟩

private def s (x : String) : Name := x.toList
private def str : Ty := .prim (s "String")

/-- `common`: union WriteMode, struct PathRoot(root_id, limit = 25, trace?); `files`: struct UploadArg extends
common.PathRoot (path, mode common.WriteMode = add), upload-style deprecated route `upload:2(UploadArg, Void)`,
route `get(UploadArgAlias, PathRoot)`, `pick(WriteMode, Void)`, `noop(Void, Void)`. -/
def exApi : Api :=
  { namespaces := [
      { name := s "common", dataTypes := [s "PathRoot", s "WriteMode"], aliases := [], routes := [] },
      { name := s "files", dataTypes := [s "UploadArg"],
        aliases := [(s "UploadArgAlias", .struct (s "files") (s "UploadArg"))],
        routes := [
          { name := s "get", version := 1, arg := .alias (s "files") (s "UploadArgAlias") (.struct (s "files") (s "UploadArg")),
            result := .struct (s "common") (s "PathRoot"), deprecated := none, style := none },
          { name := s "noop", version := 1, arg := .void, result := .void, deprecated := none, style := some (s "rpc") },
          { name := s "pick", version := 1, arg := .union (s "common") (s "WriteMode"), result := .void,
            deprecated := some none, style := none },
          { name := s "upload", version := 2, arg := .struct (s "files") (s "UploadArg"), result := .void,
            deprecated := some (some (s "upload", 3)), style := some (s "upload") }] }]
    structs := [
      { ref := (s "common", s "PathRoot"), parent := none, fields := [
          ⟨s "root_id", str, none⟩, ⟨s "limit", .prim (s "UInt32"), some (.int 25)⟩, ⟨s "trace", .nullable str, none⟩] },
      { ref := (s "files", s "UploadArg"), parent := some (s "common", s "PathRoot"), fields := [
          ⟨s "path", str, none⟩,
          ⟨s "mode", .union (s "common") (s "WriteMode"), some (.tag (.union (s "common") (s "WriteMode")) (s "add"))⟩] }] }

def withModule (api : Api) (f : ClientModule → Bool) : Bool :=
  match pyClient api with
  | .ok cm => f cm
  | .error _ => false

def loadResult (api : Api) (cm : ClientModule) : Option PyErr :=
  match loadModule api cm with
  | .ok _ => none
  | .error e => some e

def callOk (api : Api) (method : String) (c : Call) (want : Outcome) : Bool :=
  withModule api fun cm =>
    match classAttr cm method.toList with
    | some m => (match callMethod api cm m c with | .ok o => o == want | .error _ => false)
    | none => false

def callErr (api : Api) (method : String) (c : Call) (want : PyErr) : Bool :=
  withModule api fun cm =>
    match classAttr cm method.toList with
    | some m => (match callMethod api cm m c with | .ok _ => false | .error e => e == want)
    | none => false

theorem withModule_mono {api : Api} {f g : ClientModule → Bool} (hfg : ∀ cm, f cm = true → g cm = true)
    (h : withModule api f = true) : withModule api g = true := by
  unfold withModule at h ⊢
  cases hc : pyClient api with
  | error e => rw [hc] at h; cases h
  | ok cm => rw [hc] at h; exact hfg cm h

/-- `callOk` / `callErr` without the import of the module (most of what the kernel evaluates for a call); `callLoaded_eq`:
on a module known to load it is the same. `test`: what is asked of the result. -/
def callLoaded (api : Api) (method : String) (c : Call) (test : Except PyErr Outcome → Bool) : Bool :=
  withModule api fun cm =>
    match classAttr cm method.toList with
    | some m => test (m.params.mapM (evalParam api cm) >>= fun ps => bindArgs ps c >>= runMethod api cm m)
    | none => false

theorem callLoaded_eq {api : Api} {method : String} {c : Call} {test : Except PyErr Outcome → Bool}
    (hl : withModule api (fun cm => loadResult api cm == none) = true) :
    callLoaded api method c test = withModule api fun cm =>
      match classAttr cm method.toList with
      | some m => test (callMethod api cm m c)
      | none => false := by
  unfold callLoaded withModule at *
  cases hc : pyClient api with
  | error e => rfl
  | ok cm =>
    rw [hc] at hl
    have hload : loadModule api cm = .ok () := by
      simp only [loadResult] at hl
      split at hl
      · assumption
      · cases hl
    dsimp only
    cases hm : classAttr cm method.toList with
    | none => rfl
    | some m => exact congrArg test (callMethod_of_loads hload (classAttr_mem hm) c).symm

theorem callOk_of_loaded {api : Api} {method : String} {c : Call} {want : Outcome}
    (hl : withModule api (fun cm => loadResult api cm == none) = true)
    (h : callLoaded api method c (fun r => match r with | .ok o => o == want | .error _ => false) = true) :
    callOk api method c want = true :=
  (callLoaded_eq hl).symm.trans h

theorem callErr_of_loaded {api : Api} {method : String} {c : Call} {want : PyErr}
    (hl : withModule api (fun cm => loadResult api cm == none) = true)
    (h : callLoaded api method c (fun r => match r with | .ok _ => false | .error e => e == want) = true) :
    callErr api method c want = true :=
  (callLoaded_eq hl).symm.trans h

example : (pyClientMethods exApi).map (·.name) =
    [s "files_get", s "files_noop", s "files_pick", s "files_upload_v2"] := by decide +kernel

theorem exApi_ok : withModule exApi (fun cm => cm.methods.all (hygienic cm) && (loadResult exApi cm == none)) = true := by
  decide +kernel
example : withModule exApi (fun cm => cm.methods.all (hygienic cm) && (loadResult exApi cm == none)) = true := exApi_ok

theorem exApi_loads : withModule exApi (fun cm => loadResult exApi cm == none) = true :=
  withModule_mono (fun _ h => (Bool.and_eq_true _ _ ▸ h).2) exApi_ok
example : noNullableAlias exApi (s "files", s "UploadArg") = true ∧ defaultsWellTyped exApi (s "files", s "UploadArg") = true ∧
    nsPrefixFree exApi = true := by decide +kernel

-- parameters: upload body, required fields (parents first), optional ones with their defaults
example : withModule exApi (fun cm => (classAttr cm (s "files_upload_v2")).map (·.params) ==
    some [⟨s "f", none⟩, ⟨s "root_id", none⟩, ⟨s "path", none⟩, ⟨s "limit", some (.lit (.int 25))⟩,
          ⟨s "trace", some .pyNone⟩, ⟨s "mode", some (.tagAttr (s "common") (s "WriteMode") (s "add"))⟩]) = true := by decide +kernel

-- `files_upload_v2(body, root, path='p', trace=t)`: one request, struct built field by field, default passed on, warning
example : callOk exApi "files_upload_v2" ⟨[.tok 0, .tok 1], [(s "path", .tok 2), (s "trace", .tok 3)]⟩
    { requests := [{ route := (s "files", s "upload_v2"), ns := s "files"
                     arg := .struct (s "files") (s "UploadArg")
                       [(s "root_id", .tok 1), (s "limit", .lit (.int 25)), (s "trace", .tok 3), (s "path", .tok 2),
                        (s "mode", .tagObj (s "common", s "WriteMode") (s "add"))]
                     body := some (.tok 0) }]
      warned := true, saved := none, ret := .none } = true :=
  callOk_of_loaded exApi_loads (by decide +kernel)

example : callOk exApi "files_pick" ⟨[], [(s "arg", .tok 7)]⟩
    { requests := [{ route := (s "files", s "pick"), ns := s "files", arg := .value (.tok 7), body := none }]
      warned := true, saved := none, ret := .none } = true :=
  callOk_of_loaded exApi_loads (by decide +kernel)

example : callOk exApi "files_get" ⟨[.tok 1, .tok 2, .none], []⟩
    { requests := [{ route := (s "files", s "get"), ns := s "files"
                     arg := .struct (s "files") (s "UploadArg")
                       [(s "root_id", .tok 1), (s "path", .tok 2), (s "mode", .tagObj (s "common", s "WriteMode") (s "add"))]
                     body := none }]
      warned := false, saved := none, ret := .result } = true :=
  callOk_of_loaded exApi_loads (by decide +kernel)

example : callErr exApi "files_noop" ⟨[.tok 0], []⟩ .typeError = true :=
  callErr_of_loaded exApi_loads (by decide +kernel)
example : callErr exApi "files_get" ⟨[.tok 0], [(s "root_id", .tok 1)]⟩ .typeError = true :=
  callErr_of_loaded exApi_loads (by decide +kernel)
example : callErr exApi "files_get" ⟨[.tok 0], []⟩ .typeError = true :=
  callErr_of_loaded exApi_loads (by decide +kernel)
example : callErr exApi "files_get" ⟨[.tok 0, .tok 1], [(s "nope", .tok 1)]⟩ .typeError = true :=
  callErr_of_loaded exApi_loads (by decide +kernel)

/-- D17: an upload-style route whose argument struct has a field `f` -/
def exDupF : Api :=
  { namespaces := [{ name := s "files", dataTypes := [s "PutArg"], aliases := [], routes :=
      [{ name := s "put", version := 1, arg := .struct (s "files") (s "PutArg"), result := .void, deprecated := none,
         style := some (s "upload") }] }]
    structs := [{ ref := (s "files", s "PutArg"), parent := none, fields := [⟨s "path", str, none⟩, ⟨s "f", str, none⟩] }] }

example : withModule exDupF (fun cm => loadResult exDupF cm == some (.syntaxError (s "files_put") (s "duplicate"))) = true := by
  decide +kernel

/-- regression of c14-string-default-with-blank: a string default with a blank used to be printed with
`pprint.pformat(width=1)`, which wraps it; `emit` refused the line and the spec had no client at all. It is printed
with `repr` now (as python_types does since 0ee41ed): the method carries the default. -/
def exBlankDefault : Api :=
  { namespaces := [{ name := s "b", dataTypes := [s "A"], aliases := [], routes :=
      [{ name := s "r", version := 1, arg := .struct (s "b") (s "A"), result := .void, deprecated := none, style := none }] }]
    structs := [{ ref := (s "b", s "A"), parent := none, fields :=
      [⟨s "path", str, none⟩, ⟨s "label", str, some (.str (s "two words"))⟩] }] }

example : withModule exBlankDefault (fun cm => (classAttr cm (s "b_r")).map (·.params) ==
    some [⟨s "path", none⟩, ⟨s "label", some (.lit (.str (s "two words")))⟩]) = true := by decide +kernel
example : callOk exBlankDefault "b_r" ⟨[.tok 0], []⟩
    { requests := [{ route := (s "b", s "r"), ns := s "b"
                     arg := .struct (s "b") (s "A") [(s "path", .tok 0), (s "label", .lit (.str (s "two words")))], body := none }]
      warned := false, saved := none, ret := .none } = true := by decide +kernel

/-- regression of c14-namespace-without-data-types-not-imported: a namespace with routes but no data types used not
to be imported (`hygienic` failed, every call raised NameError); it is imported now and the call issues the request -/
def exNoImport : Api :=
  { namespaces := [{ name := s "check", dataTypes := [], aliases := [], routes :=
      [{ name := s "ping", version := 1, arg := .void, result := .void, deprecated := none, style := none }] }]
    structs := [] }

example : withModule exNoImport (fun cm => cm.imports == [s "check"] && cm.methods.all (hygienic cm)) = true := by decide +kernel
example : callOk exNoImport "check_ping" ⟨[], []⟩
    { requests := [{ route := (s "check", s "ping"), ns := s "check", arg := .none, body := none }]
      warned := false, saved := none, ret := .none } = true := by decide +kernel

/-- a field named like the module the body needs -/
def exShadow : Api :=
  { namespaces := [{ name := s "sh", dataTypes := [s "A"], aliases := [], routes :=
      [{ name := s "ra", version := 1, arg := .struct (s "sh") (s "A"), result := .void, deprecated := none, style := none }] }]
    structs := [{ ref := (s "sh", s "A"), parent := none, fields := [⟨s "sh", str, none⟩] }] }

example : callErr exShadow "sh_ra" ⟨[.tok 0], []⟩ (.shadowed (s "sh")) = true := by decide +kernel

/-- `exNullAlias` (above): the request carries `last` in the field `note` -/
example : callOk exNullAlias "al_r" ⟨[.tok 0, .tok 1, .tok 2], []⟩
    { requests := [{ route := (s "al", s "r"), ns := s "al"
                     arg := .struct (s "al") (s "A") [(s "id", .tok 0), (s "note", .tok 1), (s "last", .tok 2)], body := none }]
      warned := false, saved := none, ret := .none } = true := by decide +kernel
example : structDirect exNullAlias (s "al", s "A") [(s "id", .tok 0), (s "last", .tok 1), (s "note", .tok 2)] =
    .struct (s "al") (s "A") [(s "id", .tok 0), (s "note", .tok 2), (s "last", .tok 1)] := by decide +kernel

/-- `team` + `log_get` and `team_log` + `get` -/
def exNsClash : Api :=
  { namespaces := [
      { name := s "team", dataTypes := [], aliases := [], routes :=
        [{ name := s "log_get", version := 1, arg := .void, result := .void, deprecated := none, style := none }] },
      { name := s "team_log", dataTypes := [], aliases := [], routes :=
        [{ name := s "get", version := 1, arg := .void, result := .void, deprecated := none, style := none }] }]
    structs := [] }

example : (pyClientMethods exNsClash).map (·.name) = [s "team_log_get", s "team_log_get"] ∧ nsPrefixFree exNsClash = false := by
  decide +kernel

/-- regression of c14-tag-default-foreign-alias-*: a tag default declared through an alias that lives in another
namespace than the union used to be written `common.ForeignMode.add` (the alias's name in the union's module:
AttributeError on import, or another class's tag); the alias is unwrapped now: `common.WriteMode.add` -/
def exForeignAlias : Api :=
  { namespaces := [
      { name := s "common", dataTypes := [s "WriteMode"], aliases := [], routes := [] },
      { name := s "files", dataTypes := [s "Arg"], aliases := [(s "ForeignMode", .union (s "common") (s "WriteMode"))], routes :=
        [{ name := s "put", version := 1, arg := .struct (s "files") (s "Arg"), result := .void, deprecated := none, style := none }] }]
    structs := [{ ref := (s "files", s "Arg"), parent := none, fields := [
      ⟨s "mode", .alias (s "files") (s "ForeignMode") (.union (s "common") (s "WriteMode")),
        some (.tag (.alias (s "files") (s "ForeignMode") (.union (s "common") (s "WriteMode"))) (s "add"))⟩] }] }

theorem exForeignAlias_ok : withModule exForeignAlias (fun cm => loadResult exForeignAlias cm == none &&
    (classAttr cm (s "files_put")).map (·.params) ==
      some [⟨s "mode", some (.tagAttr (s "common") (s "WriteMode") (s "add"))⟩]) = true := by decide +kernel
example : withModule exForeignAlias (fun cm => loadResult exForeignAlias cm == none &&
    (classAttr cm (s "files_put")).map (·.params) ==
      some [⟨s "mode", some (.tagAttr (s "common") (s "WriteMode") (s "add"))⟩]) = true := exForeignAlias_ok
example : callOk exForeignAlias "files_put" ⟨[], []⟩
    { requests := [{ route := (s "files", s "put"), ns := s "files"
                     arg := .struct (s "files") (s "Arg") [(s "mode", .tagObj (s "common", s "WriteMode") (s "add"))], body := none }]
      warned := false, saved := none, ret := .none } = true :=
  callOk_of_loaded (withModule_mono (fun _ h => (Bool.and_eq_true _ _ ▸ h).1) exForeignAlias_ok) (by decide +kernel)
example : defaultsWellTyped exForeignAlias (s "files", s "Arg") = true := by decide +kernel

end StoneVerif.C14
