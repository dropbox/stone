import StoneVerif.Gen.Tables
import StoneVerif.Lemmas.Lex
import StoneVerif.Lemmas.Stdin
import StoneVerif.Lemmas.DocTrim
/-!
C11 (layout and delivery do not change the meaning), parts A, C and D, on three models:

* the line-level lexer (`Model/Lex.lean`, tied to stone/frontend/lexer.py by the `fe.lex` suite);
* the stdin splitter (`Model/Stdin.lean`, stone/cli.py);
* the documentation-string rule of the parser (`Model/DocTrim.lean`, stone/frontend/parser.py `p_docstring_string`).

File order, definition order and splitting (part B of the check) are NOT theorems here: they are tested on the
real compiler and the real backends by harness/suites/layout.py.
-/
namespace StoneVerif.C11
open StoneVerif.Lex

/-- indentation unit (`% 4`, `// 4`, `* 4`), the continuation rule (`indent_delta == 1`), the lexer states, the
ignored characters, the newline / comment / parenthesis / string rules, the token types the end-of-input branch
looks at. -/
theorem lexer_layout_table :
    Tables.lexIndentLiterals = [indentUnit, indentUnit, indentUnit] ∧
    Tables.lexContinuationDeltas = [1] ∧
    Tables.lexStates = [("WSIGNORE", "inclusive")] ∧
    Tables.lexIgnore = " \t" ∧
    Tables.lexLayoutRules =
      [("t_LPAR", "\\("), ("t_RPAR", "\\)"), ("t_ANY_STRING", "\\\"([^\\\\\"]|(\\\\.))*\\\""),
       ("t_INITIAL_comment", "[#][^\\n]*\\n+"), ("t_WSIGNORE_comment", "[#][^\\n]*\\n+"),
       ("t_INITIAL_NEWLINE", "\\n+"), ("t_WSIGNORE_NEWLINE", "\\n+")] ∧
    Tables.lexFlushLastTokenTypes = ["NEWLINE", "LINE"] :=
  ⟨rfl, rfl, rfl, rfl, rfl, rfl⟩

/-- The grammar mentions the terminal `NEWLINE` only inside `NL`, a non-empty run of them, and a specification may
begin and continue with `NL`: this is what `norm` (collapse runs, drop a leading run) stands for. -/
theorem newline_grammar_table :
    Tables.parserNewlineProductions = ["NL : NEWLINE", "NL : NL NEWLINE"] ∧
    Tables.parserSpecNLProductions = ["spec : NL", "spec : spec NL"] := ⟨rfl, rfl⟩

/-- The tokens as the parser reads them (`norm`) and the recorded layout errors depend on the significant lines only,
provided the first significant line is not indented. -/
theorem dent_canonical (ls : List Line) (h : HeadOK ls) :
    norm (lex ls).toks = norm (lex (strip ls)).toks ∧ (lex ls).errs = (lex (strip ls)).errs := by
  obtain ⟨h1, h2, h3, _⟩ := run_strip ls h
  have hf : lastFlag true (run true 0 0 ls).toks = lastFlag true (run true 0 0 (strip ls)).toks := by
    rw [← lastFlag_normGo, h1, lastFlag_normGo]
  refine ⟨?_, h2⟩
  simp only [lex, norm]
  rw [normGo_append, normGo_append, h1, hf, h3, flush_congr _ _ _ hf]

/-- Two inputs with the same significant lines (blank / space-only / comment-only lines, at any indentation, inserted or
removed at any line boundaries - inside a parenthesised group included) are the same to the parser. -/
theorem dent_insensitive_many (ls₁ ls₂ : List Line) (hs : strip ls₁ = strip ls₂) (h : HeadOK ls₁) :
    norm (lex ls₁).toks = norm (lex ls₂).toks ∧ (lex ls₁).errs = (lex ls₂).errs := by
  obtain ⟨a1, a2⟩ := dent_canonical ls₁ h
  obtain ⟨b1, b2⟩ := dent_canonical ls₂ ((headOK_congr hs).1 h)
  rw [a1, a2, b1, b2, hs]
  exact ⟨rfl, rfl⟩

theorem strip_insert (pre ins post : List Line) (hins : ∀ l ∈ ins, l.isBlank = true) :
    strip (pre ++ ins ++ post) = strip (pre ++ post) := by
  have : strip ins = [] := by
    simp only [strip, List.filter_eq_nil_iff]
    intro l hl
    have := hins l hl
    simpa [Line.isBlank] using this
  simp only [strip, List.filter_append] at this ⊢
  simp [this]

theorem dent_insensitive_lines (pre ins post : List Line) (hins : ∀ l ∈ ins, l.isBlank = true)
    (h : HeadOK (pre ++ post)) :
    norm (lex (pre ++ ins ++ post)).toks = norm (lex (pre ++ post)).toks ∧
    (lex (pre ++ ins ++ post)).errs = (lex (pre ++ post)).errs := by
  have hs := strip_insert pre ins post hins
  exact dent_insensitive_many _ _ hs ((headOK_congr hs).2 h)

/-- On physical lines: inserting blank, space-only or comment-only lines (any indentation, tabs included) at any
boundary that is not inside a string literal changes neither the token stream the parser reads nor the recorded errors. -/
theorem dent_insensitive (pre ins post : List PLine)
    (hclosed : openAfter false pre = false)
    (hins : ∀ p ∈ ins, p.openStr = false ∧ p.line.isBlank = true)
    (h : HeadOK (join (pre ++ post))) :
    norm (lexP (pre ++ ins ++ post)).toks = norm (lexP (pre ++ post)).toks ∧
    (lexP (pre ++ ins ++ post)).errs = (lexP (pre ++ post)).errs := by
  unfold lexP
  rw [join_append pre post hclosed] at h ⊢
  rw [List.append_assoc, join_append pre _ hclosed, join_closed_append ins post fun p hp => (hins p hp).1,
    ← List.append_assoc]
  refine dent_insensitive_lines _ _ _ (fun l hl => ?_) h
  obtain ⟨p, hp, rfl⟩ := List.mem_map.mp hl
  exact (hins p hp).2

/-- The hypothesis on the first significant line cannot be dropped: the real lexer never looks at the indentation
of the first line of a file (nor at the line after a comment on line 1), so `"    a"` has no `INDENT` while a blank
line in front of it produces one (`'    a\nb\n'` and `'\n    a\n'` of harness/suites/fe_lex.py HAND). -/
theorem head_indent_needed :
    (lex [⟨4, .sig [.other 0] .none⟩]).toks = [.tk (.other 0), .newline] ∧
    (lex [⟨0, .empty⟩, ⟨4, .sig [.other 0] .none⟩]).toks =
      [.newline, .indent, .tk (.other 0), .newline, .dedent] ∧
    (lex [⟨0, .comment true⟩, ⟨4, .sig [.other 0] .none⟩]).toks = [.tk (.other 0), .newline] ∧
    (lex [⟨0, .comment true⟩, ⟨0, .comment true⟩, ⟨4, .sig [.other 0] .none⟩]).toks =
      [.indent, .tk (.other 0), .newline, .dedent] := by decide +kernel

/-- non-vacuity: `a(b,` / `c)` / `    d` with a comment after the first line, an empty and a space-only line
inside the parentheses and a tab-indented comment before the block: raw streams differ, normalised ones agree -/
example :
    let a : Line := ⟨0, .sig [.other 0, .lpar, .other 1] .comment⟩
    let c : Line := ⟨4, .sig [.other 2, .rpar] .none⟩
    let d : Line := ⟨4, .sig [.other 3] .none⟩
    let noisy := [a, ⟨2, .comment true⟩, ⟨0, .empty⟩, ⟨3, .spaces⟩, c, ⟨1, .comment false⟩, ⟨7, .spaces⟩, d]
    (lex noisy).toks ≠ (lex [a, c, d]).toks ∧ norm (lex noisy).toks = norm (lex [a, c, d]).toks ∧
    norm (lex [a, c, d]).toks =
      [.tk (.other 0), .tk .lpar, .tk (.other 1), .tk (.other 2), .tk .rpar, .newline, .indent, .tk (.other 3),
       .newline, .dedent] := by decide +kernel

example : HeadOK [⟨3, .comment true⟩, ⟨0, .sig [.other 0] .none⟩, ⟨4, .sig [.other 1] .none⟩] := by
  intro s hs
  simp [strip, Body.isSig] at hs
  subst hs; rfl

/-- Whatever follows the last token of a significant line - nothing, blanks, a comment - the
tokens and the errors are the same (the newline rule and the partial-line branch of the comment rule coincide,
in `INITIAL` and inside parentheses). -/
theorem trailing_ws (w : Line → Trail) (ls : List Line) :
    lex (ls.map fun l => l.withTrail (w l)) = lex ls := by
  simp [lex, run, runL_map_withTrail]

example : lex [⟨0, .sig [.other 0, .lpar] .comment⟩, ⟨4, .sig [.rpar] .spaces⟩, ⟨4, .sig [.other 1] .comment⟩]
    = lex [⟨0, .sig [.other 0, .lpar] .none⟩, ⟨4, .sig [.rpar] .none⟩, ⟨4, .sig [.other 1] .none⟩] := by decide +kernel

/-- the lexer state when it reaches a significant line `l` that follows the lines `pre` -/
def stateBefore (pre : List Line) (l : Line) : Res := runL (some l) true 0 0 pre

/-- A parenthesised group written on one line, or broken after any tokens that leave a
parenthesis open, each continuation line at one level above the current block level, with any trailing blanks or
comments on the broken lines: same tokens, same errors. -/
theorem paren_break (pre post : List Line) (i : Nat) (t1 : List Tk) (tr1 : Trail) (chunks : List (List Tk × Trail))
    (hopen : OpenAt (stateBefore pre ⟨i, .sig t1 tr1⟩).depth t1 chunks) :
    lex (pre ++ ⟨i, .sig t1 tr1⟩ :: (contLines (stateBefore pre ⟨i, .sig t1 tr1⟩).cur chunks ++ post))
      = lex (pre ++ oneLine i t1 tr1 chunks :: post) := by
  have hk : (some (⟨i, .sig t1 tr1⟩ : Line)).map lkey = (some (oneLine i t1 tr1 chunks)).map lkey := by
    simp [lkey, oneLine, Body.isSig]
  simp only [lex, run, stateBefore] at hopen ⊢
  rw [runL_append, runL_append]
  have e1 : lookahead (⟨i, .sig t1 tr1⟩ :: (contLines (runL (some ⟨i, .sig t1 tr1⟩) true 0 0 pre).cur chunks ++ post))
      = some ⟨i, .sig t1 tr1⟩ := by simp [lookahead, Body.isEmpty]
  have e2 : lookahead (oneLine i t1 tr1 chunks :: post) = some (oneLine i t1 tr1 chunks) := by
    simp [lookahead, oneLine, Body.isEmpty]
  rw [e1, e2]
  simp only [Option.some_or]
  -- `pre` sees of the next line only its `lkey`: the same for the broken line and `oneLine`
  rw [← runL_congr_tn hk]
  rw [runL_break none _ _ _ i chunks t1 tr1 post hopen]

/-- one break: the first part must end inside parentheses, the continuation line must be indented exactly one
level more than the *current block level* (not: than the line that opened the parenthesis) -/
theorem paren_break_two (pre post : List Line) (i : Nat) (t1 t2 : List Tk) (tr1 tr2 : Trail)
    (hopen : (emitToks (stateBefore pre ⟨i, .sig t1 tr1⟩).depth t1).2.2 ≠ 0) :
    lex (pre ++ ⟨i, .sig t1 tr1⟩ :: ⟨indentUnit * ((stateBefore pre ⟨i, .sig t1 tr1⟩).cur + 1), .sig t2 tr2⟩ :: post)
      = lex (pre ++ ⟨i, .sig (t1 ++ t2) tr2⟩ :: post) := by
  have := paren_break pre post i t1 tr1 [(t2, tr2)] ⟨hopen, trivial⟩
  simpa [contLines, oneLine, lastTrail] using this

example : OpenAt 0 [.other 1, .lpar, .other 2] [([.other 3], .spaces), ([.rpar], .none)] := by
  simp [OpenAt, emitToks]

/-- non-vacuity: inside a block at level 1, `f List(String,` / `min_items=1` / `)` against the one-line form; and the
same broken at the *wrong* indentation (level of the opening line) is an error -/
example :
    let pre : List Line := [⟨0, .sig [.other 0] .none⟩]
    let first : Line := ⟨4, .sig [.other 1, .lpar, .other 2] .comment⟩
    (stateBefore pre first).cur = 1 ∧ (stateBefore pre first).depth = 0 ∧
    lex (pre ++ first :: (contLines 1 [([.other 3], .spaces), ([.rpar], .none)] ++ [⟨4, .sig [.other 4] .none⟩]))
      = lex (pre ++ [⟨4, .sig [.other 1, .lpar, .other 2, .other 3, .rpar] .none⟩, ⟨4, .sig [.other 4] .none⟩]) ∧
    (lex (pre ++ [first, ⟨4, .sig [.other 3, .rpar] .none⟩])).errs = [.contIndent] := by decide +kernel

/-- On every input (malformed ones included) the block level computed from the emitted `INDENT`
/ `DEDENT` tokens never drops below zero and is zero at the end. -/
theorem dent_balanced (ls : List Line) : scan 0 (lex ls).toks = some 0 := by
  simp [lex, run, scan_append, scan_runL, scan_flush]

/-- the same in counts: as many `DEDENT`s as `INDENT`s, and never more `DEDENT`s than `INDENT`s in a prefix -/
theorem dent_balanced_counts (ls : List Line) :
    (lex ls).toks.count .indent = (lex ls).toks.count .dedent ∧
    ∀ k, ((lex ls).toks.take k).count .dedent ≤ ((lex ls).toks.take k).count .indent := by
  have h := dent_balanced ls
  refine ⟨by have := scan_count 0 0 _ h; omega, ?_⟩
  intro k
  have h' : scan 0 ((lex ls).toks.take k ++ (lex ls).toks.drop k) = some 0 := by rw [List.take_append_drop]; exact h
  obtain ⟨c, hc⟩ := scan_prefix 0 0 _ _ h'
  have := scan_count 0 c _ hc
  omega

example : (lex [⟨0, .sig [.other 0] .none⟩, ⟨8, .sig [.other 1, .lpar] .none⟩, ⟨3, .sig [.rpar, .rpar] .none⟩,
      ⟨4, .sig [.other 2] .none⟩]).toks.count .indent = 2 := by decide +kernel

open StoneVerif.Stdin

/-- the pattern and the literals of the stdin branch of `stone.cli.main` -/
theorem stdin_split_table :
    Tables.stdinSplitSeparators = ["(?m)^(?=" ++ String.ofList kw ++ "\\b)"] ∧
    Tables.stdinSplitLiterals = ["stdin.1", "stdin.1", "stdin.%s"] :=
  ⟨by decide +kernel, rfl⟩

/-- Texts that each begin with `namespace` followed by a non-word character (or nothing), have no
other line beginning that way and end with a newline: cutting their concatenation gives the texts back, in order.
`w` is Python's `\w`, left arbitrary.  (An identifier, a documentation string or a comment containing the word
`namespace` does not matter any more: see `stdin_split_regression`.) -/
theorem stdin_split (w : Char → Bool) (ts : List (List Char)) (hne : ts ≠ []) (h : ∀ t ∈ ts, Good w t) :
    (splitStdinW w ts.flatten).map Prod.snd = ts := by
  cases ts with
  | nil => exact absurd rfl hne
  | cons t1 rest => simpa using (splitStdinW_flatten w [] t1 rest rfl rfl h).1

/-- ... under the names `stdin.1`, `stdin.2`, ... -/
theorem stdin_split_names (w : Char → Bool) (ts : List (List Char)) (hne : ts ≠ []) (h : ∀ t ∈ ts, Good w t) :
    (splitStdinW w ts.flatten).map Prod.fst = List.range' 1 ts.length := by
  cases ts with
  | nil => exact absurd rfl hne
  | cons t1 rest => simpa using (splitStdinW_flatten w [] t1 rest rfl rfl h).2

/-- text in front of the first `namespace` line (comments, blank lines: no line of it begins with the keyword, it is
empty or ends with a newline) stays with the first spec -/
theorem stdin_split_preamble (w : Char → Bool) (p t1 : List Char) (rest : List (List Char))
    (hp0 : starts w true p = 0) (hpnl : Stdin.endsNL p = true) (h : ∀ t ∈ t1 :: rest, Good w t) :
    (splitStdinW w (p ++ (t1 :: rest).flatten)).map Prod.snd = (p ++ t1) :: rest :=
  (splitStdinW_flatten w p t1 rest hp0 hpnl h).1

/-- the same on `String`s, as `stone.cli.main` hands them to `specs_to_ir` -/
theorem stdin_split_string (ts : List String) (hne : ts ≠ []) (h : ∀ t ∈ ts, Good asciiWord t.toList) :
    (splitStdin (String.join ts)).map Prod.snd = ts := by
  have := stdin_split asciiWord (ts.map String.toList) (by simpa using hne) (List.forall_mem_map.2 h)
  unfold splitStdin splitStdinL
  rw [String.toList_join, List.flatMap_def, List.map_map]
  have e : (Prod.snd ∘ fun p : Nat × List Char => ("stdin." ++ toString p.1, String.ofList p.2))
      = String.ofList ∘ Prod.snd := by funext p; rfl
  rw [e, ← List.map_map, this, List.map_map]
  simp [Function.comp_def]

example : Good asciiWord "namespace a\nstruct S\n    namespace_id String\n    \"namespace of things\"\n".toList := by
  rw [String.toList_ofList]
  exact ⟨by decide +kernel, by decide +kernel, by decide +kernel⟩

example : (splitStdin "# two specs\nnamespace a\nstruct S\n    f String\nnamespace b\nimport a\n")
    = [("stdin.1", "# two specs\nnamespace a\nstruct S\n    f String\n"), ("stdin.2", "namespace b\nimport a\n")] :=
  (splitStdin_ofList _).trans (by decide +kernel)

/-- a legal specification (it compiles from a file: checked by the harness on the real compiler) in which the
substring `namespace` also occurs inside an identifier: the witness of defect D14 -/
def witness : String := "namespace a\nstruct S\n    namespace_id String\n"

/-- Regression (defect D14, repaired in the repository by commit de8ede2): the old code cut at every
occurrence of the substring and handed `"namespace a\nstruct S\n    "` and `"namespace_id String\n"` to the
compiler; the code modelled here keeps the text, and a documentation string that mentions the word, in one piece. -/
theorem stdin_split_regression :
    splitStdin witness = [("stdin.1", witness)] ∧
    splitStdin "namespace a\n    \"The namespace of things.\"\n"
      = [("stdin.1", "namespace a\n    \"The namespace of things.\"\n")] :=
  ⟨splitStdin_one _ (by decide +kernel), splitStdin_one _ (by decide +kernel)⟩

/-- what remains (by design of the repair): a *line* that begins with the keyword starts a new spec, so a text is
still cut if a line of a multi-line documentation string begins with the word `namespace` -/
theorem stdin_split_witness :
    (splitStdin "namespace a\n    \"Types of this\nnamespace and others.\"\n").map Prod.snd
      = ["namespace a\n    \"Types of this\n", "namespace and others.\"\n"] :=
  (congrArg (List.map Prod.snd) (splitStdin_ofList _)).trans (by decide +kernel)

section DocTrim
open StoneVerif.DocTrim

/-- the rule `docstring : STRING` and its one statement, which `DocTrim.docClean` follows -/
theorem docstring_rule_table :
    Tables.parserDocstringProduction = "docstring : STRING" ∧
    Tables.parserDocstringStatements =
      ["p[0] = '\\n'.join([line.rstrip() for line in p[1].split('\\n')])"] := ⟨rfl, rfl⟩

/-- A doc text given by its lines (`ls`, none contains a newline); `ws[k]` - any white space that
is not a line break - is appended to line `k`, for every `k` at once.  The parser's rule gives the same text. -/
theorem doc_trailing_ws (ls ws : List (List Char)) (hne : ls ≠ []) (hl : ∀ l ∈ ls, '\n' ∉ l)
    (hw : ∀ w ∈ ws, blankTail w = true) :
    docClean (joinNL (addTrail ls ws)) = docClean (joinNL ls) := by
  unfold docClean
  rw [splitNL_joinNL _ (addTrail_ne_nil ls ws hne) (addTrail_no_nl ls ws hl hw), splitNL_joinNL ls hne hl,
    map_rstrip_addTrail ls ws hw]

/-- ... for EVERY text `s` (its lines are `s.split('\n')`) -/
theorem doc_trailing_ws_text (s : List Char) (ws : List (List Char)) (hw : ∀ w ∈ ws, blankTail w = true) :
    docClean (joinNL (addTrail (splitNL s) ws)) = docClean s := by
  have h := doc_trailing_ws (splitNL s) ws (splitNL_ne_nil s) (splitNL_no_nl s) hw
  rwa [joinNL_splitNL] at h

theorem doc_clean_lines (s : List Char) : splitNL (docClean s) = (splitNL s).map rstrip := by
  unfold docClean
  apply splitNL_joinNL
  · simpa using splitNL_ne_nil s
  · intro l hl
    obtain ⟨l0, h0, rfl⟩ := List.mem_map.mp hl
    exact fun hm => splitNL_no_nl s l0 h0 (rstrip_sub l0 _ hm)

theorem doc_clean_no_trailing (s : List Char) (l : List Char) (hl : l ∈ splitNL (docClean s)) (c : Char)
    (hc : l.getLast? = some c) : isSpace c = false := by
  rw [doc_clean_lines] at hl
  obtain ⟨l0, _, rfl⟩ := List.mem_map.mp hl
  exact rstrip_getLast l0 c hc

theorem doc_clean_idem (s : List Char) : docClean (docClean s) = docClean (s) := by
  have h := doc_clean_lines s
  show joinNL ((splitNL (docClean s)).map rstrip) = docClean s
  rw [h, List.map_map]
  have : (rstrip ∘ rstrip) = rstrip := funext fun l => rstrip_idem l
  rw [this]; rfl

example : docCleanS "A note.  \nSecond line.\t\n   \nNew paragraph. " = "A note.\nSecond line.\n\nNew paragraph." :=
  (docCleanS_ofList _).trans (by decide +kernel)

example : docClean (joinNL (addTrail ["ab".toList, [], "cd".toList] ["  ".toList, "\t ".toList]))
    = docClean "ab\n\ncd".toList := by decide +kernel

example : blankTail " \t 　\r".toList = true ∧ blankTail " \n".toList = false ∧ blankTail "x".toList = false := by
  decide +kernel

/-- trimming only the end of the whole text (what a `$` without MULTILINE does) is a different function: the white
space of interior lines stays, and with it the paragraph break is lost downstream -/
theorem doc_last_line_only_witness :
    rstrip "a  \n  \nb ".toList = "a  \n  \nb".toList ∧ docClean "a  \n  \nb ".toList = "a\n\nb".toList := by decide +kernel

end DocTrim

end StoneVerif.C11
