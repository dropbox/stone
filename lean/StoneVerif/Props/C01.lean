import StoneVerif.Lemmas.FeParams
import StoneVerif.Lemmas.FeNames
/-!
# C01 — the compiler accepts exactly the legal specs: the proved part

The end-to-end statement (whole specs through `specs_to_ir`) is covered by the by-construction oracle of
`harness/suites/fe_rules.py` and is labelled testing.  Proved here, for ALL inputs, about the component models that
follow the decision logic of the code:

(a) `FeParams`: `_instantiate_data_type` + the `__init__` parameter checks of the built-in types against the "Basic
    Types" table of docs/lang_ref.rst (`legalArgs`);
(b) `FeNames`: the registration pass reduced to names against the pairwise no-clash rule (`NoClash`).

The holes earlier versions of the code had (a literal as `List` / `Map` element type, a non-integral `List` length, a
falsy non-string `String` pattern, a numeric bound beyond the far end of the width, the separator-less canonical key)
were repaired in the code; regression statements record the new behaviour.

Accepted = legal for the model of the whole IR generator is Props/C01Compile.lean.
-/
namespace StoneVerif.C01
open StoneVerif.FeParams StoneVerif.FeNames

theorem legal_args_accepted (rx : String → Bool) (k : TyKind) (pos : List Arg)
    (kw : List (String × Arg)) (h : legalArgs rx k pos kw = true) : ∃ t, instantiate rx k pos kw = .ok t :=
  FeParams.legal_accepted rx k pos kw h

/-- Acceptance = legality, for every built-in type and every argument list (`rx`: which patterns `re.compile`
accepts). -/
theorem instantiate_ok_iff_legal (rx : String → Bool) (k : TyKind) (pos : List Arg) (kw : List (String × Arg)) :
    (∃ t, instantiate rx k pos kw = .ok t) ↔ legalArgs rx k pos kw = true :=
  FeParams.instantiate_ok_iff_legal rx k pos kw

/-- The same for a whole reference `K(args)` / `K(args)?` to a built-in type (`Void?` is refused). -/
theorem builtin_ref_ok_iff_legal (rx : String → Bool) (k : TyKind) (pos : List Arg) (kw : List (String × Arg))
    (nullable : Bool) :
    (∃ r, resolveBuiltin rx k pos kw nullable = .ok r) ↔ legalRef rx k pos kw nullable = true :=
  FeParams.resolveBuiltin_ok_iff_legalRef rx k pos kw nullable

/-- Repaired: `String(pattern=0)`, `pattern=false`, `pattern=0.0` are spec errors. -/
theorem string_falsy_pattern_refused :
    instantiate (fun _ => true) .string [] [("pattern", .int 0)] = .error (.specerr .badArgument) ∧
    instantiate (fun _ => true) .string [] [("pattern", .bool false)] = .error (.specerr .badArgument) ∧
    instantiate (fun _ => true) .string [] [("pattern", .float (.fin 0 1))] = .error (.specerr .badArgument) := by
  decide +kernel

/-- Repaired: `Int32(min_value=2147483648)`, `UInt32(max_value=-1)`, `Float32(min_value=1e39)` are spec errors. -/
theorem bound_beyond_far_end_refused :
    instantiate (fun _ => true) .int32 [] [("min_value", .int 2147483648)] = .error (.specerr .badArgument) ∧
    instantiate (fun _ => true) .uint32 [] [("max_value", .int (-1))] = .error (.specerr .badArgument) ∧
    instantiate (fun _ => true) .float32 [] [("min_value", .float (.fin (10 ^ 39) 1))] = .error (.specerr .badArgument) :=
  ⟨by decide +kernel, by decide +kernel, FeParams.float32_bound_beyond_far_end_refused.1⟩

/-- Repaired: `List(3)` (a literal where a type is required) is a spec error. -/
theorem list_literal_refused :
    instantiate (fun _ => true) .list [.int 3] [] = .error (.specerr .badArgument) := by
  decide +kernel

/-- Repaired: `List(String, min_items=1.5)` is a spec error. -/
theorem list_float_length_refused :
    instantiate (fun _ => true) .list [.ty true] [("min_items", .float (.fin 3 2))] = .error (.specerr .badArgument) := by
  decide +kernel

/-- the signatures the model reads (`Tables.feInitSigs`, extracted from stone/ir/data_types.py) are the ones the
specification table assumes: required = non-defaulted, optional = defaulted parameters -/
theorem signature_tables (k : TyKind) :
    (required k).length = (initSig k).1.length - (initSig k).2 ∧
      (optional k).map (·.1) = (initSig k).1.drop ((initSig k).1.length - (initSig k).2) :=
  ⟨FeParams.required_matches_signature k, FeParams.optional_matches_signature k⟩

/-- the width table the integer bound checks read (`Tables.irIntBounds`), and that `Float64` has no limits; the
`Float32` limits of `Tables.irFloatBounds` are `FeParams.floatLimits_table` -/
theorem bound_tables :
    [TyKind.int32, .uint32, .int64, .uint64].map (fun k => (k.pyName, intLimits k)) = Tables.irIntBounds ∧
    floatLimits .float64 = (none, none) :=
  ⟨FeParams.intLimits_table, FeParams.floatLimits_table.2.1⟩

example : legalArgs (fun _ => true) .string [] [("min_length", .int 1), ("max_length", .int 5), ("pattern", .str "a+")]
    = true ∧ legalArgs (fun _ => true) .int32 [] [("min_value", .int 2147483648)] = false := by decide +kernel

/-- Registration succeeds exactly when no two definitions clash (A8 – A10, B19).  `NsLexical` (no `/` in a namespace
name) is the lexer's guarantee about `ID` tokens, not a restriction on compiler inputs. -/
theorem register_ok_iff_noclash (fs : List File) (hl : NsLexical fs) : isOk (register fs) = true ↔ NoClash fs :=
  FeNames.register_ok_iff_noclash fs hl

/-- Acceptance does not depend on declaration order, file order or on how a namespace is split into files. -/
theorem register_perm (fs fs' : List File) (h : SameDecls fs fs') (hl : NsLexical fs) :
    isOk (register fs) = isOk (register fs') :=
  FeNames.register_perm fs fs' h hl

/-- The keys of `_get_base_name` determine (canonical name, canonical namespace): the separator
`Tables.feCanonicalSep` is stripped from the name part and cannot occur in a namespace name. -/
theorem keys_unambiguous (fs : List File) (hl : NsLexical fs) : ConcatUnambiguous fs :=
  FeNames.concatUnambiguous_of_nsLexical fs hl

/-- Repaired: `Ab` in namespace `c` with `A` in namespace `bc` (both keys used to be `abc`) is accepted. -/
theorem concat_legal_accepted :
    isOk (register [⟨"c".toList, [⟨.type, "Ab".toList⟩]⟩, ⟨"bc".toList, [⟨.type, "A".toList⟩]⟩]) = true :=
  FeNames.concat_accepted.2.1

/-- Repaired: type `abc` of namespace `abcabcabc` with namespace `abcabc` is accepted in both file orders. -/
theorem concat_order_independent :
    isOk (register [⟨"abcabcabc".toList, [⟨.type, "abc".toList⟩]⟩, ⟨"abcabc".toList, [⟨.type, "X".toList⟩]⟩]) = true ∧
    isOk (register [⟨"abcabc".toList, [⟨.type, "X".toList⟩]⟩, ⟨"abcabcabc".toList, [⟨.type, "abc".toList⟩]⟩]) = true :=
  FeNames.concat_accepted.2.2

/-- A name of `Tables.feBuiltinTypes` cannot be redefined, whatever else the spec says. -/
theorem builtin_type_not_redefinable (fs : List File) (f : File) (hf : f ∈ fs) (x : Item) (hx : x ∈ f.items)
    (hb : x.name ∈ Tables.feBuiltinTypes.map String.toList) : isOk (register fs) = false :=
  FeNames.builtin_type_not_redefinable fs f hf x hx hb

/-- the characters `_get_base_name` strips and the separator it inserts, as extracted from the code -/
theorem canonical_key_tables : Tables.feCanonicalStrip = (["/", "_"], ["_"]) ∧ Tables.feCanonicalSep = "/" :=
  ⟨rfl, rfl⟩

example : NsLexical FeNames.exampleFiles ∧ NoClash FeNames.exampleFiles ∧
    isOk (register FeNames.exampleFiles) = true :=
  ⟨FeNames.exampleFiles_nsLexical,
    (FeNames.register_ok_iff_noclash _ FeNames.exampleFiles_nsLexical).1 FeNames.exampleFiles_accepted,
    FeNames.exampleFiles_accepted⟩

/-- a refused input: the theorem is not about a model that accepts everything -/
example : NsLexical [⟨"a".toList, [⟨.type, "Foo".toList⟩, ⟨.route 1, "foo".toList⟩]⟩] ∧
    ¬ NoClash [⟨"a".toList, [⟨.type, "Foo".toList⟩, ⟨.route 1, "foo".toList⟩]⟩] := by decide +kernel

end StoneVerif.C01
