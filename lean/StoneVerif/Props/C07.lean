import StoneVerif.Lemmas.RtCompatFwd
import StoneVerif.Lemmas.RtCompatBwd
import StoneVerif.Lemmas.RtCompatStrict
import StoneVerif.Lemmas.RtCompatEdits
import StoneVerif.Lemmas.RtCompatWire
import StoneVerif.Lemmas.RtRoundTrip.Canon
import StoneVerif.Lemmas.RtDecode
/-!
Property theorems for C07: backwards-compatible changes (docs/evolve_spec.rst) keep peers interoperable.

Setting (`Model/Rt/Compat.lean`): an older spec `A`, a newer spec `B`, a one-to-one correspondence `ρ` between their class
references, and `subB ρ A B tA tB`: every related pair of classes differs only by listed compatible changes (`compatEnv`)
and the two types are related (`tySub`).  `view ρ A tA v` is the A-view of a B-value: unknown fields dropped, unknown tags
read as the catch-all, unknown subtypes as the base struct, payloads of tags that are Void in A forgotten; `lift ρ B tB v` is
an A-value seen under B, the new fields unset.

Hypotheses on the environments, each evaluated by the driver on every generated pair: `envWF` of both, `envWFX A` and
`envWFU B` (a subclass inherits its ancestors' attribute descriptors unchanged); the wire-form theorems add those of C04's
round trip on the sender's side (`envRT`, `ExtLaws`), `strict_rejects_iff` adds `fieldFlagsWF A` (C06).
-/
namespace StoneVerif.C07
open StoneVerif.Rt StoneVerif.Rt.Compat
open StoneVerif.Rt.RoundTrip (envRT ExtLaws valWF ambiguousEmpty canon decode_wire_canon)

def Ctx (ρ : Rho) (A B : Env) : Prop := StoneVerif.Rt.Compat.Ctx ρ A B

theorem ctx_of {ρ : Rho} {A B : Env} {tA tB : PTy} (hs : subB ρ A B tA tB = true)
    (hA : envWF A = true) (hB : envWF B = true) (hxA : envWFX A = true) (huB : envWFU B = true) :
    StoneVerif.Rt.Compat.Ctx ρ A B ∧ tySub ρ tA tB = true := by
  simp only [subB, Bool.and_eq_true] at hs
  exact ⟨⟨hs.1, hA, hB, hxA, huB⟩, hs.2⟩

/-- Forward compatibility, message form: whatever document the newer spec's decoder accepts, in either mode — in particular
everything its encoder writes — the older spec's lenient decoder accepts, and builds the A-view of what the newer one built. -/
theorem forward_compat_msg (E : Ext) {ρ : Rho} {A B : Env} {tA tB : PTy} (hs : subB ρ A B tA tB = true)
    (hA : envWF A = true) (hB : envWF B = true) (hxA : envWFX A = true) (huB : envWFU B = true)
    (hw : tyWF A tA = true) (j : JVal) (sB : Bool) (w : PyVal)
    (h : decode E B [] sB tB j = .ok w) :
    decode E A [] false tA j = .ok (view ρ A tA w) := by
  obtain ⟨cx, hty⟩ := ctx_of hs hA hB hxA huB
  exact decode_sub E cx j tA tB false sB w hty hw (fun h => by cases h) h

/-- Forward compatibility, wire form, with the sender's round trip (`hrt`: C04 for B) as a hypothesis and none on the value. -/
theorem forward_compat_partial (E : Ext) {ρ : Rho} {A B : Env} {tA tB : PTy} (hs : subB ρ A B tA tB = true)
    (hA : envWF A = true) (hB : envWF B = true) (hxA : envWFX A = true) (huB : envWFU B = true)
    (hw : tyWF A tA = true) (v w : PyVal) (sB : Bool)
    (hrt : decode E B [] sB tB (wire E B tB v) = .ok w) :
    decode E A [] false tA (wire E B tB v) = .ok (view ρ A tA w) :=
  forward_compat_msg E hs hA hB hxA huB hw _ sB w hrt

/-- Forward compatibility, wire form.  A peer on `B` serialises a valid `v`; a peer on `A`, decoding leniently (the mode
`evolve_spec.rst` prescribes for receivers), accepts the message and builds the A-view of `canon B tB v`, the value B's own
decoder returns for it, equal to `v` under Python `==` (C04).  Beyond `forward_compat_msg`: the hypotheses of C04's round
trip on the sender's side.  The compiled model evaluates all but the first two clauses of `ExtLaws` on every generated pair
and value: those on the pair are asserted (`compat.hyp`, `compat.sub`), C04's are counted (`compat.theorem.forward.domain`;
`envRT` excludes a known defect), and inside the domain the real decoder on the real encoding is compared with this
right-hand side (`compat.theorem.forward`). -/
theorem forward_compat (E : Ext) {ρ : Rho} {A B : Env} {tA tB : PTy} (hs : subB ρ A B tA tB = true)
    (hA : envWF A = true) (hB : envWF B = true) (hxA : envWFX A = true) (huB : envWFU B = true)
    (hw : tyWF A tA = true) (hrtB : envRT B = true) (hE : ExtLaws E B) (v : PyVal)
    (htB : tyWF B tB = true) (hv : validB E B tB v = true) (hn : normalB B tB v = true)
    (hvw : valWF E B tB v = true) (hamb : ambiguousEmpty B tB v = false) :
    decode E A [] false tA (wire E B tB v) = .ok (view ρ A tA (canon B tB v)) :=
  forward_compat_msg E hs hA hB hxA huB hw _ false _
    (decode_wire_canon hB hrtB hE false tB v ⟨htB, hv, hn, hvw, hamb⟩)

theorem forward_compat_eq (E : Ext) {ρ : Rho} {A B : Env} {tA tB : PTy} (hs : subB ρ A B tA tB = true)
    (hA : envWF A = true) (hB : envWF B = true) (hxA : envWFX A = true) (huB : envWFU B = true)
    (hw : tyWF A tA = true) (hrtB : envRT B = true) (hE : ExtLaws E B) (v : PyVal)
    (htB : tyWF B tB = true) (hv : validB E B tB v = true) (hn : normalB B tB v = true)
    (hvw : valWF E B tB v = true) (hamb : ambiguousEmpty B tB v = false) :
    ∃ v', pyEq E B v v' = true ∧ (∀ sB, decode E B [] sB tB (wire E B tB v) = .ok v') ∧
      decode E A [] false tA (wire E B tB v) = .ok (view ρ A tA v') :=
  ⟨canon B tB v, RoundTrip.pyEq_canon hB hrtB hE tB v ⟨htB, hv, hn, hvw, hamb⟩,
    fun sB => decode_wire_canon hB hrtB hE sB tB v ⟨htB, hv, hn, hvw, hamb⟩,
    forward_compat E hs hA hB hxA huB hw hrtB hE v htB hv hn hvw hamb⟩

/-- Strict decoding accepts what it knows (one half of `strict_rejects_iff`): a document the newer spec's decoder accepts and
that contains nothing the older spec does not know at this type (`knownDoc`) is accepted by the older spec's strict decoder
too, as the same A-view. -/
theorem strict_accepts_known (E : Ext) {ρ : Rho} {A B : Env} {tA tB : PTy} (hs : subB ρ A B tA tB = true)
    (hA : envWF A = true) (hB : envWF B = true) (hxA : envWFX A = true) (huB : envWFU B = true)
    (hw : tyWF A tA = true) (j : JVal) (sB : Bool) (w : PyVal)
    (h : decode E B [] sB tB j = .ok w) (hk : knownDoc A tA j = true) :
    decode E A [] true tA j = .ok (view ρ A tA w) := by
  obtain ⟨cx, hty⟩ := ctx_of hs hA hB hxA huB
  exact decode_sub E cx j tA tB true sB w hty hw (fun _ => hk) h

theorem strict_accepts_known_wire (E : Ext) {ρ : Rho} {A B : Env} {tA tB : PTy} (hs : subB ρ A B tA tB = true)
    (hA : envWF A = true) (hB : envWF B = true) (hxA : envWFX A = true) (huB : envWFU B = true)
    (hw : tyWF A tA = true) (hrtB : envRT B = true) (hE : ExtLaws E B) (v : PyVal)
    (htB : tyWF B tB = true) (hv : validB E B tB v = true) (hn : normalB B tB v = true)
    (hvw : valWF E B tB v = true) (hamb : ambiguousEmpty B tB v = false)
    (hk : knownDoc A tA (wire E B tB v) = true) :
    decode E A [] true tA (wire E B tB v) = .ok (view ρ A tA (canon B tB v)) :=
  strict_accepts_known E hs hA hB hxA huB hw _ false _
    (decode_wire_canon hB hrtB hE false tB v ⟨htB, hv, hn, hvw, hamb⟩) hk

/-- Backward compatibility, message form: a document in the form the older spec's encoder writes (`tightDoc`) that the older
spec's decoder accepts, and that uses no tag that is Void in A and non-nullable in B (`nvrDoc`: the direction the guide does
not promise), is accepted by the newer spec's decoder, strict or lenient, as the same value seen under the newer spec: same
slots, the new fields unset (reading them gives `None` / the declared default). -/
theorem backward_compat_msg (E : Ext) {ρ : Rho} {A B : Env} {tA tB : PTy} (hs : subB ρ A B tA tB = true)
    (hA : envWF A = true) (hB : envWF B = true) (hxA : envWFX A = true) (huB : envWFU B = true)
    (hw : tyWF A tA = true) (j : JVal) (sA sB : Bool) (w : PyVal)
    (ht : tightDoc A tA j = true) (hn : nvrDoc ρ A B tA j = true)
    (h : decode E A [] sA tA j = .ok w) :
    decode E B [] sB tB j = .ok (lift ρ B tB w) := by
  obtain ⟨cx, hty⟩ := ctx_of hs hA hB hxA huB
  exact decode_lift E cx j tA tB sA sB w hty hw ht hn h

/-- Backward compatibility, wire form, with the sender's round trip (`hrt`), encoder form (`ht`) and `nvrDoc` (`hn`) of its
message as hypotheses; the last two are evaluated on the real encoding of every case (`compat.tight`, `compat.nvrdoc`). -/
theorem backward_compat_partial (E : Ext) {ρ : Rho} {A B : Env} {tA tB : PTy} (hs : subB ρ A B tA tB = true)
    (hA : envWF A = true) (hB : envWF B = true) (hxA : envWFX A = true) (huB : envWFU B = true)
    (hw : tyWF A tA = true) (v w : PyVal) (sA strict : Bool)
    (hrt : decode E A [] sA tA (wire E A tA v) = .ok w)
    (ht : tightDoc A tA (wire E A tA v) = true) (hn : nvrDoc ρ A B tA (wire E A tA v) = true) :
    decode E B [] strict tB (wire E A tA v) = .ok (lift ρ B tB w) :=
  backward_compat_msg E hs hA hB hxA huB hw _ sA strict w ht hn hrt

/-- the hypothesis `ht` of `backward_compat_partial`, for a valid value in C04's domain -/
theorem wire_tight (E : Ext) {A : Env} (hA : envWF A = true) (tA : PTy) (v : PyVal)
    (htA : tyWF A tA = true) (hv : validB E A tA v = true) (hn : normalB A tA v = true)
    (hvw : valWF E A tA v = true) (hamb : ambiguousEmpty A tA v = false) :
    tightDoc A tA (wire E A tA v) = true :=
  tightDoc_wire hA tA v ⟨htA, hv, hn, hvw, hamb⟩

/-- ... and `hn`: on the sender's message `nvrDoc` is the value-level `noVoidToRequired` -/
theorem wire_nvr (E : Ext) (ρ : Rho) {A : Env} (B : Env) (hA : envWF A = true) (tA : PTy) (v : PyVal)
    (htA : tyWF A tA = true) (hv : validB E A tA v = true) (hn : normalB A tA v = true)
    (hvw : valWF E A tA v = true) (hamb : ambiguousEmpty A tA v = false) :
    nvrDoc ρ A B tA (wire E A tA v) = noVoidToRequired ρ A B tA v :=
  nvrDoc_wire ρ B hA tA v ⟨htA, hv, hn, hvw, hamb⟩

/-- Backward compatibility, wire form.  A peer on `A` serialises a valid `v` in which no union value sits on a tag that is
Void in `A` and non-nullable in `B` (`noVoidToRequired`: the one direction the guide does not promise); a peer on `B`, strict
or lenient, accepts the message and builds `canon A tA v` (what A's own decoder returns for it, equal to `v` under `==`: C04)
seen under `B`: instances of B's classes, the new fields unset.  Hypotheses evaluated as said at `forward_compat`
(`compat.theorem.backward.domain`, `compat.theorem.backward`; `compat.nvr` compares `noVoidToRequired` with the same predicate
computed from the IR in Python). -/
theorem backward_compat (E : Ext) {ρ : Rho} {A B : Env} {tA tB : PTy} (hs : subB ρ A B tA tB = true)
    (hA : envWF A = true) (hB : envWF B = true) (hxA : envWFX A = true) (huB : envWFU B = true)
    (hrtA : envRT A = true) (hE : ExtLaws E A) (v : PyVal)
    (htA : tyWF A tA = true) (hv : validB E A tA v = true) (hn : normalB A tA v = true)
    (hvw : valWF E A tA v = true) (hamb : ambiguousEmpty A tA v = false)
    (hnv : noVoidToRequired ρ A B tA v = true) (strict : Bool) :
    decode E B [] strict tB (wire E A tA v) = .ok (lift ρ B tB (canon A tA v)) :=
  backward_compat_msg E hs hA hB hxA huB htA _ false strict _
    (wire_tight E hA tA v htA hv hn hvw hamb)
    (by rw [wire_nvr E ρ B hA tA v htA hv hn hvw hamb]; exact hnv)
    (decode_wire_canon hA hrtA hE false tA v ⟨htA, hv, hn, hvw, hamb⟩)

theorem backward_compat_eq (E : Ext) {ρ : Rho} {A B : Env} {tA tB : PTy} (hs : subB ρ A B tA tB = true)
    (hA : envWF A = true) (hB : envWF B = true) (hxA : envWFX A = true) (huB : envWFU B = true)
    (hrtA : envRT A = true) (hE : ExtLaws E A) (v : PyVal)
    (htA : tyWF A tA = true) (hv : validB E A tA v = true) (hn : normalB A tA v = true)
    (hvw : valWF E A tA v = true) (hamb : ambiguousEmpty A tA v = false)
    (hnv : noVoidToRequired ρ A B tA v = true) :
    ∃ v', pyEq E A v v' = true ∧ (∀ sA, decode E A [] sA tA (wire E A tA v) = .ok v') ∧
      ∀ sB, decode E B [] sB tB (wire E A tA v) = .ok (lift ρ B tB v') :=
  ⟨canon A tA v, RoundTrip.pyEq_canon hA hrtA hE tA v ⟨htA, hv, hn, hvw, hamb⟩,
    fun sA => decode_wire_canon hA hrtA hE sA tA v ⟨htA, hv, hn, hvw, hamb⟩,
    fun sB => backward_compat E hs hA hB hxA huB hrtA hE v htA hv hn hvw hamb hnv sB⟩

/-- one environment; documents as `json.loads` produces them: no repeated keys -/
theorem strict_accepts_only_known (E : Ext) {A : Env} (hA : envWF A = true) {tA : PTy} (hw : tyWF A tA = true)
    (j : JVal) (hnd : nodupKeys j = true) (w : PyVal) (h : decode E A [] true tA j = .ok w) :
    knownDoc A tA j = true :=
  known_of_strict E hA j tA w hw hnd h

/-- Strict decoding rejects precisely the messages that contain something unknown: for every document `j` without repeated
keys that the newer spec's decoder accepts, strict decoding under A fails — by the validation error, nothing else — exactly
when `knownDoc A tA j = false` (a member that is no field, a tag or subtype A does not list, anything beside a tag that is Void
in A).  `fieldFlagsWF A` (C06) is needed only for "nothing else escapes".  In message form because the value-level
`mentionsUnknown` of the model is tied to `knownDoc` of the encoding by the harness (`compat.mentions` / `compat.known`), not
by a theorem. -/
theorem strict_rejects_iff (E : Ext) {ρ : Rho} {A B : Env} {tA tB : PTy} (hs : subB ρ A B tA tB = true)
    (hA : envWF A = true) (hB : envWF B = true) (hxA : envWFX A = true) (huB : envWFU B = true)
    (hfA : fieldFlagsWF A = true) (hw : tyWF A tA = true) (j : JVal) (hnd : nodupKeys j = true) (sB : Bool) (w : PyVal)
    (h : decode E B [] sB tB j = .ok w) :
    (∃ e, decode E A [] true tA j = .error (.verr e)) ↔ knownDoc A tA j = false := by
  constructor
  · rintro ⟨e, he⟩
    cases hk : knownDoc A tA j with
    | false => rfl
    | true =>
      rw [strict_accepts_known E hs hA hB hxA huB hw j sB w h hk] at he
      cases he
  · intro hk
    cases hd : decode E A [] true tA j with
    | ok w' =>
      rw [strict_accepts_only_known E hA hw j hnd w' hd] at hk
      cases hk
    | error err =>
      cases err with
      | verr e => exact ⟨e, rfl⟩
      | crash e => exact absurd hd (DecL.decode_nc E A [] true hA hfA j tA hw e)

theorem sub_refl {A : Env} (hA : envWF A = true) {t : PTy} (ht : tyWF A t = true) :
    subB (Rho.idOf A) A A t t = true := by
  simp [subB, compatEnv_refl hA, tySub_refl t ht]

/-- a history of any number of compatible edits is one compatible change: the theorems above cover it without bound -/
theorem sub_trans {ρ₁ ρ₂ : Rho} {A B C : Env} {tA tB tC : PTy} (h1 : subB ρ₁ A B tA tB = true) (h2 : subB ρ₂ B C tB tC = true)
    (hB : envWF B = true) (hC : envWF C = true) : subB (ρ₁.comp ρ₂) A C tA tC = true := by
  simp only [subB, Bool.and_eq_true] at h1 h2 ⊢
  exact ⟨compatEnv_trans h1.1 ⟨h2.1, hB, hC⟩, tySub_trans (compat_wf h2.1) h1.2 h2.2⟩

/-! Each listed edit yields `subB`: the changes docs/evolve_spec.rst lists as backwards compatible, and the addition of a
subtype under a catch-all root (docs/lang_ref.rst, "Open vs. Closed").  Class level for any correspondence; environment level
for the two edits that touch many classes at once (an added field is inherited by all descendants; a renaming changes every
reference). -/

/-- Adding optional / defaulted fields (to a struct without a subtype table). -/
theorem edit_add_optional_field {ρ : Rho} {A B : Env} {a b : String} {sa sb : StructDef}
    (hsa : A.struct? a = some sa) (hsb : B.struct? b = some sb)
    (hnd : nodupS (sb.allAttrs.map (·.name)) = true)
    (hkeep : ∀ f ∈ sa.allAttrs, f ∈ sb.allAttrs)
    (hnew : ∀ g ∈ sb.allAttrs, g ∈ sa.allAttrs ∨ newFieldOk B g = true)
    (hty : ∀ f ∈ sa.allAttrs, tySub ρ f.ty f.ty = true)
    (hsub : sa.subtypes = none ∧ sb.subtypes = none) :
    structSub ρ A B a b = true :=
  (structSub_iff hsa).2 ⟨sb, hsb,
    fun f hf => ⟨f, find_name_of_mem ((nodupS_iff _).1 hnd) (hkeep f hf), by simp [fieldSub, hty f hf]⟩,
    fun g hg => (hnew g hg).imp_left find_name_isSome, by rw [hsub.1, hsub.2]⟩

theorem edit_add_optional_field_env {A : Env} (hA : envWF A = true) (g : FieldDef) (cls : String) (pos : Nat)
    (hB : envWF (addFieldEnv A g cls pos) = true) (hg : newFieldOk (addFieldEnv A g cls pos) g = true) {t : PTy}
    (ht : tyWF A t = true) :
    subB (Rho.idOf A) A (addFieldEnv A g cls pos) t t = true := by
  simp [subB, edit_add_field_env hA g cls pos hB hg, tySub_refl t ht]

/-- Adding a tag to an open union. -/
theorem edit_add_tag_open {ρ : Rho} {A B : Env} {a b : String} {ua ub : UnionDef}
    (hua : A.union? a = some ua) (hub : B.union? b = some ub)
    (hnd : nodupS ((UnionDef.allTags ub).map (·.name)) = true)
    (hca : ua.catchAll = ub.catchAll) (hopen : ua.catchAll.isSome = true)
    (hkeep : ∀ t ∈ UnionDef.allTags ua, t ∈ UnionDef.allTags ub)
    (hty : ∀ t ∈ UnionDef.allTags ua, tySub ρ t.ty t.ty = true) :
    unionSub ρ A B a b = true :=
  (unionSub_iff hua).2 ⟨ub, hub, hca,
    fun t ht => ⟨t, findTag_of_mem ((nodupS_iff _).1 hnd) (hkeep t ht), rfl, .inl (hty t ht)⟩, .inl hopen⟩

/-- Giving a Void tag a type. -/
theorem edit_void_to_typed {ρ : Rho} {A B : Env} {a b : String} {ua ub : UnionDef}
    (hua : A.union? a = some ua) (hub : B.union? b = some ub) (hca : ua.catchAll = ub.catchAll)
    (hpair : ∀ t ∈ UnionDef.allTags ua, ∃ t', findTag t.name (UnionDef.allTags ub) = some t' ∧ t.omitted = t'.omitted ∧
      (tySub ρ t.ty t'.ty = true ∨ (isVoidT t.ty = true ∧ ua.catchAll ≠ some t.name)))
    (hnames : ∀ t' ∈ UnionDef.allTags ub, (findTag t'.name (UnionDef.allTags ua)).isSome = true) :
    unionSub ρ A B a b = true :=
  (unionSub_iff hua).2 ⟨ub, hub, hca, hpair, .inr hnames⟩

/-- Adding a subtype under a catch-all root. -/
theorem edit_add_subtype_catch_all {ρ : Rho} {A B : Env} {a b : String} {sa sb : StructDef} {xa xb : List SubEntry}
    (hsa : A.struct? a = some sa) (hsb : B.struct? b = some sb)
    (hnd : nodupS (sb.allAttrs.map (·.name)) = true)
    (hattrs : sa.allAttrs = sb.allAttrs) (hty : ∀ f ∈ sa.allAttrs, tySub ρ f.ty f.ty = true)
    (hxa : sa.subtypes = some xa) (hxb : sb.subtypes = some xb)
    (hca : sa.catchAll = true) (hcb : sb.catchAll = true)
    (hkeep : ∀ e ∈ xa, ∃ e', findSub e.1 xb = some e' ∧ ρ.rel e.2.1 e'.2.1 = true ∧ e.2.2 = e'.2.2) :
    structSub ρ A B a b = true := by
  refine (structSub_iff hsa).2 ⟨sb, hsb,
    fun f hf => ⟨f, find_name_of_mem ((nodupS_iff _).1 hnd) (hattrs ▸ hf), by simp [fieldSub, hty f hf]⟩,
    fun g hg => .inl (find_name_isSome (hattrs ▸ hg)), ?_⟩
  simp only [hxa, hxb, hca, hcb, beq_self_eq_true, Bool.true_and, Bool.true_or, Bool.and_true, List.all_eq_true]
  intro e he
  obtain ⟨e', hf, hr, htr⟩ := hkeep e he
  simp [hf, hr, htr]

/-- Renaming types.  Routes and aliases do not occur in environments: adding a route, introducing or inlining an alias
leaves `A` and `B` identical (`sub_refl`). -/
theorem edit_rename {A : Env} (hA : envWF A = true) (r : String → String) (hinj : RenInj r A) {t : PTy}
    (ht : tyWF A t = true) : subB (Rho.ofRen r A) A (renEnv r A) t (renTy r t) = true := by
  simp [subB, edit_rename_env hA r hinj, tySub_ren t ht]

theorem view_none (ρ : Rho) (A : Env) (t : PTy) : view ρ A t .none = .none :=
  StoneVerif.Rt.Compat.view_none ρ A t

/-! ## Non-vacuity: a small pair of environments with one edit of every listed kind -/

/-- any table will do: the theorems hold for every `Ext` -/
def E0 : Ext where
  fltLt _ _ := false
  fltIsNan _ := false
  fltIsInf _ := false
  fltOfInt _ := some 0
  patMatch _ _ := true
  b64enc s := s
  b64dec s := some (some s)
  strftime _ _ := ""
  strptime _ _ := some 0
  md5 s := s
  reSearch _ _ := none
  strOfInt _ := ""
  strOfFlt _ := ""

def tInt : PTy := .int {} "Int32" (-5) 5
def tStrQ : PTy := .str { nullable := true } none none none
def fA : FieldDef := ⟨"a", tInt, false, false, none, none⟩
def fB : FieldDef := ⟨"b", tStrQ, true, false, none, none⟩                    -- added: b String?
def fC : FieldDef := ⟨"c", .bool {}, false, false, some (.bool true), none⟩   -- added: c Boolean = true
def fN : FieldDef := ⟨"n", .str {} none none none, false, false, none, none⟩
def fU : FieldDef := ⟨"u", .union {} "ns.U", false, true, none, none⟩

def envA : Env := ⟨
  [⟨"ns.S", [⟨"ns.S", [fA]⟩], none, false⟩,
   ⟨"ns.H", [⟨"ns.H", [fU]⟩], none, false⟩,
   ⟨"ns.R", [⟨"ns.R", [fA]⟩], some [(["file"], "ns.F", false)], true⟩,
   ⟨"ns.F", [⟨"ns.R", [fA]⟩, ⟨"ns.F", [fN]⟩], none, false⟩],
  [⟨"ns.U", [⟨"ns.U", [⟨"v", .void {}, none⟩, ⟨"w", .void {}, none⟩, ⟨"s", .struct {} "ns.S", none⟩,
      ⟨"other", .void {}, none⟩]⟩], some "other"⟩]⟩

/-- the newer spec: `ns.S` renamed `ns.T` with an optional and a defaulted field added; tag `n` added to the open union
`ns.U`, its Void tag `w` given a type; subtype `ns.G` added under the catch-all root `ns.R` -/
def envB : Env := ⟨
  [⟨"ns.T", [⟨"ns.T", [fA, fB, fC]⟩], none, false⟩,
   ⟨"ns.H", [⟨"ns.H", [fU]⟩], none, false⟩,
   ⟨"ns.R", [⟨"ns.R", [fA]⟩], some [(["file"], "ns.F", false), (["link"], "ns.G", false)], true⟩,
   ⟨"ns.F", [⟨"ns.R", [fA]⟩, ⟨"ns.F", [fN]⟩], none, false⟩,
   ⟨"ns.G", [⟨"ns.R", [fA]⟩, ⟨"ns.G", [fN]⟩], none, false⟩],
  [⟨"ns.U", [⟨"ns.U", [⟨"v", .void {}, none⟩, ⟨"w", tInt, none⟩, ⟨"n", tStrQ, none⟩, ⟨"s", .struct {} "ns.T", none⟩,
      ⟨"other", .void {}, none⟩]⟩], some "other"⟩]⟩

def rho0 : Rho := [("ns.S", "ns.T"), ("ns.H", "ns.H"), ("ns.R", "ns.R"), ("ns.F", "ns.F"), ("ns.U", "ns.U")]

theorem pair_ok : envWF envA = true ∧ envWF envB = true ∧ envWFX envA = true ∧ envWFU envB = true ∧
    compatEnv rho0 envA envB = true := by decide +kernel

example : envWF envA = true ∧ envWF envB = true ∧ envWFX envA = true ∧ envWFU envB = true ∧
    compatEnv rho0 envA envB = true := pair_ok
example : subB rho0 envA envB (.struct {} "ns.H") (.struct {} "ns.H") = true ∧
    subB rho0 envA envB (.tree {} "ns.R") (.tree {} "ns.R") = true ∧
    subB rho0 envA envB (.list {} (.union {} "ns.U") none none) (.list {} (.union {} "ns.U") none none) = true := by
  decide +kernel

/-- new fields inside a struct-typed union member inside a struct (dropped), a new tag (read as `other`), a payload on a tag that
was Void (forgotten), a new subtype (read as the base struct) -/
example :
    decode E0 envB [] false (.struct {} "ns.H")
      (.obj [("u", .obj [(".tag", .str "s"), ("a", .int 1), ("b", .str "x"), ("c", .bool false)])]) =
      .ok (.struct "ns.H" [("u", .union "ns.U" "s" (.struct "ns.T" [("a", .int 1), ("b", .str "x"), ("c", .bool false)]))]) ∧
    decode E0 envA [] false (.struct {} "ns.H")
      (.obj [("u", .obj [(".tag", .str "s"), ("a", .int 1), ("b", .str "x"), ("c", .bool false)])]) =
      .ok (.struct "ns.H" [("u", .union "ns.U" "s" (.struct "ns.S" [("a", .int 1)]))]) := ⟨rfl, rfl⟩
example :
    view rho0 envA (.struct {} "ns.H")
      (.struct "ns.H" [("u", .union "ns.U" "s" (.struct "ns.T" [("a", .int 1), ("b", .str "x"), ("c", .bool false)]))]) =
      .struct "ns.H" [("u", .union "ns.U" "s" (.struct "ns.S" [("a", .int 1)]))] := rfl
example :
    decode E0 envA [] false (.union {} "ns.U") (.obj [(".tag", .str "n"), ("n", .str "x")]) = .ok (.union "ns.U" "other" .none) ∧
    decode E0 envA [] false (.union {} "ns.U") (.obj [(".tag", .str "w"), ("w", .int 3)]) = .ok (.union "ns.U" "w" .none) ∧
    decode E0 envA [] false (.tree {} "ns.R") (.obj [(".tag", .str "link"), ("a", .int 2), ("n", .str "y")]) =
      .ok (.struct "ns.R" [("a", .int 2)]) ∧
    view rho0 envA (.union {} "ns.U") (.union "ns.U" "n" (.str "x")) = .union "ns.U" "other" .none ∧
    view rho0 envA (.union {} "ns.U") (.union "ns.U" "w" (.int 3)) = .union "ns.U" "w" .none ∧
    view rho0 envA (.tree {} "ns.R") (.struct "ns.G" [("a", .int 2), ("n", .str "y")]) = .struct "ns.R" [("a", .int 2)] := by
  exact ⟨rfl, rfl, rfl, rfl, rfl, rfl⟩

theorem E0_lawsB : ExtLaws E0 envB :=
  ⟨fun _ => rfl, fun _ => rfl, RoundTrip.dflt_refl_of_dfltsReflB (by decide +kernel)⟩
theorem E0_lawsA : ExtLaws E0 envA :=
  ⟨fun _ => rfl, fun _ => rfl, RoundTrip.dflt_refl_of_dfltsReflB (by decide +kernel)⟩

def tUs : PTy := .list {} (.union {} "ns.U") none none
/-- a struct member with the two added fields set, the added tag, the tag that was Void with its new payload, an untouched
Void tag -/
def vB : PyVal := .list [.union "ns.U" "s" (.struct "ns.T" [("a", .int 1), ("b", .str "x"), ("c", .bool false)]),
  .union "ns.U" "n" (.str "x"), .union "ns.U" "w" (.int 3), .union "ns.U" "v" .none]

theorem vB_good : subB rho0 envA envB tUs tUs = true ∧ envRT envB = true ∧ tyWF envA tUs = true ∧ tyWF envB tUs = true ∧
    validB E0 envB tUs vB = true ∧ normalB envB tUs vB = true ∧ valWF E0 envB tUs vB = true ∧
    ambiguousEmpty envB tUs vB = false := by decide +kernel

example : decode E0 envA [] false tUs (wire E0 envB tUs vB) = .ok (view rho0 envA tUs (canon envB tUs vB)) :=
  forward_compat E0 vB_good.1 pair_ok.1 pair_ok.2.1 pair_ok.2.2.1 pair_ok.2.2.2.1
    vB_good.2.2.1 vB_good.2.1 E0_lawsB vB vB_good.2.2.2.1 vB_good.2.2.2.2.1 vB_good.2.2.2.2.2.1 vB_good.2.2.2.2.2.2.1
    vB_good.2.2.2.2.2.2.2
/-- the conclusion of `forward_compat` is not trivial here -/
example :
    wire E0 envB tUs vB = .arr [.obj [(".tag", .str "s"), ("a", .int 1), ("b", .str "x"), ("c", .bool false)],
      .obj [(".tag", .str "n"), ("n", .str "x")], .obj [(".tag", .str "w"), ("w", .int 3)], .obj [(".tag", .str "v")]] ∧
    view rho0 envA tUs (canon envB tUs vB) = .list [.union "ns.U" "s" (.struct "ns.S" [("a", .int 1)]),
      .union "ns.U" "other" .none, .union "ns.U" "w" .none, .union "ns.U" "v" .none] ∧
    knownDoc envA tUs (wire E0 envB tUs vB) = false := ⟨rfl, rfl, by decide +kernel⟩

/-- `strict_accepts_known_wire`: a value of the newer spec that uses nothing new -/
def vB' : PyVal := .list [.union "ns.U" "s" (.struct "ns.T" [("a", .int 1)]), .union "ns.U" "v" .none]
example : validB E0 envB tUs vB' = true ∧ normalB envB tUs vB' = true ∧ valWF E0 envB tUs vB' = true ∧
    ambiguousEmpty envB tUs vB' = false ∧ knownDoc envA tUs (wire E0 envB tUs vB') = true ∧
    decode E0 envA [] true tUs (wire E0 envB tUs vB') =
      .ok (.list [.union "ns.U" "s" (.struct "ns.S" [("a", .int 1)]), .union "ns.U" "v" .none]) :=
  ⟨by decide +kernel, by decide +kernel, by decide +kernel, by decide +kernel, by decide +kernel,
    by with_unfolding_all rfl⟩

def vA : PyVal := .list [.union "ns.U" "s" (.struct "ns.S" [("a", .int 1)]), .union "ns.U" "v" .none]

theorem vA_good : envRT envA = true ∧ tyWF envA tUs = true ∧
    validB E0 envA tUs vA = true ∧ normalB envA tUs vA = true ∧ valWF E0 envA tUs vA = true ∧
    ambiguousEmpty envA tUs vA = false ∧ noVoidToRequired rho0 envA envB tUs vA = true := by decide +kernel

example (strict : Bool) :
    decode E0 envB [] strict tUs (wire E0 envA tUs vA) = .ok (lift rho0 envB tUs (canon envA tUs vA)) :=
  backward_compat E0 vB_good.1 pair_ok.1 pair_ok.2.1 pair_ok.2.2.1 pair_ok.2.2.2.1
    vA_good.1 E0_lawsA vA vA_good.2.1 vA_good.2.2.1 vA_good.2.2.2.1 vA_good.2.2.2.2.1 vA_good.2.2.2.2.2.1
    vA_good.2.2.2.2.2.2 strict
/-- the conclusion of `backward_compat` is not trivial here: an instance of the renamed class `ns.T`, the added fields unset -/
example :
    wire E0 envA tUs vA = .arr [.obj [(".tag", .str "s"), ("a", .int 1)], .obj [(".tag", .str "v")]] ∧
    lift rho0 envB tUs (canon envA tUs vA) =
      .list [.union "ns.U" "s" (.struct "ns.T" [("a", .int 1)]), .union "ns.U" "v" .none] := ⟨rfl, rfl⟩
/-- the same through a struct holding a union and through the enumerated subtypes -/
example : ∀ strict,
    (decode E0 envB [] strict (.tree {} "ns.R") (wire E0 envA (.tree {} "ns.R") (.struct "ns.F" [("a", .int 2), ("n", .str "y")])) =
      .ok (.struct "ns.F" [("a", .int 2), ("n", .str "y")])) ∧
    tightDoc envA (.tree {} "ns.R") (wire E0 envA (.tree {} "ns.R") (.struct "ns.F" [("a", .int 2), ("n", .str "y")])) = true := by
  intro strict; cases strict <;> exact ⟨by with_unfolding_all rfl, by decide +kernel⟩

example : tightDoc envA tUs (wire E0 envA tUs vA) = true ∧ nvrDoc rho0 envA envB tUs (wire E0 envA tUs vA) = true ∧
    nvrDoc rho0 envA envB (.union {} "ns.U") (wire E0 envA (.union {} "ns.U") (.union "ns.U" "w" .none)) = false ∧
    noVoidToRequired rho0 envA envB (.union {} "ns.U") (.union "ns.U" "w" .none) = false := by decide +kernel

/-- `noVoidToRequired` is necessary: `w` is Void in `envA` and `Int32` in `envB` (a listed change, and harmless forwards);
the older peer's `U.w` is a valid value whose message the newer peer refuses, in both modes: the documented limit of "giving
a Void tag a type", not a defect. -/
theorem void_to_required_witness :
    let v := PyVal.union "ns.U" "w" .none
    let t := PTy.union {} "ns.U"
    subB rho0 envA envB t t = true ∧ validB E0 envA t v = true ∧ normalB envA t v = true ∧ valWF E0 envA t v = true ∧
    ambiguousEmpty envA t v = false ∧ noVoidToRequired rho0 envA envB t v = false ∧
    (∀ strict, (match decode E0 envB [] strict t (wire E0 envA t v) with
      | .ok _ => false
      | .error e => e.isVerr) = true) := by decide +kernel

def envS (fields : List FieldDef) : Env := ⟨[⟨"ns.S", [⟨"ns.S", fields⟩], none, false⟩], []⟩
def envU (tags : List TagDef) (ca : Option String) : Env := ⟨[], [⟨"ns.U", [⟨"ns.U", tags⟩], ca⟩]⟩
def tagsU : List TagDef := [⟨"v", .void {}, none⟩, ⟨"other", .void {}, none⟩]

-- each listed edit, alone, yields `compatEnv` (the harness additionally evaluates `compatEnv` on every generated pair)
example : compatEnv [("ns.S", "ns.S")] (envS [fA]) (envS [fA, fB]) = true := by decide +kernel          -- add optional field
example : compatEnv [("ns.S", "ns.S")] (envS [fA]) (envS [fC, fA]) = true := by decide +kernel          -- add defaulted field
example : compatEnv [("ns.S", "ns.S")] (envS [fA]) (envS [fA, fN]) = false := by decide +kernel         -- (a required one is refused)
example : compatEnv [("ns.U", "ns.U")] (envU tagsU (some "other")) (envU (⟨"n", tInt, none⟩ :: tagsU) (some "other")) = true := by
  decide +kernel                                                                                        -- add tag to open union
example : compatEnv [("ns.U", "ns.U")] (envU [⟨"v", .void {}, none⟩] none) (envU [⟨"v", .void {}, none⟩, ⟨"n", tInt, none⟩] none) = false := by
  decide +kernel                                                                                        -- (closed union: refused)
example : compatEnv [("ns.U", "ns.U")] (envU tagsU (some "other")) (envU [⟨"v", tInt, none⟩, ⟨"other", .void {}, none⟩] (some "other")) = true := by
  decide +kernel                                                                                        -- Void tag given a type
example : compatEnv [("ns.S", "ns.Renamed")] (envS [fA]) ⟨[⟨"ns.Renamed", [⟨"ns.Renamed", [fA]⟩], none, false⟩], []⟩ = true := by
  decide +kernel                                                                                        -- rename

example : addFieldEnv (envS [fA]) fB "ns.S" 1 = envS [fA, fB] ∧ envWF (envS [fA]) = true ∧ envWF (envS [fA, fB]) = true ∧
    newFieldOk (envS [fA, fB]) fB = true := ⟨rfl, by decide +kernel, by decide +kernel, by decide +kernel⟩
example : RenInj (fun c => if c == "ns.S" then "ns.Renamed" else c) envA ∧
    ((renEnv (fun c => if c == "ns.S" then "ns.Renamed" else c) envA).struct? "ns.Renamed").isSome = true ∧
    renTy (fun c => if c == "ns.S" then "ns.Renamed" else c) (.list {} (.struct {} "ns.S") none none) =
      .list {} (.struct {} "ns.Renamed") none none := by
  refine ⟨?_, by decide +kernel, rfl⟩
  intro p hp q hq
  simp [Rho.idOf, envA] at hp hq
  rcases hp with rfl | rfl | rfl | rfl | rfl <;> rcases hq with rfl | rfl | rfl | rfl | rfl <;> decide

end StoneVerif.C07
