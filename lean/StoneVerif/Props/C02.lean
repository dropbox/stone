import StoneVerif.Lemmas.GraphOrder
import StoneVerif.Lemmas.Order
/-!
# C02 — the API description is a faithful, closed image: the orders

Linearizations, `normalize`, `all_fields` (models: `linearizeDataTypes`, `linearizeAliases`, `normalize`, `allFields` of
`Model/Graph.lean`, following `stone/ir/api.py` and `Struct.all_fields` / `Union.all_fields`; tied to the code by the
suites `graph.linearize`, `graph.normalize`, `graph.allfields`). The type graph is in `Props/C02Compile.lean`.
-/
namespace StoneVerif.C02
open StoneVerif.Graph

def OwnList (g : Graph) (self : String) (ids : List Id) : Prop :=
  ∀ x ∈ ids, ∃ nd, g.node? x = some nd ∧ nd.ns = self

/-- a parent (`link`) declared in the namespace is listed by the namespace -/
def LinkClosed (g : Graph) (self : String) (link : Node → Option Id) (ids : List Id) : Prop :=
  ∀ a nd p np, a ∈ ids → g.node? a = some nd → link nd = some p → g.node? p = some np → np.ns = self → p ∈ ids

/-- the checks the driver evaluates on every dump imply the side conditions (likewise the two `_of_check` below) -/
theorem ownList_of_check (g : Graph) (self : String) (ids : List Id) (h : ownListB g self ids = true) :
    OwnList g self ids := by
  intro x hx
  simp only [ownListB, List.all_eq_true] at h
  have := h x hx
  split at this
  · rename_i nd hnd
    exact ⟨nd, hnd, by simpa using this⟩
  · simp at this

theorem linkClosed_of_check (g : Graph) (self : String) (link : Node → Option Id) (ids : List Id)
    (h : linkClosedB g self link ids = true) : LinkClosed g self link ids := by
  intro a nd p np ha hnd hp hnp hns
  simp only [linkClosedB, List.all_eq_true] at h
  have := h a ha
  simp only [hnd, hp, hnp, Bool.or_eq_true, bne_iff_ne, ne_eq] at this
  rcases this with h' | h'
  · exact absurd hns h'
  · simpa using h'

/-- `linearize_data_types()` returns a permutation of `data_types` (names unique). -/
theorem linearize_types_perm (g : Graph) (self : String) (ids out : List Id)
    (h : linearizeDataTypes g self ids = .ok out) (hnd : ids.Nodup) (hown : OwnList g self ids)
    (hclosed : LinkClosed g self parentLink ids) : out.Perm ids :=
  (linAll_spec h hclosed).1 hnd hown

/-- A parent declared in the same namespace precedes its child. Acyclicity enters as the hypothesis that the walk
ended within the fuel (`= .ok out`, see `linearize_types_total`). As `out` has no repetition, "sublist `[p, t]`" means
"`p` strictly before `t`". -/
theorem linearize_types_parent_first (g : Graph) (self : String) (ids out : List Id)
    (h : linearizeDataTypes g self ids = .ok out) (hnd : ids.Nodup) (hown : OwnList g self ids)
    (hclosed : LinkClosed g self parentLink ids) :
    ∀ t ∈ out, ∀ nd, g.node? t = some nd → ∀ p, nd.parent = some p → ∀ np, g.node? p = some np →
      np.ns = self → List.Sublist [p, t] out :=
  (linAll_spec h hclosed).2

/-- acyclic parents (a rank that decreases towards the root, below the fuel) make the walk total -/
theorem linearize_types_total (g : Graph) (self : String) (ids : List Id) (rank : Id → Nat)
    (hrank : ∀ a nd p, g.node? a = some nd → nd.parent = some p → rank p < rank a)
    (hnodes : ∀ a nd p, g.node? a = some nd → nd.parent = some p → ∃ np, g.node? p = some np)
    (hb : ∀ x ∈ ids, rank x < g.chainFuel) (hids : ∀ x ∈ ids, ∃ nd, g.node? x = some nd) :
    ∃ out, linearizeDataTypes g self ids = .ok out :=
  linAll_total rank hrank hnodes hb hids []

def AliasClosed (g : Graph) (self : String) (ids : List Id) : Prop :=
  ∀ x nd a, x ∈ ids → g.node? x = some nd → a ∈ referencedAliases g nd.target → SameNs g self a → a ∈ ids

/-- aliases are acyclic: a rank that decreases from an alias of the namespace to every alias of the
namespace its target mentions -/
def AliasRank (g : Graph) (self : String) (rank : Id → Nat) : Prop :=
  ∀ x nd a, g.node? x = some nd → nd.ns = self → a ∈ referencedAliases g nd.target → SameNs g self a →
    rank a < rank x

theorem aliasClosed_of_check (g : Graph) (self : String) (ids : List Id) (h : aliasClosedB g self ids = true) :
    AliasClosed g self ids := by
  intro x nd a hx hnd ha ⟨na, hna, hns⟩
  simp only [aliasClosedB, List.all_eq_true] at h
  have := h x hx
  simp only [hnd, List.all_eq_true] at this
  have := this a ha
  simp only [hna, Bool.or_eq_true, bne_iff_ne, ne_eq] at this
  rcases this with h' | h'
  · exact absurd hns h'
  · simpa using h'

/-- `linearize_aliases()` returns a permutation of `aliases` (acyclic aliases). -/
theorem linearize_aliases_perm (g : Graph) (self : String) (ids out : List Id) (rank : Id → Nat)
    (h : linearizeAliases g self ids = .ok out) (hrank : AliasRank g self rank) (hnd : ids.Nodup)
    (hown : OwnList g self ids) (hclosed : AliasClosed g self ids) : out.Perm ids :=
  (linearizeAliases_spec h hrank hclosed).1 hnd hown

/-- Every alias of the same namespace mentioned ANYWHERE in an alias's target expression - directly or
inside `List`, `Map`, `Nullable` - precedes it (acyclic aliases). -/
theorem linearize_aliases_target_first (g : Graph) (self : String) (ids out : List Id) (rank : Id → Nat)
    (h : linearizeAliases g self ids = .ok out) (hrank : AliasRank g self rank) (hclosed : AliasClosed g self ids) :
    ∀ t ∈ out, ∀ nd, g.node? t = some nd → ∀ a ∈ nd.target.refs, g.isAliasId a = true → SameNs g self a →
      List.Sublist [a, t] out := by
  intro t ht nd hnd' a ha hal hs
  exact (linearizeAliases_spec h hrank hclosed).2 t ht a
    ⟨nd, hnd', by simp only [referencedAliases, List.mem_filter]; exact ⟨ha, hal⟩, hs⟩

theorem linearize_aliases_direct_target_first (g : Graph) (self : String) (ids out : List Id) (rank : Id → Nat)
    (h : linearizeAliases g self ids = .ok out) (hrank : AliasRank g self rank) (hnd : ids.Nodup)
    (hown : OwnList g self ids) (hclosed : AliasClosed g self ids) :
    ∀ t ∈ out, ∀ nd, g.node? t = some nd → ∀ p, nd.target = .ref p → g.isAliasId p = true →
      SameNs g self p → List.Sublist [p, t] out := by
  intro t ht nd hnd' p hp hal hs
  exact linearize_aliases_target_first g self ids out rank h hrank hclosed t ht nd hnd' p
    (by simp [hp, TyExpr.refs]) hal hs

theorem linearize_aliases_total (g : Graph) (self : String) (ids : List Id) (rank : Id → Nat)
    (hrank : AliasRank g self rank) (hids : ∀ x ∈ ids, ∃ nd, g.node? x = some nd)
    (hb : ∀ x ∈ ids, rank x < g.chainFuel) : ∃ out, linearizeAliases g self ids = .ok out := by
  obtain ⟨st, hst⟩ := foldAdd_total (f := aliasAdd g self g.chainFuel) (as := ids)
    (fun a ha st => aliasAdd_total hrank g.chainFuel a st (hids a ha) (fun _ => hb a ha)) {}
  exact ⟨st.out, by simp only [linearizeAliases, hst]⟩

/-- hand spec `graph_order`: `alias A = Z?`, `alias B = C`, `alias C = D`, `alias D = String`,
`alias L = List(M)`, `alias M = Map(String, N)`, `alias N = Int32`, `alias Z = String`;
`struct Top`, `struct Mid extends Top`, `struct Child extends Mid` -/
def gOrder : Graph :=
  { nodes := [
      { id := "o.A", kind := .alias, ns := "o", name := "A", target := .nullable (.ref "o.Z") },
      { id := "o.B", kind := .alias, ns := "o", name := "B", target := .ref "o.C" },
      { id := "o.C", kind := .alias, ns := "o", name := "C", target := .ref "o.D" },
      { id := "o.D", kind := .alias, ns := "o", name := "D" },
      { id := "o.L", kind := .alias, ns := "o", name := "L", target := .list (.ref "o.M") },
      { id := "o.M", kind := .alias, ns := "o", name := "M", target := .map .prim (.ref "o.N") },
      { id := "o.N", kind := .alias, ns := "o", name := "N" },
      { id := "o.Z", kind := .alias, ns := "o", name := "Z" },
      { id := "o.Child", kind := .struct, ns := "o", name := "Child", parent := some "o.Mid",
        fields := [{ name := "c" }, { name := "d", hasDefault := true }, { name := "e", ty := .nullable .prim }] },
      { id := "o.Mid", kind := .struct, ns := "o", name := "Mid", parent := some "o.Top",
        fields := [{ name := "m1", ty := .nullable .prim }, { name := "m2" }] },
      { id := "o.Top", kind := .struct, ns := "o", name := "Top",
        fields := [{ name := "t1", hasDefault := true }, { name := "t2" }] }],
    namespaces := [{ name := "o", aliases := ["o.A", "o.B", "o.C", "o.D", "o.L", "o.M", "o.N", "o.Z"],
                     dataTypes := ["o.Child", "o.Mid", "o.Top"] }] }

/-- Regression (the defect repaired in /repo commit "linearize_aliases places aliases
mentioned inside List, Map and Nullable first"): `A = Z?` now comes after `Z`, `L = List(M)` after `M`,
`M = Map(String, N)` after `N`; direct chains as before (`D`, `C`, `B`). -/
example : ((linearizeAliases gOrder "o" ["o.A", "o.B", "o.C", "o.D", "o.L", "o.M", "o.N", "o.Z"]).toOption
      = some ["o.Z", "o.A", "o.D", "o.C", "o.B", "o.N", "o.M", "o.L"])
    ∧ "o.Z" ∈ (TyExpr.nullable (.ref "o.Z")).refs := by decide +kernel

/-- non-vacuity: `gOrder` satisfies the decidable side conditions of the alias theorems -/
example : aliasClosedB gOrder "o" ["o.A", "o.B", "o.C", "o.D", "o.L", "o.M", "o.N", "o.Z"] = true ∧
    ownListB gOrder "o" ["o.A", "o.B", "o.C", "o.D", "o.L", "o.M", "o.N", "o.Z"] = true := by decide +kernel

/-- a parent chain placed root first -/
example : (linearizeDataTypes gOrder "o" ["o.Child", "o.Mid", "o.Top"]).toOption = some ["o.Top", "o.Mid", "o.Child"] := by
  decide +kernel

/-- After `normalize`: namespaces by name, routes by (name, version), data types, aliases, annotations and
annotation types by name. -/
theorem normalize_sorted (g : Graph) :
    ((normalize g).namespaces.map (·.name)).Pairwise (· ≤ ·) ∧
    ∀ n ∈ (normalize g).namespaces,
      n.routes.Pairwise (fun a b => g.nameOf a < g.nameOf b ∨
        (g.nameOf a = g.nameOf b ∧ g.versionOf a ≤ g.versionOf b)) ∧
      n.dataTypes.Pairwise (fun a b => g.nameOf a ≤ g.nameOf b) ∧
      n.aliases.Pairwise (fun a b => g.nameOf a ≤ g.nameOf b) ∧
      n.annotations.Pairwise (· ≤ ·) ∧ n.annotationTypes.Pairwise (· ≤ ·) := by
  -- `Graph.leStr` is `Order.strLe`: the same `decide (a ≤ b)` in the two models
  have hname : ∀ l : List Id, (l.mergeSort (leName g)).Pairwise (fun a b => g.nameOf a ≤ g.nameOf b) := fun l =>
    (Order.strLe_totalLe.pairwise_mergeSort g.nameOf l).imp of_decide_eq_true
  have hstr : ∀ l : List String, (l.mergeSort leStr).Pairwise (· ≤ ·) := fun l =>
    (Order.strLe_totalLe.pairwise_mergeSort id l).imp of_decide_eq_true
  constructor
  · simp only [normalize, List.map_map]
    rw [List.pairwise_map]
    refine (Order.strLe_totalLe.pairwise_mergeSort Namespace.name g.namespaces).imp fun h => ?_
    simpa [Namespace.normalize] using of_decide_eq_true h
  · intro n hn
    simp only [normalize, List.mem_map] at hn
    obtain ⟨m, _, rfl⟩ := hn
    refine ⟨?_, hname _, hname _, hstr _, hstr _⟩
    have e : leRoute g = fun a b => Order.pairLe (g.nameOf a, g.versionOf a) (g.nameOf b, g.versionOf b) :=
      funext fun a => funext (leRoute_eq g a)
    have := Order.pairLe_totalLe.pairwise_mergeSort (fun a => (g.nameOf a, g.versionOf a)) m.routes
    rw [← e] at this  -- reaches the comparator of `mergeSort` only, not the `Pairwise` relation
    exact this.imp fun h => (leRoute_iff g _ _).1 ((leRoute_eq g _ _).trans h)

/-- `normalize` only reorders: the same namespaces, and in each the same routes, data types, aliases -/
theorem normalize_perm (g : Graph) :
    ((normalize g).namespaces.map (·.name)).Perm (g.namespaces.map (·.name)) ∧
    ∀ n : Namespace, ((n.normalize g).routes.Perm n.routes ∧ (n.normalize g).dataTypes.Perm n.dataTypes ∧
      (n.normalize g).aliases.Perm n.aliases ∧ (n.normalize g).annotations.Perm n.annotations ∧
      (n.normalize g).annotationTypes.Perm n.annotationTypes) := by
  constructor
  · simp only [normalize, List.map_map]
    have : (fun n : Namespace => n.name) ∘ Namespace.normalize g = fun n => n.name := by
      funext n; simp [Namespace.normalize]
    simp only [Function.comp_def] at this ⊢
    simp only [Namespace.normalize]
    exact (List.mergeSort_perm _ _).map _
  · intro n
    exact ⟨List.mergeSort_perm _ _, List.mergeSort_perm _ _, List.mergeSort_perm _ _, List.mergeSort_perm _ _,
      List.mergeSort_perm _ _⟩

/-- `all_fields` as documented: with `c` the inheritance chain (root first), a struct lists the required fields of `c`,
then the optional ones (nullable or defaulted); a union the tags of `c`; ancestors first throughout. -/
theorem all_fields_order (g : Graph) (id : Id) (nd : Node) (fs : List (Id × Field))
    (hnd : g.node? id = some nd) (h : allFields g id = .ok fs) :
    ∃ c, chainUp g g.chainFuel id = .ok c ∧
      (nd.kind = .struct →
        allRequired g id = .ok (chainFields (fun f => !f.isOptional) c) ∧
        allOptional g id = .ok (chainFields (fun f => f.isOptional) c) ∧
        fs = chainFields (fun f => !f.isOptional) c ++ chainFields (fun f => f.isOptional) c) ∧
      (nd.kind = .union → fs = chainFields (fun _ => true) c) ∧
      fs.Perm (chainFields (fun _ => true) c) := by
  obtain ⟨nd', c, hnd', hrest⟩ := allFields_chain h
  cases hnd.symm.trans hnd'
  exact ⟨c, hrest⟩

/-- `Child extends Mid extends Top`: required of Top, Mid, Child, then optional of Top, Mid, Child -/
example : (allFields gOrder "o.Child").toOption.map (fun l => l.map (fun of => (of.1, of.2.name))) =
    some [("o.Top", "t2"), ("o.Mid", "m2"), ("o.Child", "c"),
          ("o.Top", "t1"), ("o.Mid", "m1"), ("o.Child", "d"), ("o.Child", "e")] := by decide +kernel

end StoneVerif.C02
