import StoneVerif.Lemmas.IrCheckNoCrash
import StoneVerif.Lemmas.IrCheckExampleRoundTrip
/-! Property theorems for C10 (accepted defaults and computed examples are valid for the generated classes).

`Model/IrCheck.lean` is the compile-time side (`_create_struct_field`, `_populate_field_defaults`,
`data_types.<Type>.check` / `.check_example`, the reference-free part of `_compute_example*`,
`_generate_python_value`); `Model/Rt/*` is the runtime of the generated classes.  `E : Ext` are the
external calls both sides make (float arithmetic, the whole-string pattern match), `C : CExt`
the ones only the compiler makes (`float(n) == n`, `strptime`). -/
namespace StoneVerif.C10
open StoneVerif.Rt StoneVerif.IrCheck

/-- The compile-time types and the runtime validators use the same width limits (over the translator's
output: editing `maximum` of `Int32` in stone/ir/data_types.py, or `default_maximum` in
stone_validators.py, breaks this theorem), so the model's compile-time lookup and the lookup
`validatorOf` makes for the generated validator give the same bounds. -/
theorem default_bounds_agree :
    Tables.irIntBounds = Tables.rtIntBounds ∧ Tables.irFloatBounds = Tables.rtFloatBounds ∧
    (∀ cls, irIntBounds cls = intDefaults cls) ∧ (∀ cls, irFloatBounds cls = floatDefaults cls) :=
  ⟨intBounds_tables, floatBounds_tables, irIntBounds_eq, irFloatBounds_eq⟩

/-! Full statement for defaults (FALSE of the model and of the code, see the two witnesses below):

    theorem default_valid (hd : fieldDefault E C us t lit = .ok d) (hvt : validatorOf t = some vt)
        (hv : pyOfStored us t d = some v) : ∃ v', validate E env vt v = .ok v' ∧ acceptedAs E v v'

It needs the exclusion of Timestamp and Bytes, whose default stays the text of the literal while the
runtime wants a datetime / bytes object. -/

/-- Every default the compiler accepts for a field whose type involves no Timestamp / Bytes is accepted by
the validator the generated class has for the field, and comes back unchanged (a number in a float
position as the float of that number).
`unionsAgree` (checked by the driver on every real environment): the classes of each union chain exist. -/
theorem default_valid_partial (E : Ext) (C : CExt) (us : List CUnion) (env : Env) (hU : unionsAgree us env = true)
    (t : IrTy) (lit d : Lit) (vt : PTy) (v : PyVal)
    (hts : noTextual t = true)
    (hd : fieldDefault E C us t lit = .ok d) (hvt : validatorOf t = some vt) (hv : pyOfStored us t d = some v) :
    ∃ v', validate E env vt v = .ok v' ∧ acceptedAs E v v' :=
  check_valid E C us env hU t d vt v hts (fieldDefault_check hd) hvt hv

/-- The special case of types that carry no pattern: all that held of the code before the repair of `String.check` (D12),
when a pattern was tested as a prefix at compile time and whole at run time. -/
theorem default_valid_nopattern (E : Ext) (C : CExt) (us : List CUnion) (env : Env) (hU : unionsAgree us env = true)
    (t : IrTy) (lit d : Lit) (vt : PTy) (v : PyVal)
    (hts : noTextual t = true) (hnp : patternOf t = none)
    (hd : fieldDefault E C us t lit = .ok d) (hvt : validatorOf t = some vt) (hv : pyOfStored us t d = some v) :
    ∃ v', validate E env vt v = .ok v' ∧ acceptedAs E v v' :=
  default_valid_partial E C us env hU t lit d vt v hts hd hvt hv

/-- The check the compiler runs is the one the property speaks of: `checkDefault` succeeds exactly when
`fieldDefault` stores something. -/
theorem checkDefault_iff (E : Ext) (C : CExt) (us : List CUnion) (t : IrTy) (lit : Lit) :
    checkDefault E C us t lit = .ok () ↔ ∃ d, fieldDefault E C us t lit = .ok d := by
  unfold checkDefault
  cases fieldDefault E C us t lit <;> simp [Except.map]

/-- The float coercion of `_populate_field_defaults`: whatever literal is written for a field that is
literally Float32 / Float64, the stored default is a float (so the generated class holds a float). Only
numbers are coerced: a string, `null` or a tag is refused by `check` (it used to reach `float()`). -/
theorem default_float_coerced (E : Ext) (C : CExt) (us : List CUnion) (cls : String) (mn mx : Option FBits) (lit d : Lit)
    (hd : fieldDefault E C us (.float cls mn mx) lit = .ok d) : ∃ x, d = .flt x := by
  obtain ⟨hco, hck, _⟩ := fieldDefault_ok hd
  obtain ⟨x, _, rfl | ⟨n, rfl, _⟩⟩ := check_float_ok hck
  · exact ⟨x, rfl⟩
  · -- an integer is never what is stored: an integer (or Boolean) literal is stored converted
    cases lit with
    | int m => simp only [coerceDefault] at hco; split at hco <;> cases hco
    | bool b => simp only [coerceDefault] at hco; split at hco <;> cases hco
    | _ => cases hco

/-! The compile-time checks end in acceptance or in a spec error. Before the frontend repairs (notes/c03_fix_notes.md) these were FALSE of the model and of the code (TypeError from
`float(None)` / `float(TagRef)` and from formatting the `max_value` message, OverflowError from `float(10**400)`,
NotImplementedError from `List/Map/Struct.check`, AssertionError from `Union.check`, ValueError from
`Map.check_example`, TypeError from `ex_val.update(None)`). `tyKnown` (evaluated by the driver on every real input: the class names of the
type are in the translator's tables / the API) only excludes names no compiler run produces. -/

/-- `f T = lit` is accepted or is an InvalidSpec, for every known type (`tyKnown`) and every literal. -/
theorem checkDefault_no_crash (E : Ext) (C : CExt) (us : List CUnion) (t : IrTy) (lit : Lit) (hk : tyKnown us t = true) :
    ∀ exc, checkDefault E C us t lit ≠ .error (.crash exc) := by
  intro exc h
  unfold checkDefault at h
  exact noCrash_map _ (fieldDefault_noCrash E C us t lit hk) exc h

/-- A refusal that used to be a crash: a default on a List / Map / struct field (also behind aliases). -/
theorem default_refused_composite (E : Ext) (C : CExt) (us : List CUnion) (t : IrTy) (lit : Lit)
    (h : defaultable (unwrapAll t) = false) : ∃ m, fieldDefault E C us t lit = .error (.invalid m) := by
  -- the third test of `_populate_field_defaults`, if neither of the first two refuses already
  rw [fieldDefault_eq]
  unfold populateDefault
  by_cases h1 : isVoidLit (unwrapAliases t) = true
  · exact ⟨_, if_pos h1⟩
  · by_cases h2 : (unwrapAliases t).isNullableLit = true
    · exact ⟨_, (if_neg h1).trans (if_pos h2)⟩
    · exact ⟨_, (if_neg h1).trans ((if_neg h2).trans (if_pos (by rw [h]; rfl)))⟩

/-- A field that carries a default is neither Void nor nullable, also not through aliases (repairs f0802b6, 981a08f:
`alias V = Void` / `f V = null` and `alias N = Int32?` / `f N = 5` are spec errors), and behind its aliases it is a
primitive or a union. -/
theorem default_type_shape (E : Ext) (C : CExt) (us : List CUnion) (t : IrTy) (lit d : Lit)
    (h : fieldDefault E C us t lit = .ok d) :
    isVoidLit (unwrapAliases t) = false ∧ (unwrapAliases t).isNullableLit = false ∧ defaultable (unwrapAll t) = true := by
  obtain ⟨_, _, _, h1, h2, h3⟩ := fieldDefault_ok h
  exact ⟨h3, h1, h2⟩

/-- Likewise: a literal that is not a tag on a union field. -/
theorem default_union_literal_refused (E : Ext) (C : CExt) (us : List CUnion) (cls : String) (lit : Lit)
    (h : ∀ tag, lit ≠ .tagref tag) : ∃ m, fieldDefault E C us (.union cls) lit = .error (.invalid m) := by
  cases lit with
  | tagref tag => exact absurd rfl (h tag)
  | _ => exact ⟨_, rfl⟩

/-- `check_example` of every member and `_add_example` of a struct / `_add_example` + `_compute_example` of a
union end in acceptance or in a spec error, for every example value (lists, maps, references, literals). -/
theorem example_check_no_crash (E : Ext) (C : CExt) (us : List CUnion) (ex : List (String × ExVal)) :
    (∀ (cs : CStruct), (∀ f ∈ cs.allFields, tyKnown us f.ty = true) →
      ∀ exc, addStructExample E C us cs ex ≠ .error (.crash exc)) ∧
    (∀ (cu : CUnion), (∀ t ∈ cu.allTags, tyKnown us t.ty = true) →
      ∀ exc, unionExample E C us cu ex ≠ .error (.crash exc)) :=
  ⟨fun cs hk => addStructExample_noCrash E C us cs ex hk, fun cu hk => unionExample_noCrash E C us cu ex hk⟩

/-! `patMatch` gives the answers of `re` on the inputs the examples use (`\A(?:a)\Z` does not match "ab"). -/

def exE : Ext where
  fltLt a b := a < b            -- adequate for the non-negative floats of the examples
  fltIsNan _ := false
  fltIsInf _ := false
  fltOfInt n := if n = 1 then some 4607182418800017408 else if n = 0 then some 0 else none   -- the bits of 1.0
  patMatch p s := (p == "a" && s == "a") || (p == "[a-z]{2}" && s == "ab")
  b64enc h := h
  b64dec s := some (some s)
  strftime _ _ := ""
  strptime _ _ := none
  md5 s := s
  reSearch _ _ := none
  strOfInt _ := ""
  strOfFlt _ := ""

def exC : CExt where
  intExact n := n == 0 || n == 1 || n == 7
  strptimeOk f s := f == "%Y" && s == "2020"

def emptyEnv : Env := { structs := [], unions := [] }

/-- Regression for D12: `f String(pattern="a") = "ab"` used to be accepted at compile time (prefix
match) while the generated class refuses the value (whole-string match). Both sides now ask the same question and the
compiler refuses the default. -/
theorem default_pattern_witness :
    fieldDefault exE exC [] (.str none none (some "a")) (.str "ab") = invalid "did not match pattern" ∧
    fieldDefault exE exC [] (.str none none (some "a")) (.str "a") = .ok (.str "a") ∧
    validatorOf (.str none none (some "a")) = some (.str {} none none (some "a")) ∧
    validate exE emptyEnv (.str {} none none (some "a")) (.str "ab") = verr "did not match pattern" ∧
    exE.patMatch "a" "ab" = false := by
  exact ⟨rfl, rfl, rfl, rfl, by decide⟩

/-- A Timestamp default is accepted (the text parses with the format) and stays text; the generated class
wants a datetime and refuses it. -/
theorem default_timestamp_witness :
    fieldDefault exE exC [] (.ts "%Y") (.str "2020") = .ok (.str "2020") ∧
    pyOfStored [] (.ts "%Y") (.str "2020") = some (.str "2020") ∧
    validatorOf (.ts "%Y") = some (.ts {} "%Y") ∧
    validate exE emptyEnv (.ts {} "%Y") (.str "2020") = verr "expected timestamp" := by
  exact ⟨rfl, rfl, rfl, rfl⟩

/-- A Bytes default is accepted (any text) and stays text; the generated class wants bytes and refuses it. -/
theorem default_bytes_witness :
    fieldDefault exE exC [] .bytes (.str "abc") = .ok (.str "abc") ∧
    pyOfStored [] .bytes (.str "abc") = some (.str "abc") ∧
    validatorOf .bytes = some (.bytes {}) ∧
    validate exE emptyEnv (.bytes {}) (.str "abc") = verr "expected bytes" := by
  exact ⟨rfl, rfl, rfl, rfl⟩

example : fieldDefault exE exC [] (.int "Int32" none none) (.int 2147483647) = .ok (.int 2147483647) ∧
    fieldDefault exE exC [] (.int "Int32" none none) (.int 2147483648) = invalid "not within range" ∧
    fieldDefault exE exC [] (.int "Int32" none (some 5)) (.int 6) = invalid "greater than max_value" ∧
    fieldDefault exE exC [] (.int "UInt64" none none) (.bool true) = invalid "boolean is not a valid integer" ∧
    fieldDefault exE exC [] (.float "Float64" none none) (.bool true) = invalid "boolean is not a valid real number" := by
  exact ⟨rfl, rfl, rfl, rfl, rfl⟩

example : fieldDefault exE exC [] (.float "Float64" none none) (.int 1) = .ok (.flt 4607182418800017408) ∧
    fieldDefault exE exC [] (.alias "ns.F" none (.float "Float64" none none)) (.int 1) = .ok (.int 1) ∧
    fieldDefault exE exC [] (.float "Float64" none none) .null = invalid "not a valid real number" ∧
    fieldDefault exE exC [] (.float "Float64" none none) (.str "1.5") = invalid "not a valid real number" ∧
    -- (`exE.fltOfInt` answers for 0 and 1 only: 7 stands for an integer `float()` overflows on, 9 for one
    -- that `float()` rounds: `exC.intExact 9 = false`)
    fieldDefault exE exC [] (.float "Float64" none none) (.int 7) = invalid "too large for float" ∧
    fieldDefault { exE with fltOfInt := fun _ => some 0 } exC [] (.float "Float64" none none) (.int 9) =
      invalid "cannot be represented as a float exactly" ∧
    fieldDefault exE exC [] (.float "Float64" none (some 0)) (.int 1) = invalid "greater than max_value" ∧
    fieldDefault exE exC [] (.nullable (.int "Int32" none none)) (.int 1) =
      invalid "Field cannot be a nullable type and have a default specified" ∧
    fieldDefault exE exC [] (.list .bool none none) .null =
      invalid "Field cannot have a default: only fields of a primitive or union type can" ∧
    fieldDefault exE exC [] (.alias "ns.L" none (.map (.str none none none) .bool)) .null =
      invalid "Field cannot have a default: only fields of a primitive or union type can" ∧
    fieldDefault exE exC [] (.alias "ns.V" none .void) .null = invalid "Struct field cannot have a Void type" := by
  exact ⟨rfl, rfl, rfl, rfl, rfl, rfl, rfl, rfl, rfl, rfl, rfl⟩

example : ∃ v', validate exE emptyEnv (.str {} none none (some "[a-z]{2}")) (.str "ab") = .ok v' ∧ acceptedAs exE (.str "ab") v' :=
  default_valid_partial exE exC [] emptyEnv (by decide) (.str none none (some "[a-z]{2}")) (.str "ab") (.str "ab") _ _
    (by decide) rfl rfl rfl

/-- `Attribute.__get__`: an unset field that is not nullable reads as its default. -/
theorem default_read (env : Env) (cls name : String) (slots : List (String × PyVal)) (f : FieldDef) (d : PyVal)
    (hf : (env.struct? cls).bind (·.field? name) = some f)
    (hd : f.dflt = some d) (hnn : f.attrNullable = false) (hu : lookupSlot f.name slots = none) :
    getField env (.struct cls slots) name = .ok d := by
  simp [getField, hf, attrGet, hu, hnn, hd]

/-- For the attribute python_types generates from a field whose default the compiler accepted: the
attribute is not nullable (a default on a nullable field is refused), its `default` is the declared
default (`_generate_python_value`), and reading the unset field of any instance returns exactly it. -/
theorem default_read_generated (E : Ext) (C : CExt) (us : List CUnion) (cf : CField) (lit d : Lit) (fd : FieldDef)
    (env : Env) (cls : String) (slots : List (String × PyVal))
    (hacc : fieldDefault E C us cf.ty lit = .ok d) (hcf : cf.dflt = some d) (hfd : fieldDefOfC us cf = some fd)
    (hf : (env.struct? cls).bind (·.field? cf.name) = some fd) (hu : lookupSlot cf.name slots = none) :
    ∃ v, pyOfStored us cf.ty d = some v ∧ fd.dflt = some v ∧ fd.attrNullable = false ∧
      getField env (.struct cls slots) cf.name = .ok v := by
  obtain ⟨_, hname, hnull, _, _, hdf⟩ := fieldDefOfC_inv hfd
  simp only [hcf] at hdf
  obtain ⟨v, hp, hdv⟩ := hdf
  have hnn : fd.attrNullable = false := by rw [hnull]; exact fieldDefault_not_nullable hacc
  exact ⟨v, hp, hdv, hnn, default_read env cls cf.name slots fd v hf hdv hnn (by rw [hname]; exact hu)⟩

/-- A tag default the compiler accepts is the ready instance `<Declaring class>('<tag>')` — an instance of
the field's union class or of the ancestor that declares the tag — and the field's validator accepts it
by `validate_type_only` (what assignment runs for a union-typed field) and by `validate`. -/
theorem default_tag_valid (E : Ext) (C : CExt) (us : List CUnion) (env : Env) (hU : unionsAgree us env = true)
    (cls : String) (lit d : Lit) (v : PyVal)
    (hd : fieldDefault E C us (.union cls) lit = .ok d) (hv : pyOfStored us (.union cls) d = some v) :
    (∃ c tag, d = .tagref tag ∧ v = .union c tag .none ∧ unionTypeOk env cls v = true) ∧
    validateTypeOnly env (.union {} cls) v = .ok () ∧ validate E env (.union {} cls) v = .ok v := by
  have hc := fieldDefault_check hd
  obtain ⟨h1, h2⟩ := check_union_valid E C us env hU cls d v hc hv
  exact ⟨check_union_instance E C us env hU cls d v hc hv, h2, h1⟩

/-- `setattr(obj, f, Cls.f.default)` is accepted for the attribute generated from an accepted default
(same two hypotheses as `default_valid_partial`); what is stored is the default (a number in a float
position as the float). -/
theorem default_assign_partial (E : Ext) (C : CExt) (us : List CUnion) (env : Env) (hU : unionsAgree us env = true)
    (cf : CField) (lit d : Lit) (fd : FieldDef) (slots : List (String × PyVal))
    (hts : noTextual cf.ty = true)
    (hacc : fieldDefault E C us cf.ty lit = .ok d) (hcf : cf.dflt = some d) (hfd : fieldDefOfC us cf = some fd) :
    ∃ v v', fd.dflt = some v ∧ attrSet E env fd slots v = .ok (setSlot fd.name v' slots) ∧ acceptedAs E v v' := by
  obtain ⟨hvt, hname, hnull, hud, _, hdf⟩ := fieldDefOfC_inv hfd
  simp only [hcf] at hdf
  obtain ⟨v, hp, hdv⟩ := hdf
  have hnn : fd.attrNullable = false := by rw [hnull]; exact fieldDefault_not_nullable hacc
  have hc := fieldDefault_check hacc
  cases hu : cf.ty.isUserDefinedLit with
  | true =>
    obtain ⟨cls, hcls⟩ := check_userDefined_union hc (fieldDefault_not_nullable hacc) hu
    rw [hcls] at hc hp hvt
    have hty : fd.ty = .union {} cls := (Option.some.inj hvt).symm
    obtain ⟨_, h2⟩ := check_union_valid E C us env hU cls d v hc hp
    refine ⟨v, v, hdv, ?_, Or.inl rfl⟩
    rw [attrSet_eq, hnn, Bool.false_and, if_neg Bool.false_ne_true, hud, hu, if_pos rfl, hty, h2]
    rfl
  | false =>
    obtain ⟨v', h1, h2⟩ := check_valid E C us env hU cf.ty d fd.ty v hts hc hvt hp
    refine ⟨v, v', hdv, ?_, h2⟩
    rw [attrSet_eq, hnn, Bool.false_and, if_neg Bool.false_ne_true, hud, hu, if_neg Bool.false_ne_true, h1]
    rfl

/-! a tag inherited from the parent union, read and assigned through the generated tables -/

def exUnions : List CUnion :=
  [ { cls := "ns.Color", chain := [("ns.Color", [{ name := "red", ty := .void }, { name := "green", ty := .int "Int32" none none }])],
      catchAll := some "other" },
    { cls := "ns.Tint", chain := [("ns.Color", [{ name := "red", ty := .void }, { name := "green", ty := .int "Int32" none none }]),
                                  ("ns.Tint", [{ name := "pale", ty := .void }])], catchAll := some "other" } ]

def exApi : CApi :=
  { structs := [ { cls := "ns.S", chain := [("ns.S", [{ name := "f", ty := .union "ns.Tint", dflt := some (.tagref "red") },
                                                      { name := "n", ty := .float "Float64" none none, dflt := some (.flt 0) }])] } ],
    unions := exUnions }

def exEnv : Env := (envOfC exApi).getD emptyEnv

example : (envOfC exApi).isSome = true ∧ unionsAgree exUnions exEnv = true := by decide +kernel

example : fieldDefault exE exC exUnions (.union "ns.Tint") (.tagref "red") = .ok (.tagref "red") ∧
    fieldDefault exE exC exUnions (.union "ns.Tint") (.tagref "green") = invalid "invalid reference to non-void option" ∧
    fieldDefault exE exC exUnions (.union "ns.Tint") (.tagref "nosuch") = invalid "invalid reference to unknown tag" ∧
    fieldDefault exE exC exUnions (.union "ns.Tint") (.int 1) = invalid "not a valid union tag" ∧
    -- the ready instance belongs to the class that declares the tag (the parent)
    pyOfStored exUnions (.union "ns.Tint") (.tagref "red") = some (.union "ns.Color" "red" .none) ∧
    pyOfStored exUnions (.union "ns.Tint") (.tagref "pale") = some (.union "ns.Tint" "pale" .none) :=
  ⟨rfl, rfl, rfl, rfl, rfl, rfl⟩

example : getField exEnv (.struct "ns.S" []) "f" = .ok (.union "ns.Color" "red" .none) ∧
    getField exEnv (.struct "ns.S" []) "n" = .ok (.flt 0) ∧
    (setField exE exEnv (.struct "ns.S" []) "f" (.union "ns.Color" "red" .none)).bind (getField exEnv · "f")
      = .ok (.union "ns.Color" "red" .none) :=
  ⟨rfl, rfl, rfl⟩

/-! Full statement for examples (FALSE today, witness in corpus/C10 and listed in KNOWN_FINDINGS: non-canonical Timestamp text; its
other witnesses — D12 pattern prefix, D13 Bytes that is not base64, non-canonical Bytes text, `true` for a number, an
integer that is not a float, a struct member of a union reached through an alias — are repaired in /repo and listed
there as fixed; an example that explicitly writes a catch-all tag is, like the implicit example of a catch-all tag,
not judged):

    theorem example_roundtrip (h : compile fs = .ok api) (hex : ex ∈ examplesOf api T) (hx : ¬ ex.isCatchAllImplicit) :
        ∃ v, jsonCompatObjDecode E env [] true (tyOf T) ex.value = .ok v ∧
             jsonCompatObjEncode E env [] false (tyOf T) v = .ok ex.value        -- as JSON documents

Proved: the reference-free ("flat") part over scalar members, and `tag = null` for a nullable struct member of a
union. Not proved (covered by the direct oracle of
harness/suites/defaults_examples.py on every label of every generated spec): references to other examples
(so every struct- or union-typed member), lists and maps, Timestamp / Bytes, aliases as member types, structs
with enumerated subtypes, members omitted for a caller class. -/

/-- The example document the compiler computes for a struct (any inheritance chain) from a reference-free
example over scalar fields — members written in the example, `null` members left out, defaults filled in, in
`all_fields` order — is accepted by `json_compat_obj_decode(strict=True)`, and `json_compat_obj_encode` of the
decoded instance gives back exactly the members of the document (in declaration order: a permutation).
Hypothesis beyond acceptance by the compiler: exact literal kinds `hexact` (`1` written for a Float64 is accepted,
decoded, and re-encoded as `1.0`, a different JSON token). -/
theorem example_roundtrip_partial (E : Ext) (C : CExt) (us : List CUnion) (env : Env) (cs : CStruct) (sd : StructDef)
    (ex : List (String × ExVal))
    (hwf : envWF env = true) (hchain : envWFX env = true) (hsub : cs.subtypes = none)
    (hsd : structDefOfC us cs = some sd) (henv : env.struct? cs.cls = some sd)
    (hscalar : ∀ f ∈ cs.allFields, scalarTy f.ty = true)
    (hpub : ∀ f ∈ cs.allFields, f.omitted = none)
    (hnd : (cs.allFields.map (·.name)).Nodup)
    (hdef : ∀ f ∈ cs.allFields, ∀ d, f.dflt = some d → ∃ lit, fieldDefault E C us f.ty lit = .ok d)
    (hexact : ∀ f ∈ cs.allFields, (∀ l, exLookup f.name ex = some (.lit l) → exactKind f.ty l = true) ∧
      (∀ d, exLookup f.name ex = none → f.dflt = some d → exactKind f.ty d = true))
    (hadd : addStructExample E C us cs ex = .ok ()) :
    ∃ kvs v kvs', structExampleDoc cs ex = some (.obj kvs) ∧
      jsonCompatObjDecode E env [] true (.struct {} cs.cls) (.obj kvs) = .ok v ∧
      jsonCompatObjEncode E env [] false (.struct {} cs.cls) v = .ok (.obj kvs') ∧ kvs'.Perm kvs :=
  have ⟨kvs, _, h1, _, h3, ⟨kvs', h4, h5⟩, h6, h7⟩ :=
    IrCheck.example_roundtrip_partial E C us env cs sd ex hsd henv hscalar hpub hnd hdef hexact hadd
  ⟨kvs, _, kvs', h1, h3, struct_encode E hwf hchain hsub hsd henv h4 h6 h7, h5⟩

/-- The same against the specification-level wire form (json_serializer.rst as a function), with the decoded
instance shown valid and in normal form — no well-formedness assumption on the rest of the environment. -/
theorem example_roundtrip_wire_partial (E : Ext) (C : CExt) (us : List CUnion) (env : Env) (cs : CStruct) (sd : StructDef)
    (ex : List (String × ExVal))
    (hsd : structDefOfC us cs = some sd) (henv : env.struct? cs.cls = some sd)
    (hscalar : ∀ f ∈ cs.allFields, scalarTy f.ty = true)
    (hpub : ∀ f ∈ cs.allFields, f.omitted = none)
    (hnd : (cs.allFields.map (·.name)).Nodup)
    (hdef : ∀ f ∈ cs.allFields, ∀ d, f.dflt = some d → ∃ lit, fieldDefault E C us f.ty lit = .ok d)
    (hexact : ∀ f ∈ cs.allFields, (∀ l, exLookup f.name ex = some (.lit l) → exactKind f.ty l = true) ∧
      (∀ d, exLookup f.name ex = none → f.dflt = some d → exactKind f.ty d = true))
    (hadd : addStructExample E C us cs ex = .ok ()) :
    ∃ kvs slots, structExampleDoc cs ex = some (.obj kvs) ∧
      decode E env [] true (.struct {} cs.cls) (.obj kvs) = .ok (.struct cs.cls slots) ∧
      jsonCompatObjDecode E env [] true (.struct {} cs.cls) (.obj kvs) = .ok (.struct cs.cls slots) ∧
      (∃ kvs', wire E env (.struct {} cs.cls) (.struct cs.cls slots) = .obj kvs' ∧ kvs'.Perm kvs) ∧
      normalB env (.struct {} cs.cls) (.struct cs.cls slots) = true ∧
      (cs.cls ∈ cs.chain.map (·.1) → validB E env (.struct {} cs.cls) (.struct cs.cls slots) = true) :=
  IrCheck.example_roundtrip_partial E C us env cs sd ex hsd henv hscalar hpub hnd hdef hexact hadd

/-- Union examples with exactly one tag whose type is Void or scalar (the tag is not the catch-all): the
computed document `{".tag": t}` / `{".tag": t, t: value}` decodes strictly and encodes back to itself. -/
theorem example_union_roundtrip_partial (E : Ext) (C : CExt) (us : List CUnion) (env : Env) (cu : CUnion) (ud : UnionDef)
    (tag : String) (v : ExVal) (t : CTag)
    (hwf : envWF env = true) (hchain : envWFX env = true)
    (hud : unionDefOfC cu = some ud) (henv : env.union? cu.cls = some ud)
    (hpub : ∀ t ∈ cu.allTags, t.omitted = none) (hnd : (cu.allTags.map (·.name)).Nodup)
    (ht : cu.allTags.find? (·.name == tag) = some t)
    (hty : t.ty = .void ∨ scalarTy t.ty = true)
    (hca : some tag ≠ cu.catchAll) (htne : tag ≠ ".tag")
    (hexact : scalarTy t.ty = true → ∀ l, v = .lit l → exactKind t.ty l = true)
    (hadd : addUnionExample E C us cu [(tag, v)] = .ok ()) :
    ∃ doc u, unionExampleDoc cu [(tag, v)] = some doc ∧
      jsonCompatObjDecode E env [] true (.union {} cu.cls) doc = .ok u ∧
      jsonCompatObjEncode E env [] false (.union {} cu.cls) u = .ok doc :=
  have ⟨_, _, h1, _, h3, h4, h5, h6⟩ :=
    IrCheck.example_union_roundtrip_partial E C us env cu ud tag v t hud henv hpub hnd ht hty hca htne hexact hadd
  ⟨_, _, h1, h3, union_encode E hwf hchain hud henv h4 h5 h6⟩

/-- A union example `tag = null` for a member of nullable struct type (`t S2?`) — a TypeError in
`Union._compute_example` until repair 00ddb10 — is accepted without further hypotheses, its document is the tag
alone, and that document decodes strictly and encodes back to itself. -/
theorem example_union_null_struct_roundtrip (E : Ext) (C : CExt) (us : List CUnion) (env : Env) (cu : CUnion) (ud : UnionDef)
    (tag : String) (t : CTag) (c : String)
    (hwf : envWF env = true) (hchain : envWFX env = true)
    (hud : unionDefOfC cu = some ud) (henv : env.union? cu.cls = some ud)
    (hpub : ∀ t ∈ cu.allTags, t.omitted = none) (hnd : (cu.allTags.map (·.name)).Nodup)
    (ht : cu.allTags.find? (·.name == tag) = some t)
    (hty : t.ty = .nullable (.struct c false))
    (hca : some tag ≠ cu.catchAll) (htne : tag ≠ ".tag") :
    ∃ doc u, unionExample E C us cu [(tag, .lit .null)] = .ok (some doc) ∧ doc = .obj [(".tag", .str tag)] ∧
      jsonCompatObjDecode E env [] true (.union {} cu.cls) doc = .ok u ∧
      jsonCompatObjEncode E env [] false (.union {} cu.cls) u = .ok doc :=
  have ⟨h1, _, h3, h4, h5, h6⟩ :=
    IrCheck.example_union_null_struct_roundtrip E C us env cu ud tag t c hud henv hpub hnd ht hty hca htne
  ⟨_, _, h1, rfl, h3, union_encode E hwf hchain hud henv h4 h5 h6⟩

/-- non-vacuity: `struct Pt { x Int32 }`, `union Shape { dot Pt?; other* }`, example `dot = null`, in the generated tables -/
example : ∃ doc u, unionExample rtE rtC [] rtShape [("dot", .lit .null)] = .ok (some doc) ∧ doc = .obj [(".tag", .str "dot")] ∧
    jsonCompatObjDecode rtE rtNullEnv [] true (.union {} rtShape.cls) doc = .ok u ∧
    jsonCompatObjEncode rtE rtNullEnv [] false (.union {} rtShape.cls) u = .ok doc := by
  obtain ⟨ud, hud, henv⟩ := envOfC_union rtNullEnv_eq (by decide) (cu := rtShape) (by simp [rtNullApi])
  exact example_union_null_struct_roundtrip rtE rtC [] rtNullEnv rtShape ud "dot"
    { name := "dot", ty := .nullable (.struct "ns.Pt" false) } "ns.Pt" rtNullEnv_wf.2.1 rtNullEnv_wf.2.2 hud henv
    (by decide) (by decide) rfl rfl (by decide) (by decide)

/-- The class tables the theorems above speak of are the ones `envOfC` generates for the API. -/
theorem example_env_generated {api : CApi} {env : Env} (h : envOfC api = some env) :
    (∀ cs ∈ api.structs, (api.structs.map (·.cls)).Nodup →
      ∃ sd, structDefOfC api.unions cs = some sd ∧ env.struct? cs.cls = some sd) ∧
    (∀ cu ∈ api.unions, (api.unions.map (·.cls)).Nodup →
      ∃ ud, unionDefOfC cu = some ud ∧ env.union? cu.cls = some ud) :=
  ⟨fun _ hcs hnd => envOfC_struct h hnd hcs, fun _ hcu hnd => envOfC_union h hnd hcu⟩

/-! `rtItem` (Lemmas/IrCheckExampleRoundTrip.lean): `struct Base { id Int64; note String? }`,
`struct Item extends Base { flag Boolean = false; name String(pattern="[a-z]{2}"); score Float64; n UInt32? }`
with the example `name = "ab"; id = 7; score = 1.5; note = null`. -/

example : ∃ kvs v kvs', structExampleDoc rtItem rtEx = some (.obj kvs) ∧
    jsonCompatObjDecode rtE rtApiEnv [] true (.struct {} rtItem.cls) (.obj kvs) = .ok v ∧
    jsonCompatObjEncode rtE rtApiEnv [] false (.struct {} rtItem.cls) v = .ok (.obj kvs') ∧ kvs'.Perm kvs := by
  obtain ⟨sd, hsd, henv, hf, hadd⟩ := rtItem_hyps
  obtain ⟨h1, h2, h3, h4⟩ := fields_of_test hf
  exact example_roundtrip_partial rtE rtC rtApi.unions rtApiEnv rtItem sd rtEx rtApiEnv_wf.2.1 rtApiEnv_wf.2.2 rfl
    hsd henv h1 h2 rtItem_nodup h3 h4 hadd

/-- The document is in `all_fields` order (required `id`, `name`, `score`, then the default of `flag`; no key
for the null `note` and the absent `n`), the encoder answers in declaration order: a genuine permutation. -/
example :
    structExampleDoc rtItem rtEx = some (.obj [("id", .int 7), ("name", .str "ab"), ("score", .flt 4609434218613702656),
      ("flag", .bool false)]) ∧
    wire rtE rtEnv (.struct {} "ns.Item")
        (.struct "ns.Item" [("id", .int 7), ("flag", .bool false), ("name", .str "ab"), ("score", .flt 4609434218613702656)]) =
      .obj [("id", .int 7), ("flag", .bool false), ("name", .str "ab"), ("score", .flt 4609434218613702656)] :=
  ⟨rtItem_doc.1, rtItem_doc.2.2⟩

/-- Regression: `k = true` for `k Int32`, a literal of an inexact kind, used to be accepted by
the compiler; the strict decoder takes the document and the instance encodes as `{"k": 1}` — not the document. Since the
repair of `_BoundedInteger.check` / `_BoundedFloat.check` the compiler refuses the example (no document is computed). -/
theorem example_bool_for_int_witness :
    addStructExample rtE rtC [] rtB [("k", .lit (.bool true))] =
      .error (.invalid "Bad example for field: boolean is not a valid integer") ∧
    decode rtE rtBEnv [] true (.struct {} "ns.B") (.obj [("k", .bool true)]) = .ok (.struct "ns.B" [("k", .bool true)]) ∧
    wire rtE rtBEnv (.struct {} "ns.B") (.struct "ns.B" [("k", .bool true)]) = .obj [("k", .int 1)] :=
  rtB_regression.2.2

end StoneVerif.C10
