import StoneVerif.Lemmas.RtPerms
import StoneVerif.Lemmas.RtModelDecode
/-!
Property theorems for C13: a field or tag omitted for caller class `c` is absent from every encoding
produced for a caller without `c`, cannot be supplied by such a caller in strict mode, and is present
for callers holding `c`; redaction replaces the clear text of every redacted field.
-/
namespace StoneVerif.C13
open StoneVerif.Rt StoneVerif.Rt.PermL

namespace Ex

def E0 : Ext :=
  { fltLt := fun _ _ => false, fltIsNan := fun _ => false, fltIsInf := fun _ => false,
    fltOfInt := fun _ => none, patMatch := fun _ _ => true, b64enc := fun _ => "", b64dec := fun _ => none,
    strftime := fun _ _ => "", strptime := fun _ _ => none, md5 := fun _ => "md5", reSearch := fun _ _ => none,
    strOfInt := fun _ => "", strOfFlt := fun _ => "" }

def fd (n : String) (o : Option String) : FieldDef :=
  { name := n, ty := .str {} none none none, attrNullable := false, attrUserDefined := false,
    dflt := none, omitted := o }

/-- Three-level chain: the grandparent and the child both omit a field for caller class "c", the
middle class omits nothing. -/
def s3 : StructDef :=
  { cls := "ns.C", subtypes := none, catchAll := false,
    levels := [ { cls := "ns.G", fields := [fd "a" none, fd "gs" (some "c")] },
                { cls := "ns.P", fields := [fd "b" none] },
                { cls := "ns.C", fields := [fd "d" none, fd "cs" (some "c")] } ] }

def td (n : String) (o : Option String) : TagDef := { name := n, ty := .void {}, omitted := o }

def u3 : UnionDef :=
  { cls := "ns.UC", catchAll := none,
    levels := [ { cls := "ns.UG", tags := [td "x" none, td "gx" (some "c")] },
                { cls := "ns.UP", tags := [td "y" none] },
                { cls := "ns.UC", tags := [td "z" none, td "cz" (some "c")] } ] }

/-- one plain struct with a public field and a field omitted for "c"; one union with a public tag, a
tag omitted for "c" and a public struct-valued tag -/
def env0 : Env :=
  { structs := [ { cls := "ns.S", subtypes := none, catchAll := false,
                   levels := [ { cls := "ns.S", fields := [fd "a" none, fd "sec" (some "c")] } ] },
                 { cls := "ns.R", subtypes := some [(["s"], "ns.RS", false)], catchAll := false,
                   levels := [ { cls := "ns.R", fields := [fd "r" none] } ] },
                 { cls := "ns.RS", subtypes := none, catchAll := false,
                   levels := [ { cls := "ns.R", fields := [fd "r" none] },
                               { cls := "ns.RS", fields := [fd "q" none, fd "rsec" (some "c")] } ] } ],
    unions := [ { cls := "ns.U", catchAll := none,
                  levels := [ { cls := "ns.U", tags := [td "pub" none, td "hid" (some "c"),
                    { name := "st", ty := .struct {} "ns.S", omitted := none }] } ] } ] }

/-- a struct with a public field and a public field carrying a redactor -/
def envT : Env :=
  { structs := [ { cls := "ns.T", subtypes := none, catchAll := false,
                   levels := [ { cls := "ns.T", fields := [fd "a" none,
                     { name := "pw", ty := .str { redactInner := some (.blot none) } none none none,
                       attrNullable := false, attrUserDefined := false, dflt := none, omitted := none }] } ] } ],
    unions := [] }

def sS : StructDef :=
  { cls := "ns.S", subtypes := none, catchAll := false,
    levels := [ { cls := "ns.S", fields := [fd "a" none, fd "sec" (some "c")] } ] }

def v0 : PyVal := .struct "ns.S" [("a", .str "x"), ("sec", .str "y")]
def vRS : PyVal := .struct "ns.RS" [("r", .str "x"), ("q", .str "y"), ("rsec", .str "z")]

def keysOf : R JVal → Option (List String)
  | .ok (.obj kvs) => some (kvs.map (·.1))
  | _ => none

mutual
/-- every string of a JSON document (keys and string values), in order: a decidable view of it -/
def leaves : JVal → List String
  | .str s => [s]
  | .arr xs => "[" :: leavesL xs
  | .obj kvs => "{" :: leavesK kvs
  | .null => ["null"]
  | _ => ["?"]
def leavesL : List JVal → List String
  | [] => ["]"]
  | x :: xs => leaves x ++ leavesL xs
def leavesK : List (String × JVal) → List String
  | [] => ["}"]
  | (k, x) :: rest => k :: leaves x ++ leavesK rest
end

def leavesR : R JVal → Option (List String)
  | .ok j => some (leaves j)
  | .error _ => none

def isVerrR {α} : R α → Bool
  | .error (.verr _) => true
  | _ => false

end Ex

/-- **Field tables.** For any inheritance chain and any caller, the table `encode_struct` /
`decode_struct` assemble from the generated `_all_fields_` and `_all_<p>_fields_` attributes (with
the assignment and attribute-inheritance semantics of the generated reflection code) has exactly
the members of the specification-level table: the fields declared along the chain that are public or
omitted for a caller class the caller holds; with the caller's permissions listed without repetition the two
tables have the same length, so nothing is listed twice. -/
theorem fieldsFor_perm (s : StructDef) (perms : List String) :
    (∀ f, f ∈ s.fieldsFor perms ↔ f ∈ s.fieldsSpec perms) ∧
    (nodupS perms = true → (s.fieldsFor perms).length = (s.fieldsSpec perms).length) :=
  ⟨mem_fieldsFor s perms, length_fieldsFor s perms⟩

/-- The table in closed form, order included: the public fields root first, then for each permission
of the caller (in the caller's order) the fields omitted for it, root first. -/
theorem fieldsFor_closed_form (s : StructDef) (perms : List String) :
    s.fieldsFor perms = s.allAttrs.filter (·.omitted == none) ++
      perms.flatMap fun p => s.allAttrs.filter (·.omitted == some p) :=
  fieldsFor_eq s perms

/-- Non-vacuity, on the shape of a past defect: grandparent and child omit for "c", the middle level
does not. The caller holding "c" sees both omitted fields, the caller without sees neither. -/
example : (Ex.s3.fieldsFor ["c"]).map (·.name) = ["a", "b", "d", "gs", "cs"] ∧
    (Ex.s3.fieldsSpec ["c"]).map (·.name) = ["a", "gs", "b", "d", "cs"] ∧
    (Ex.s3.fieldsFor []).map (·.name) = ["a", "b", "d"] ∧
    (Ex.s3.fieldsSpec []).map (·.name) = ["a", "b", "d"] ∧ nodupS ["c"] = true := by decide

theorem field_in_table_with_perm (s : StructDef) (perms : List String) (f : FieldDef) (c : String)
    (hf : f ∈ s.allAttrs) (ho : f.omitted = some c) (hc : c ∈ perms) : f ∈ s.fieldsFor perms := by
  rw [mem_fieldsFor, mem_fieldsSpec, ho]
  exact ⟨hf, visible_some.mpr hc⟩

theorem field_not_in_table_without_perm (s : StructDef) (perms : List String) (f : FieldDef) (c : String)
    (hnd : nodupS (s.allAttrs.map (·.name)) = true)
    (hf : f ∈ s.allAttrs) (ho : f.omitted = some c) (hc : ¬ c ∈ perms) :
    ¬ f.name ∈ (s.fieldsFor perms).map (·.name) := by
  intro hm
  obtain ⟨g, hg, hn⟩ := List.mem_map.1 hm
  rw [mem_fieldsFor, mem_fieldsSpec] at hg
  cases key_inj_of_nodup (fun f : FieldDef => f.name) ((nodupS_iff _).mp hnd) g hg.1 f hf hn
  exact hc (visible_some.mp (ho ▸ hg.2))

example : nodupS (Ex.s3.allAttrs.map (·.name)) = true ∧ (Ex.s3.allAttrs.map (·.name)).contains "gs" = true ∧
    ¬ "c" ∈ ([] : List String) := by decide

/-- **Tag tables.** `_is_tag_present(tag, caller_permissions)` answers true exactly when the
specification shows the caller a tag of that name (declared along the chain, public or omitted for a
caller class the caller holds). -/
theorem tagPresent_perm (u : UnionDef) (tag : String) (perms : List String) :
    u.isTagPresent tag perms = true ↔ ∃ t ∈ u.tagsSpec perms, t.name = tag := by
  -- a tag of that name in `_tagmap` or in the map of one of the caller's permissions
  have hL : u.isTagPresent tag perms = true ↔
      ∃ t ∈ (u.levels.reverse.flatMap (·.tags)).filter (·.omitted == none) ++
        perms.flatMap (fun p => (u.levels.reverse.flatMap (·.tags)).filter (·.omitted == some p)), t.name = tag := by
    simp only [UnionDef.isTagPresent, option_bind_findTag_isSome, UnionDef.tagmapAttr, tagmapAttrRev_getD,
      Bool.or_eq_true, List.any_eq_true, findTag_isSome, List.mem_append, List.mem_flatMap (l := perms)]
    constructor
    · rintro (⟨t, ht, hn⟩ | ⟨p, hp, t, ht, hn⟩)
      · exact ⟨t, .inl ht, hn⟩
      · exact ⟨t, .inr ⟨p, hp, ht⟩, hn⟩
    · rintro ⟨t, ht | ⟨p, hp, ht⟩, hn⟩
      · exact .inl ⟨t, ht, hn⟩
      · exact .inr ⟨p, hp, t, ht, hn⟩
  rw [hL]
  refine exists_congr fun t => and_congr_left fun _ => ?_
  rw [mem_tables (fun t : TagDef => t.omitted), mem_tagsSpec]
  simp only [List.mem_flatMap, List.mem_reverse]

example : Ex.u3.isTagPresent "gx" ["c"] = true ∧ Ex.u3.isTagPresent "cz" ["c"] = true ∧
    Ex.u3.isTagPresent "gx" [] = false ∧ Ex.u3.isTagPresent "cz" [] = false ∧
    Ex.u3.isTagPresent "y" [] = true := by decide

theorem tag_not_present_without_perm (u : UnionDef) (perms : List String) (t : TagDef) (c : String)
    (hnd : nodupS ((u.levels.flatMap (·.tags)).map (·.name)) = true)
    (ht : t ∈ u.levels.flatMap (·.tags)) (ho : t.omitted = some c) (hc : ¬ c ∈ perms) :
    u.isTagPresent t.name perms = false := by
  rw [Bool.eq_false_iff]
  intro h
  obtain ⟨g, hg, hn⟩ := (tagPresent_perm u t.name perms).1 h
  rw [mem_tagsSpec] at hg
  cases key_inj_of_nodup (fun t : TagDef => t.name) ((nodupS_iff _).mp hnd) g hg.1 t ht hn
  exact hc (visible_some.mp (ho ▸ hg.2))

theorem tag_present_with_perm (u : UnionDef) (perms : List String) (t : TagDef) (c : String)
    (ht : t ∈ u.levels.flatMap (·.tags)) (ho : t.omitted = some c) (hc : c ∈ perms) :
    u.isTagPresent t.name perms = true := by
  rw [tagPresent_perm]
  exact ⟨t, mem_tagsSpec.mpr ⟨ht, ho ▸ visible_some.mpr hc⟩, rfl⟩

example : nodupS ((Ex.u3.levels.flatMap (·.tags)).map (·.name)) = true := by decide

/-- `Union.__init__` finds a validator for every tag declared along the chain: `_tagmap` together
with the maps named by `_permissioned_tagmaps` cover every caller class that omits a member anywhere
in the chain. -/
theorem ctorValidator_finds_every_tag (u : UnionDef) (t : TagDef) (ht : t ∈ u.levels.flatMap (·.tags)) :
    (u.ctorValidator t.name).isSome = true := by
  simp only [UnionDef.ctorValidator, Option.isSome_map, findTag_isSome, UnionDef.tagmapAttr,
    tagmapAttrRev_getD, UnionDef.permissionedTagmaps]
  have ht' : t ∈ u.levels.reverse.flatMap (·.tags) := by
    simp only [List.mem_flatMap, List.mem_reverse] at ht ⊢
    exact ht
  -- every caller class that omits a tag of the chain is in `_permissioned_tagmaps`
  refine ⟨t, (mem_tables (fun t : TagDef => t.omitted) _ _ t).mpr ⟨ht', ?_⟩, rfl⟩
  cases h : t.omitted with
  | none => exact .inl rfl
  | some p =>
    exact visible_some.mpr (by rw [mem_permissionedTagmapsRev, mem_flatMap_uownCallers]; exact ⟨t, ht', h⟩)

example : (Ex.u3.ctorValidator "gx").isSome = true ∧ (Ex.u3.ctorValidator "cz").isSome = true ∧
    (Ex.u3.ctorValidator "y").isSome = true ∧ (Ex.u3.ctorValidator "nope").isSome = false := by decide

/-! `encode` is one recursive function: every nested struct, list item, map value and union payload is
encoded by a recursive call of `encode` at the member's type, so the statements below, which are
quantified over every type position `t`/value `v`, hold for the object produced at every nesting
depth of an encoding. -/

/-- Every key of the object `encode` produces at a struct type names a field of the caller's table.
The side condition excludes the one way a JSON object can be produced without going through the
field table: the redaction short-cut applied to a Python `dict` that sits where a struct is expected
(an ill-typed value, which redaction does not validate; its keys are copied). -/
theorem struct_keys_in_table (E : Ext) (env : Env) (perms : List String) (redact norm : Bool) (fl : Flags)
    (cls : String) (v : PyVal) (kvs : List (String × JVal)) (s : StructDef)
    (hs : env.struct? cls = some s)
    (hv : redact = false ∨ ∀ d, v ≠ .dict d)
    (h : encode E env perms redact norm (.struct fl cls) v = .ok (.obj kvs)) :
    ∀ k ∈ kvs.map (·.1), k ∈ (s.fieldsFor perms).map (·.name) := by
  obtain ⟨c, slots, s', kvs', -, hs', ha, hj⟩ := encode_struct_ok (encode_obj_bare hv h)
  cases hj
  cases hs.symm.trans hs'
  exact encoded_fields_keys ha

/-- **Omitted fields are absent.** A field declared anywhere along the chain and omitted for a caller
class the caller does not hold is not a key of the object encoded at the struct type (unique field
names are part of `StructDef.wf`). Holds for every flag combination and with or without redaction. -/
theorem omitted_absent (E : Ext) (env : Env) (perms : List String) (redact norm : Bool) (fl : Flags)
    (cls : String) (v : PyVal) (kvs : List (String × JVal)) (s : StructDef) (f : FieldDef) (c : String)
    (hs : env.struct? cls = some s)
    (hnd : nodupS (s.allAttrs.map (·.name)) = true)
    (hf : f ∈ s.allAttrs) (ho : f.omitted = some c) (hc : ¬ c ∈ perms)
    (hv : redact = false ∨ ∀ d, v ≠ .dict d)
    (h : encode E env perms redact norm (.struct fl cls) v = .ok (.obj kvs)) :
    ¬ f.name ∈ kvs.map (·.1) := fun hk =>
  field_not_in_table_without_perm s perms f c hnd hf ho hc
    (struct_keys_in_table E env perms redact norm fl cls v kvs s hs hv h f.name hk)

/-- Non-vacuity: the caller without "c" gets only the public key, the caller with "c" gets both. -/
example : Ex.keysOf (encode Ex.E0 Ex.env0 [] false false (.struct {} "ns.S") Ex.v0) = some ["a"] ∧
    Ex.keysOf (encode Ex.E0 Ex.env0 ["c"] false false (.struct {} "ns.S") Ex.v0) = some ["a", "sec"] := by
  decide +kernel

/-- The excluded corner, shown to be real: with redaction requested and a redactor on the validator,
a `dict` placed where the struct is expected is not validated and its keys are copied (the values are
masked). -/
example : Ex.keysOf (encode Ex.E0 Ex.env0 [] true false (.struct { redactInner := some (.blot none) } "ns.S")
    (.dict [(.str "sec", .str "y")])) = some ["sec"] := by decide +kernel

/-- Enumerated-subtypes root: the object is `.tag` followed by fields of the table of the value's own
class for this caller. -/
theorem tree_keys_in_table (E : Ext) (env : Env) (perms : List String) (redact norm : Bool) (fl : Flags)
    (cls : String) (v : PyVal) (kvs : List (String × JVal))
    (hv : redact = false ∨ ∀ d, v ≠ .dict d)
    (h : encode E env perms redact norm (.tree fl cls) v = .ok (.obj kvs)) :
    ∃ c slots sd, v = .struct c slots ∧ env.struct? c = some sd ∧
      ∀ k ∈ kvs.map (·.1), k = ".tag" ∨ k ∈ (sd.fieldsFor perms).map (·.name) := by
  obtain ⟨c, slots, tag, sd, kvs', hvv, -, hsd, ha, hj⟩ := encode_tree_ok (encode_obj_bare hv h)
  cases hj
  refine ⟨c, slots, sd, hvv, hsd, fun k hk => ?_⟩
  rcases List.mem_cons.1 hk with hk | hk
  · exact Or.inl hk
  · exact Or.inr (encoded_fields_keys ha k hk)

theorem omitted_absent_tree (E : Ext) (env : Env) (perms : List String) (redact norm : Bool) (fl : Flags)
    (cls c' : String) (slots : List (String × PyVal)) (kvs : List (String × JVal)) (sd : StructDef)
    (f : FieldDef) (c : String)
    (hsd : env.struct? c' = some sd)
    (hnd : nodupS (sd.allAttrs.map (·.name)) = true) (hdot : f.name ≠ ".tag")
    (hf : f ∈ sd.allAttrs) (ho : f.omitted = some c) (hc : ¬ c ∈ perms)
    (h : encode E env perms redact norm (.tree fl cls) (.struct c' slots) = .ok (.obj kvs)) :
    ¬ f.name ∈ kvs.map (·.1) := by
  intro hk
  obtain ⟨c2, slots2, sd2, hvv, hsd2, hkeys⟩ :=
    tree_keys_in_table E env perms redact norm fl cls _ kvs (Or.inr (fun d hd => by cases hd)) h
  cases hvv
  rw [hsd] at hsd2
  cases hsd2
  rcases hkeys f.name hk with h1 | h1
  · exact hdot h1
  · exact field_not_in_table_without_perm sd perms f c hnd hf ho hc h1

example : Ex.keysOf (encode Ex.E0 Ex.env0 [] false false (.tree {} "ns.R") Ex.vRS) = some [".tag", "r", "q"] ∧
    Ex.keysOf (encode Ex.E0 Ex.env0 ["c"] false false (.tree {} "ns.R") Ex.vRS) = some [".tag", "r", "q", "rsec"] := by
  decide +kernel

/-- Union values: the tag written under `.tag` is present for the caller, the member's type is that
of a tag the specification shows the caller, and every key is `.tag`, the tag itself, or (struct-valued
member, flattened) a field of the member struct's table for this caller. -/
theorem union_keys_in_table (E : Ext) (env : Env) (perms : List String) (redact norm : Bool) (fl : Flags)
    (cls c tag : String) (payload : PyVal) (kvs : List (String × JVal)) (u : UnionDef)
    (hu : env.union? cls = some u)
    (hv : redact = false ∨ ∀ d, payload ≠ .dict d)
    (h : encode E env perms redact norm (.union fl cls) (.union c tag payload) = .ok (.obj kvs)) :
    u.isTagPresent tag perms = true ∧
    (∃ t ∈ u.tagsSpec perms, t.name = tag ∧ u.valDataType tag perms = some t.ty) ∧
    ∀ k ∈ kvs.map (·.1), k = ".tag" ∨ k = tag ∨
      ∃ fl' sc sd, u.valDataType tag perms = some (.struct fl' sc) ∧ env.struct? sc = some sd ∧
        k ∈ (sd.fieldsFor perms).map (·.name) := by
  have h := encode_obj_bare (.inr fun d hd => by cases hd) h
  rw [withFlags_union, encode_union_bare E env perms redact norm cls c tag payload hu] at h
  -- only a value of the right class with a tag present for the caller is encoded at all
  have hsub : env.unionSubclass cls c = true :=
    Decidable.byContradiction fun hs => by rw [if_neg hs] at h; cases h
  rw [if_pos hsub] at h
  have hpres : u.isTagPresent tag perms = true :=
    Decidable.byContradiction fun hp => by rw [if_neg hp] at h; cases h
  rw [if_pos hpres] at h
  refine ⟨hpres, ?_⟩
  cases hft : u.valDataType tag perms with
  | none => rw [hft] at h; cases h
  | some ft =>
    obtain ⟨t, ht, hn, hty⟩ := valDataType_spec u tag perms ft hft
    refine ⟨⟨t, ht, hn, by rw [hty]⟩, fun k hk => ?_⟩
    simp only [hft] at h
    by_cases hbare : (isVoidT ft || (ft.flags.nullable && isNoneV payload)) = true
    · rw [if_pos hbare] at h
      cases h
      exact .inl (by simpa using hk)
    · rw [if_neg hbare] at h
      cases hj' : encode E env perms redact false ft payload with
      | error e => rw [hj'] at h; cases h
      | ok j' =>
        rw [hj', R_bind_ok] at h
        by_cases hps : isPlainStruct ft = true
        · -- a struct member, flattened: its keys are those of the struct's object
          rw [if_pos hps] at h
          obtain ⟨fl', sc, rfl⟩ := isPlainStruct_iff.mp hps
          cases j' <;> cases h
          obtain ⟨c3, slots, s', kvs3, -, hs', ha, hj3⟩ := encode_struct_ok (encode_obj_bare hv hj')
          cases hj3
          rcases List.mem_cons.1 hk with hk | hk
          · exact .inl hk
          · exact .inr (.inr ⟨fl', sc, s', rfl, hs', encoded_fields_keys ha k hk⟩)
        · rw [if_neg hps] at h
          cases h
          simp only [List.map_cons, List.map_nil, List.mem_cons, List.not_mem_nil, or_false] at hk
          exact hk.imp_right .inl

example : Ex.keysOf (encode Ex.E0 Ex.env0 [] false false (.union {} "ns.U") (.union "ns.U" "st" Ex.v0))
      = some [".tag", "a"] ∧
    Ex.keysOf (encode Ex.E0 Ex.env0 ["c"] false false (.union {} "ns.U") (.union "ns.U" "st" Ex.v0))
      = some [".tag", "a", "sec"] := by decide +kernel

/-- **Omitted tags are refused.** Encoding a union value whose tag is not present for the caller is a
validation error, whatever the payload, unless redaction replaces the whole value (then the output is
the mask or hash and the tag does not appear either, see `redacted_outer`). -/
theorem omitted_tag_refused (E : Ext) (env : Env) (perms : List String) (redact norm : Bool) (fl : Flags)
    (cls c tag : String) (payload : PyVal) (u : UnionDef)
    (hu : env.union? cls = some u) (hp : u.isTagPresent tag perms = false)
    (hnr : redact = false ∨ (fl.redactInner = none ∧ (fl.nullable = true → fl.redactOuter = none))) :
    ∃ hint, encode E env perms redact norm (.union fl cls) (.union c tag payload) = .error (.verr hint) := by
  have hbare : ∃ hint, encode E env perms redact norm (.union {} cls) (.union c tag payload) = .error (.verr hint) := by
    rw [encode_union_bare E env perms redact norm cls c tag payload hu, hp]
    split <;> exact ⟨_, rfl⟩
  have hno : redact = false ∨ (PTy.union fl cls).topRedactor = none := by
    refine hnr.imp_right fun ⟨hi, ho⟩ => ?_
    cases hn : fl.nullable
    · simp only [PTy.topRedactor, PTy.outerRedactor, flags_union, hn, hi, Bool.false_eq_true, if_false]
    · simp only [PTy.topRedactor, PTy.outerRedactor, flags_union, hn, ho hn, hi, if_true]
  rw [encode_unredacted E env perms norm _ hno]
  simp only [flags_union, isNone_union, Bool.and_false, Bool.false_eq_true, if_false, validate_union, isNoneV]
  cases fl.nullable <;> cases unionTypeOk env cls (.union c tag payload) <;>
    first | exact hbare | exact ⟨_, rfl⟩

theorem omitted_tag_refused_of_omitted (E : Ext) (env : Env) (perms : List String) (redact norm : Bool)
    (fl : Flags) (cls c : String) (payload : PyVal) (u : UnionDef) (t : TagDef) (p : String)
    (hu : env.union? cls = some u)
    (hnd : nodupS ((u.levels.flatMap (·.tags)).map (·.name)) = true)
    (ht : t ∈ u.levels.flatMap (·.tags)) (ho : t.omitted = some p) (hc : ¬ p ∈ perms)
    (hnr : redact = false ∨ (fl.redactInner = none ∧ (fl.nullable = true → fl.redactOuter = none))) :
    ∃ hint, encode E env perms redact norm (.union fl cls) (.union c t.name payload) = .error (.verr hint) :=
  omitted_tag_refused E env perms redact norm fl cls c t.name payload u hu
    (tag_not_present_without_perm u perms t p hnd ht ho hc) hnr

example : Ex.isVerrR (encode Ex.E0 Ex.env0 [] false false (.union {} "ns.U") (.union "ns.U" "hid" .none)) = true ∧
    Ex.keysOf (encode Ex.E0 Ex.env0 ["c"] false false (.union {} "ns.U") (.union "ns.U" "hid" .none))
      = some [".tag"] := by decide +kernel

/-- Strict `decode_struct`: an object member whose key is not a field of the caller's table (and does
not start with ".tag") is a validation error. -/
theorem unknown_rejected_strict (E : Ext) (env : Env) (perms : List String) (cls : String) (s : StructDef)
    (kvs : List (String × JVal)) (children : List (String × R PyVal)) (hs : env.struct? cls = some s)
    (k : String) (x : JVal) (hk : (k, x) ∈ kvs)
    (hnot : ¬ k ∈ (s.fieldsFor perms).map (·.name)) (htag : k.startsWith ".tag" = false) :
    finishStruct E env perms true cls kvs children = .error (.verr "unknown field") := by
  rw [finishStruct_eq E env perms true hs, Bool.true_and]
  have hany : (kvs.any fun (k, _) => !((s.fieldsFor perms).map (·.name)).contains k && !k.startsWith ".tag") = true := by
    rw [List.any_eq_true]
    refine ⟨(k, x), hk, ?_⟩
    simp only [Bool.and_eq_true, Bool.not_eq_true', htag, and_true]
    simpa using hnot
  rw [if_pos hany]
  rfl

/-- **Omitted fields cannot be supplied in strict mode.** Decoding, at a struct type, an object that
has a member named like a field omitted for a caller class the caller does not hold is a validation
error. (`StructDef.wf` gives unique names and names that do not start with "."; `fl` arbitrary.) -/
theorem omitted_rejected_strict (E : Ext) (env : Env) (perms : List String) (fl : Flags) (cls : String)
    (s : StructDef) (kvs : List (String × JVal)) (f : FieldDef) (c : String) (x : JVal)
    (hs : env.struct? cls = some s)
    (hnd : nodupS (s.allAttrs.map (·.name)) = true) (hdot : f.name.startsWith "." = false)
    (hf : f ∈ s.allAttrs) (ho : f.omitted = some c) (hc : ¬ c ∈ perms)
    (hk : (f.name, x) ∈ kvs) :
    decode E env perms true (.struct fl cls) (.obj kvs) = .error (.verr "unknown field") := by
  rw [decode_struct_obj]
  exact unknown_rejected_strict E env perms cls s kvs _ hs f.name x hk
    (field_not_in_table_without_perm s perms f c hnd hf ho hc) (not_startsWith_tag_of_not_dot _ hdot)

theorem omitted_rejected_strict_wf (E : Ext) (env : Env) (perms : List String) (fl : Flags) (cls : String)
    (s : StructDef) (kvs : List (String × JVal)) (f : FieldDef) (c : String) (x : JVal)
    (hs : env.struct? cls = some s) (hwf : s.wf env = true)
    (hf : f ∈ s.allAttrs) (ho : f.omitted = some c) (hc : ¬ c ∈ perms)
    (hk : (f.name, x) ∈ kvs) :
    decode E env perms true (.struct fl cls) (.obj kvs) = .error (.verr "unknown field") := by
  exact omitted_rejected_strict E env perms fl cls s kvs f c x hs (StructDef.wf_nodupS hwf)
    (StructDef.wf_fields hwf hf).1 hf ho hc hk

example : Ex.isVerrR (decode Ex.E0 Ex.env0 [] true (.struct {} "ns.S")
      (.obj [("a", .str "x"), ("sec", .str "y")])) = true ∧
    Ex.isVerrR (decode Ex.E0 Ex.env0 ["c"] true (.struct {} "ns.S")
      (.obj [("a", .str "x"), ("sec", .str "y")])) = false ∧
    Ex.isVerrR (decode Ex.E0 Ex.env0 [] true (.struct {} "ns.S") (.obj [("a", .str "x")])) = false := by
  decide +kernel

example : Ex.sS.wf Ex.env0 = true ∧ Ex.env0.struct? "ns.S" = some Ex.sS := by
  constructor
  · decide +kernel
  · rfl

/-- **Omitted tags cannot be supplied in strict mode.** Decoding, at a union type, the short form
`"tag"` or the object form `{".tag": "tag", ...}` of a tag that is not present for the caller is a
validation error. -/
theorem omitted_tag_rejected_strict (E : Ext) (env : Env) (perms : List String) (fl : Flags) (cls tag : String)
    (u : UnionDef) (hu : env.union? cls = some u) (hp : u.isTagPresent tag perms = false) :
    decode E env perms true (.union fl cls) (.str tag) = .error (.verr "unknown tag") ∧
    ∀ kvs, jsonLookup ".tag" kvs = some (.str tag) →
      decode E env perms true (.union fl cls) (.obj kvs) = .error (.verr "unknown tag") :=
  ⟨decode_union_absent E env perms true fl cls hu (.inl rfl) hp,
   fun kvs ht => decode_union_absent E env perms true fl cls hu (.inr ⟨kvs, rfl, ht⟩) hp⟩

theorem omitted_tag_rejected_strict_of_omitted (E : Ext) (env : Env) (perms : List String) (fl : Flags)
    (cls : String) (u : UnionDef) (t : TagDef) (p : String) (hu : env.union? cls = some u)
    (hnd : nodupS ((u.levels.flatMap (·.tags)).map (·.name)) = true)
    (ht : t ∈ u.levels.flatMap (·.tags)) (ho : t.omitted = some p) (hc : ¬ p ∈ perms) :
    decode E env perms true (.union fl cls) (.str t.name) = .error (.verr "unknown tag") :=
  (omitted_tag_rejected_strict E env perms fl cls t.name u hu
    (tag_not_present_without_perm u perms t p hnd ht ho hc)).1

example : Ex.isVerrR (decode Ex.E0 Ex.env0 [] true (.union {} "ns.U") (.str "hid")) = true ∧
    Ex.isVerrR (decode Ex.E0 Ex.env0 [] true (.union {} "ns.U") (.obj [(".tag", .str "hid")])) = true ∧
    Ex.isVerrR (decode Ex.E0 Ex.env0 ["c"] true (.union {} "ns.U") (.str "hid")) = false ∧
    Ex.isVerrR (decode Ex.E0 Ex.env0 [] true (.union {} "ns.U") (.str "pub")) = false := by decide +kernel

/-- **Present with the permission.** If the caller holds `c`, a field omitted for `c` whose slot is
set to a value other than None is a key of the object encoded at the struct type. -/
theorem present_with_perm (E : Ext) (env : Env) (perms : List String) (redact norm : Bool) (fl : Flags)
    (cls c' : String) (slots : List (String × PyVal)) (kvs : List (String × JVal)) (s : StructDef)
    (f : FieldDef) (c : String) (x : PyVal)
    (hs : env.struct? cls = some s)
    (hf : f ∈ s.allAttrs) (ho : f.omitted = some c) (hc : c ∈ perms)
    (hx : lookupSlot f.name slots = some x) (hnn : isNone x = false)
    (h : encode E env perms redact norm (.struct fl cls) (.struct c' slots) = .ok (.obj kvs)) :
    f.name ∈ kvs.map (·.1) := by
  obtain ⟨_, _, s', _, hvv, hs', ha, hj⟩ := encode_struct_ok (encode_obj_bare (.inr fun d hd => by cases hd) h)
  cases hvv
  cases hj
  cases hs.symm.trans hs'
  exact encoded_fields_has ha (field_in_table_with_perm s perms f c hf ho hc)
    (firstSet_isSome_of_lookupSlot hx ((isNone_eq_isNoneV x).symm.trans hnn))

theorem present_with_perm_tree (E : Ext) (env : Env) (perms : List String) (redact norm : Bool) (fl : Flags)
    (cls c' : String) (slots : List (String × PyVal)) (kvs : List (String × JVal)) (sd : StructDef)
    (f : FieldDef) (c : String) (x : PyVal)
    (hsd : env.struct? c' = some sd)
    (hf : f ∈ sd.allAttrs) (ho : f.omitted = some c) (hc : c ∈ perms)
    (hx : lookupSlot f.name slots = some x) (hnn : isNone x = false)
    (h : encode E env perms redact norm (.tree fl cls) (.struct c' slots) = .ok (.obj kvs)) :
    f.name ∈ kvs.map (·.1) := by
  obtain ⟨_, _, tag, sd', _, hvv, -, hsd', ha, hj⟩ :=
    encode_tree_ok (encode_obj_bare (.inr fun d hd => by cases hd) h)
  cases hvv
  cases hj
  cases hsd.symm.trans hsd'
  exact List.mem_cons_of_mem _ (encoded_fields_has ha (field_in_table_with_perm sd perms f c hf ho hc)
    (firstSet_isSome_of_lookupSlot hx ((isNone_eq_isNoneV x).symm.trans hnn)))

/-- Non-vacuity is the second halves of the examples above ("sec" / "rsec" are keys for the caller holding "c"); the
hypotheses on the slot: -/
example : lookupSlot "sec" [("a", PyVal.str "x"), ("sec", .str "y")] = some (.str "y") ∧
    isNone (.str "y") = false := ⟨by simp [lookupSlot], rfl⟩

/-! Redaction. Fields, list items and map values are all encoded by recursive calls of `encode` at the member's
validator, and a redactor (given directly or through an alias) sits in the flags of that validator,
so the statements below, quantified over every type `t` and value `v`, apply to every position of an
encoding at any nesting depth. -/

/-- **Redaction on the outermost validator object.** With redaction requested, when the outermost
validator object carries a redactor (the `Nullable` wrapper when there is one, else the object
itself) the result of `encode` *is* the redaction of the value: nothing is validated and no
clear-text branch is taken. -/
theorem redacted_outer (E : Ext) (env : Env) (perms : List String) (norm : Bool) (t : PTy) (v : PyVal)
    (r : Redactor)
    (hr : (t.flags.nullable = true ∧ t.flags.redactOuter = some r) ∨
          (t.flags.nullable = false ∧ t.flags.redactInner = some r)) :
    encode E env perms true norm t v = redactValue E r v := by
  apply encode_redact_outer
  rcases hr with ⟨hn, h⟩ | ⟨hn, h⟩ <;> simp [PTy.outerRedactor, hn, h]

/-- **Redactor on the object wrapped by a Nullable.** A value other than None that passes the
Nullable validation is replaced by its redaction. -/
theorem redacted_inner (E : Ext) (env : Env) (perms : List String) (norm : Bool) (t : PTy) (v w : PyVal)
    (r : Redactor) (hn : t.flags.nullable = true) (ho : t.flags.redactOuter = none)
    (hi : t.flags.redactInner = some r) (hv : isNone v = false) (hval : validate E env t v = .ok w) :
    encode E env perms true norm t v = redactValue E r v := by
  rw [encode_redact_inner E env perms norm v hn ho hi, hv, hval]
  rfl

/-- **No clear-text path.** Whatever the value, at a type carrying a redactor (on the wrapper or on the
wrapped object) `encode` with redaction requested yields the redaction of the value, `null` for None,
or the validation error of the Nullable wrapper: the clear-text branches are unreachable. -/
theorem redacted_never_clear (E : Ext) (env : Env) (perms : List String) (norm : Bool) (t : PTy) (v : PyVal)
    (r : Redactor) (hr : t.topRedactor = some r) :
    encode E env perms true norm t v = redactValue E r v ∨
    (isNone v = true ∧ encode E env perms true norm t v = .ok .null) ∨
    ∃ e, validate E env t v = .error e ∧ encode E env perms true norm t v = .error e :=
  encode_redact_top E env perms norm t v r hr

/-- the clear text "hunter2" is replaced: mask for blot, `E.md5` of it for hash (here the constant "md5") -/
example :
    Ex.leavesR (encode Ex.E0 Ex.env0 [] true false (.str { redactInner := some (.blot none) } none none none)
      (.str "hunter2")) = some ["********"] ∧
    Ex.leavesR (encode Ex.E0 Ex.env0 [] true false
      (.str { nullable := true, redactOuter := some (.hash none) } none none none) (.str "hunter2")) = some ["md5"] ∧
    Ex.leavesR (encode Ex.E0 Ex.env0 [] true false
      (.str { nullable := true, redactInner := some (.blot none) } none none none) (.str "hunter2"))
      = some ["********"] ∧
    Ex.leavesR (encode Ex.E0 Ex.env0 [] false false (.str { redactInner := some (.blot none) } none none none)
      (.str "hunter2")) = some ["hunter2"] := by decide +kernel

/-- **Redacted struct fields.** In the object encoded for a struct value with redaction requested, the
JSON stored under the name of a field whose validator carries a redactor is the redaction of the
value of that slot. -/
theorem redacted_field (E : Ext) (env : Env) (perms : List String) (norm : Bool) (fl : Flags)
    (cls c' : String) (slots : List (String × PyVal)) (kvs : List (String × JVal)) (s : StructDef)
    (hs : env.struct? cls = some s)
    (h : encode E env perms true norm (.struct fl cls) (.struct c' slots) = .ok (.obj kvs))
    (k : String) (j : JVal) (hkj : (k, j) ∈ kvs) (r : Redactor)
    (hr : ∀ g ∈ s.fieldsFor perms, g.name = k → g.ty.topRedactor = some r) :
    ∃ x, (k, x) ∈ slots ∧ redactValue E r x = .ok j := by
  obtain ⟨_, _, s', _, hvv, hs', ha, hj⟩ := encode_struct_ok (encode_obj_bare (.inr fun d hd => by cases hd) h)
  cases hvv
  cases hj
  cases hs.symm.trans hs'
  obtain ⟨x, hx, hj⟩ := redacted_field_entry E env perms _ _ _ ha k j hkj r hr
  exact ⟨x, (firstSet_some hx).1, hj⟩

/-- **Redacted list items.** When the item validator carries a redactor on its outermost object, the
encoded items are the redactions of the items, one for one. -/
theorem redacted_list_items (E : Ext) (env : Env) (perms : List String) (item : PTy) (r : Redactor)
    (hr : item.outerRedactor = some r) (xs : List PyVal) :
    encodeList E env perms true item xs = xs.mapM (redactValue E r) := by
  induction xs with
  | nil => simp [encodeList, pure, Except.pure]
  | cons x xs ih =>
    unfold encodeList
    rw [List.mapM_cons, encode_redact_outer E env perms true item x r hr, ih]

/-- **Redacted map values.** When the value validator carries a redactor on its outermost object,
every value of the encoded map is the redaction of a value of the dictionary. -/
theorem redacted_map_values (E : Ext) (env : Env) (perms : List String) (kt vt : PTy) (r : Redactor)
    (hr : vt.outerRedactor = some r) (kvs : List (PyVal × PyVal)) (out : List (String × JVal))
    (h : encodeDict E env perms true kt vt kvs = .ok out) :
    out.length = kvs.length ∧ ∀ kj ∈ out, ∃ kx ∈ kvs, redactValue E r kx.2 = .ok kj.2 := by
  induction kvs generalizing out with
  | nil => simp [encodeDict] at h; subst h; simp
  | cons kv rest ih =>
    obtain ⟨k, x⟩ := kv
    unfold encodeDict at h
    rw [encode_redact_outer E env perms true vt x r hr] at h
    cases hk : encode E env perms true true kt k with
    | error e => simp [hk, bind, Except.bind] at h
    | ok kj =>
      cases hx : redactValue E r x with
      | error e => simp [hk, hx, bind, Except.bind] at h
      | ok xj =>
        cases hrest : encodeDict E env perms true kt vt rest with
        | error e => simp [hk, hx, hrest, bind, Except.bind] at h
        | ok out' =>
          simp only [hk, hx, hrest, bind, Except.bind] at h
          obtain ⟨hl, hv⟩ := ih out' hrest
          cases kj with
          | str ks =>
            simp only [pure, Except.pure, Except.ok.injEq] at h
            subst h
            refine ⟨by simp [hl], ?_⟩
            intro p hp
            rcases List.mem_cons.1 hp with rfl | hp
            · exact ⟨(k, x), List.mem_cons_self, hx⟩
            · obtain ⟨kx, hkx, he⟩ := hv p hp
              exact ⟨kx, List.mem_cons_of_mem _ hkx, he⟩
          | _ => simp [crash] at h

/-- a list of lists of redacted strings, and a map with redacted values, inside out -/
example :
    Ex.leavesR (encode Ex.E0 Ex.env0 [] true false
      (.list {} (.list {} (.str { redactInner := some (.blot none) } none none none) none none) none none)
      (.list [.list [.str "s1", .str "s2"], .list []]))
      = some ["[", "[", "********", "********", "]", "[", "]", "]"] ∧
    Ex.leavesR (encode Ex.E0 Ex.env0 [] true false
      (.map {} (.str {} none none none) (.str { redactInner := some (.hash none) } none none none))
      (.dict [(.str "k", .str "s1")]))
      = some ["{", "k", "md5", "}"] := by decide +kernel

/-- a struct with a redacted field: the field's value is masked, its neighbour is not -/
example :
    Ex.leavesR (encode Ex.E0 Ex.envT [] true false (.struct {} "ns.T")
      (.struct "ns.T" [("a", .str "x"), ("pw", .str "hunter2")]))
      = some ["{", "a", "x", "pw", "********", "}"] := by decide +kernel

/-- **What the redaction is, `BlotRedactor` without a regex**: the mask, whatever the value; a list
becomes a list of masks of the same length, a string-keyed dict keeps its keys and masks every
value. -/
theorem redactValue_blot_noregex (E : Ext) (v : PyVal) :
    (∀ xs, v = .list xs → redactValue E (.blot none) v = .ok (.arr (List.replicate xs.length blotMask))) ∧
    (∀ kvs out, v = .dict kvs → redactValue E (.blot none) v = .ok out →
        ∃ o, out = .obj o ∧ o.length = kvs.length ∧ ∀ kj ∈ o, kj.2 = blotMask ∧ ∃ x, (PyVal.str kj.1, x) ∈ kvs) ∧
    ((∀ xs, v ≠ .list xs) → (∀ kvs, v ≠ .dict kvs) → redactValue E (.blot none) v = .ok blotMask) := by
  refine ⟨?_, ?_, ?_⟩
  · rintro xs rfl
    rw [redactValue, List.map_congr_left fun x _ => redactApply_blot_none E x, List.map_const']
  · rintro kvs out rfl h
    simp only [redactValue] at h
    cases hd : redactDict E (.blot none) kvs with
    | error e => simp [hd, Except.map] at h
    | ok o =>
      simp only [hd, Except.map, Except.ok.injEq] at h
      obtain ⟨hl, hv⟩ := redactDict_values E _ kvs o hd
      refine ⟨o, h.symm, hl, ?_⟩
      intro kj hkj
      obtain ⟨x, hx, he⟩ := hv kj hkj
      exact ⟨by rw [he, redactApply_blot_none], x, hx⟩
  · intro hl hd
    unfold redactValue
    split
    · exact absurd rfl (hl _)
    · exact absurd rfl (hd _)
    · rw [redactApply_blot_none]

example : blotMask = .str "********" := rfl

/-- `BlotRedactor` with a regex on a string: the groups `re.search` returns joined by "***" when the
regex is non-empty and matches, the mask otherwise. The clear text enters only through `E.reSearch`. -/
theorem redactApply_blot_regex (E : Ext) (re s : String) :
    redactApply E (.blot (some re)) (.str s) =
      if re = "" then blotMask else
      match E.reSearch re s with
      | some gs => .str (joinStars gs)
      | none => blotMask := by
  by_cases h : re = ""
  · simp [redactApply, redactMatches, h, blotMask]
  · simp only [redactApply, redactMatches, h, if_false, beq_iff_eq]
    cases E.reSearch re s <;> rfl

theorem redactApply_blot_nonstring (E : Ext) (re : Option String) (v : PyVal) (hv : ∀ s, v ≠ .str s) :
    redactApply E (.blot re) v = blotMask := by
  cases re with
  | none => exact redactApply_blot_none E v
  | some re =>
    cases v <;> first | exact absurd rfl (hv _) | rfl

/-- **`HashRedactor` without a regex** on a string is the hash of it: the clear text enters only
through `E.md5`. -/
theorem redactApply_hash_noregex (E : Ext) (s : String) :
    redactApply E (.hash none) (.str s) = .str (E.md5 s) := by
  simp [redactApply, redactMatches]

/-- On any value: numbers and booleans are hashed through their `str()`, anything but these and a string becomes null. -/
theorem redactApply_hash_noregex_other (E : Ext) (v : PyVal) :
    redactApply E (.hash none) v = (match v with
      | .str s => .str (E.md5 s)
      | .int n => .str (E.md5 (E.strOfInt n))
      | .bool b => .str (E.md5 (if b then "True" else "False"))
      | .flt x => .str (E.md5 (E.strOfFlt x))
      | _ => .null) := by
  cases v <;> simp [redactApply, redactMatches]

/-- `HashRedactor` with a regex on a string: the hash, followed by the matched groups in parentheses
when the regex is non-empty and matches. -/
theorem redactApply_hash_regex (E : Ext) (re s : String) :
    redactApply E (.hash (some re)) (.str s) =
      if re = "" then .str (E.md5 s) else
      match E.reSearch re s with
      | some gs => .str (E.md5 s ++ " (" ++ joinStars gs ++ ")")
      | none => .str (E.md5 s) := by
  by_cases h : re = ""
  · simp [redactApply, redactMatches, h]
  · simp only [redactApply, redactMatches, h, if_false, beq_iff_eq, Option.map_some]
    cases E.reSearch re s <;> rfl

/-- a matching regex keeps the groups only -/
example : Ex.leaves (redactApply { Ex.E0 with reSearch := fun _ _ => some ["ab", "yz"] }
    (.blot (some "(..).*(..)")) (.str "abcdxyz")) = ["ab***yz"] := by decide +kernel

/-- On values whose dictionaries are string-keyed (all that the model covers) the redaction of a value
is a JSON value, never an escaping exception. -/
theorem redaction_no_crash (E : Ext) (r : Redactor) (v : PyVal) (h : stringKeyed v = true) :
    ∃ j, redactValue E r v = .ok j := by
  unfold redactValue
  split
  · exact ⟨_, rfl⟩
  · rename_i kvs
    obtain ⟨out, hout⟩ := redactDict_ok_of_stringKeyed E r kvs h
    exact ⟨.obj out, by simp [hout, Except.map]⟩
  · exact ⟨_, rfl⟩

theorem redacted_outer_ok (E : Ext) (env : Env) (perms : List String) (norm : Bool) (t : PTy) (v : PyVal)
    (r : Redactor) (hr : t.outerRedactor = some r) (h : stringKeyed v = true) :
    ∃ j, encode E env perms true norm t v = .ok j := by
  rw [encode_redact_outer E env perms norm t v r hr]
  exact redaction_no_crash E r v h

example : stringKeyed (.dict [(.str "k", .int 1)]) = true ∧ stringKeyed (.dict [(.int 1, .int 1)]) = false ∧
    stringKeyed (.list [.dict [(.int 1, .int 1)]]) = true := by decide

/-! `validatorOf` models `generate_validator_constructor`: the validator object built for a declared type.
An alias annotated with a redactor puts it on the outermost object of the alias's validator, so the
redaction theorems above apply to every position whose declared type is (a list of / a map to / a
Nullable of) such an alias. -/

theorem alias_redacted (E : Ext) (env : Env) (perms : List String) (norm : Bool) (n : String) (r : Redactor)
    (t : IrTy) (T : PTy) (v : PyVal) (h : validatorOf (.alias n (some r) t) = some T) :
    encode E env perms true norm T v = redactValue E r v :=
  encode_redact_outer E env perms norm T v r (validatorOf_alias_outer n r t T h)

/-- an alias without a redactor adds nothing: an inner alias's redactor stays -/
theorem alias_of_alias (n : String) (t : IrTy) : validatorOf (.alias n none t) = validatorOf t := by
  simp only [validatorOf]
  cases validatorOf t <;> rfl

/-- `Nullable(alias)`: the redactor sits on the wrapped object, nothing on the wrapper, and
`redacted_inner` / `redacted_never_clear` apply -/
theorem nullable_alias_redacted (n : String) (r : Redactor) (t : IrTy) (T : PTy)
    (h : validatorOf (.nullable (.alias n (some r) t)) = some T) :
    T.flags.nullable = true ∧ T.flags.redactOuter = none ∧ T.flags.redactInner = some r ∧
      T.topRedactor = some r := by
  simp only [validatorOf] at h
  split at h
  · rename_i v hv
    have hvo : v.outerRedactor = some r := by
      simp only [Option.map_eq_some_iff] at hv
      obtain ⟨T0, _, hT⟩ := hv
      subst hT
      exact setRedact_outerRedactor r T0
    split at h
    · simp at h
    · rename_i hnn
      have hnn' : v.flags.nullable = false := by simpa using hnn
      have hro : v.flags.redactOuter = none :=
        validatorOf_redactOuter (.alias n (some r) t) v (by simpa [validatorOf] using hv) hnn'
      have hri : v.flags.redactInner = some r := by
        simpa [PTy.outerRedactor, hnn'] using hvo
      split at h
      · simp at h
      · simp only [Option.some.injEq] at h
        subst h
        simp [PTy.topRedactor, PTy.outerRedactor, flags_withFlags, hro, hri]
  · simp at h

theorem list_of_alias_redacted (E : Ext) (env : Env) (perms : List String) (n : String) (r : Redactor)
    (t : IrTy) (a b : Option Nat) (T : PTy) (h : validatorOf (.list (.alias n (some r) t) a b) = some T) :
    ∃ item, T = .list {} item a b ∧
      ∀ xs, encodeList E env perms true item xs = xs.mapM (redactValue E r) := by
  obtain ⟨item, hT, hr⟩ := validatorOf_list_alias n r t a b T h
  exact ⟨item, hT, redacted_list_items E env perms item r hr⟩

theorem map_of_alias_redacted (E : Ext) (env : Env) (perms : List String) (n : String) (r : Redactor)
    (k t : IrTy) (T : PTy) (h : validatorOf (.map k (.alias n (some r) t)) = some T) :
    ∃ kt vt, T = .map {} kt vt ∧ ∀ kvs out, encodeDict E env perms true kt vt kvs = .ok out →
      out.length = kvs.length ∧ ∀ kj ∈ out, ∃ kx ∈ kvs, redactValue E r kx.2 = .ok kj.2 := by
  obtain ⟨kt, vt, hT, hr⟩ := validatorOf_map_alias n r k t T h
  exact ⟨kt, vt, hT, fun kvs out => redacted_map_values E env perms kt vt r hr kvs out⟩

example : (validatorOf (.alias "Secret" (some (.blot none)) (.str none none none))).map (·.outerRedactor)
      = some (some (.blot none)) ∧
    (validatorOf (.nullable (.alias "Secret" (some (.blot none)) (.str none none none)))).map (·.topRedactor)
      = some (some (.blot none)) ∧
    (validatorOf (.list (.alias "Outer" none (.alias "Secret" (some (.hash none)) (.str none none none))) none none)).isSome
      = true := by decide

end StoneVerif.C13
