import StoneVerif.Lemmas.RtDecodeValid
/-!
Property theorems for C06: the JSON decoder returns a value valid for the type or raises its
validation error (`Err.verr`); nothing else escapes (`Err.crash`); every documented form is accepted
and every documented defect of a document is rejected.

All statements are about `decode` / `jsonCompatObjDecode` of `Model/Rt/Decode.lean` and their steps
(`finishStruct`, `finishFields`, `attrSet`), for every table of external calls `E`, every environment,
every caller (`perms`) and both modes (`strict`), unless a hypothesis says otherwise.
-/
namespace StoneVerif.C06
open StoneVerif.Rt StoneVerif.Rt.DecL

def Rejected (r : R PyVal) : Prop := ∃ m, r = .error (.verr m)

theorem Rejected.verr (m : String) : Rejected (verr m) := ⟨m, rfl⟩

theorem not_nullable_null {fl : Flags} {j : JVal} {p : Prop} (hn : fl.nullable = false ∨ j ≠ .null)
    (hf : fl.nullable = true) (hj : j = .null) : p :=
  hn.elim (fun h => absurd (h.symm.trans hf) Bool.false_ne_true) (fun h => absurd hj h)

theorem decode_rejects_wrong_kind_list (E : Ext) (env : Env) (perms : List String) (strict : Bool)
    (fl : Flags) (item : PTy) (a b : Option Nat) (j : JVal)
    (h : ∀ xs, j ≠ .arr xs) (hn : fl.nullable = false ∨ j ≠ .null) :
    Rejected (decode E env perms strict (.list fl item a b) j) :=
  decode_list_cases Rejected (not_nullable_null hn) .verr fun xs hj => absurd hj (h xs)

theorem decode_rejects_wrong_kind_map (E : Ext) (env : Env) (perms : List String) (strict : Bool)
    (fl : Flags) (kt vt : PTy) (j : JVal)
    (h : ∀ kvs, j ≠ .obj kvs) (hn : fl.nullable = false ∨ j ≠ .null) :
    Rejected (decode E env perms strict (.map fl kt vt) j) :=
  decode_map_cases Rejected (not_nullable_null hn) .verr fun kvs hj => absurd hj (h kvs)

theorem decode_rejects_wrong_kind_struct (E : Ext) (env : Env) (perms : List String) (strict : Bool)
    (fl : Flags) (cls : String) (j : JVal)
    (h : ∀ kvs, j ≠ .obj kvs) (hn : j ≠ .null) :
    Rejected (decode E env perms strict (.struct fl cls) j) := by
  rw [decode_struct]
  refine nullable_cases (fun _ hj => absurd hj hn) ?_
  cases j <;> first | exact .verr _ | exact absurd rfl hn | exact absurd rfl (h _)

/-- `hd`: the struct has a required field -/
theorem decode_rejects_null_struct (E : Ext) (env : Env) (perms : List String) (strict : Bool)
    (fl : Flags) (cls : String) (hn : fl.nullable = false)
    (hd : hasDefault env (.struct {} cls) = false) :
    Rejected (decode E env perms strict (.struct fl cls) .null) := by
  rw [decode_struct]
  refine nullable_cases (P := Rejected) (j := .null) (fun hf _ => absurd (hn.symm.trans hf) Bool.false_ne_true) ?_
  simp only [hd, Bool.false_eq_true, if_false]
  exact .verr _

/-- A struct with enumerated subtypes refuses every non-object (formerly a `TypeError`, defect D8). -/
theorem decode_rejects_wrong_kind_tree (E : Ext) (env : Env) (perms : List String) (strict : Bool)
    (fl : Flags) (cls : String) (j : JVal)
    (h : ∀ kvs, j ≠ .obj kvs) (hn : fl.nullable = false ∨ j ≠ .null) :
    Rejected (decode E env perms strict (.tree fl cls) j) := by
  rw [decode_tree]
  refine nullable_cases (not_nullable_null hn) ?_
  cases j <;> first | exact .verr _ | exact absurd rfl (h _)

theorem decode_rejects_wrong_kind_union (E : Ext) (env : Env) (perms : List String) (strict : Bool)
    (fl : Flags) (cls : String) (u : UnionDef) (j : JVal) (hu : env.union? cls = some u)
    (hs : ∀ s, j ≠ .str s) (ho : ∀ kvs, j ≠ .obj kvs) (hn : fl.nullable = false ∨ j ≠ .null) :
    Rejected (decode E env perms strict (.union fl cls) j) := by
  rw [decode_union E env perms strict fl cls hu]
  refine nullable_cases (not_nullable_null hn) ?_
  cases j <;> first | exact .verr _ | exact absurd rfl (hs _) | exact absurd rfl (ho _)

theorem decode_rejects_missing_tag_union (E : Ext) (env : Env) (perms : List String) (strict : Bool)
    (fl : Flags) (cls : String) (u : UnionDef) (kvs : List (String × JVal)) (hu : env.union? cls = some u)
    (h : jsonLookup ".tag" kvs = none) :
    Rejected (decode E env perms strict (.union fl cls) (.obj kvs)) := by
  rw [decode_union E env perms strict fl cls hu]
  simp only [Bool.and_false, Bool.false_eq_true, if_false, h]
  exact .verr _

theorem decode_rejects_missing_tag_tree (E : Ext) (env : Env) (perms : List String) (strict : Bool)
    (fl : Flags) (cls : String) (kvs : List (String × JVal))
    (h : jsonLookup ".tag" kvs = none) :
    Rejected (decode E env perms strict (.tree fl cls) (.obj kvs)) := by
  rw [decode_tree]
  simp only [Bool.and_false, Bool.false_eq_true, if_false, h]
  exact .verr _

theorem decode_rejects_nonstring_tag_union (E : Ext) (env : Env) (perms : List String) (strict : Bool)
    (fl : Flags) (cls : String) (u : UnionDef) (kvs : List (String × JVal)) (x : JVal)
    (hu : env.union? cls = some u) (h : jsonLookup ".tag" kvs = some x) (hx : ∀ s, x ≠ .str s) :
    Rejected (decode E env perms strict (.union fl cls) (.obj kvs)) := by
  rw [decode_union E env perms strict fl cls hu]
  simp only [Bool.and_false, Bool.false_eq_true, if_false, h]
  cases x <;> first | exact .verr _ | exact absurd rfl (hx _)

theorem decode_rejects_nonstring_tag_tree (E : Ext) (env : Env) (perms : List String) (strict : Bool)
    (fl : Flags) (cls : String) (kvs : List (String × JVal)) (x : JVal)
    (h : jsonLookup ".tag" kvs = some x) (hx : ∀ s, x ≠ .str s) :
    Rejected (decode E env perms strict (.tree fl cls) (.obj kvs)) := by
  rw [decode_tree]
  simp only [Bool.and_false, Bool.false_eq_true, if_false, h]
  cases x <;> first | exact .verr _ | exact absurd rfl (hx _)

/-- A tag the caller cannot see (`isTagPresent`), in either form of the document; the next four are its instances. -/
theorem decode_rejects_absent_tag (E : Ext) (env : Env) (perms : List String) (strict : Bool)
    (fl : Flags) (cls : String) (u : UnionDef) (j : JVal) (tag : String) (hu : env.union? cls = some u)
    (hj : j = .str tag ∨ ∃ kvs, j = .obj kvs ∧ jsonLookup ".tag" kvs = some (.str tag))
    (hp : u.isTagPresent tag perms = false) (hc : strict = true ∨ u.catchAll = none) :
    Rejected (decode E env perms strict (.union fl cls) j) := by
  rw [decode_union_absent E env perms strict fl cls hu hj hp]
  rcases hc with rfl | hc
  · exact .verr _
  · rw [hc, Option.isSome_none, Bool.and_false]; exact .verr _

theorem decode_rejects_unknown_tag_closed (E : Ext) (env : Env) (perms : List String) (strict : Bool)
    (fl : Flags) (cls : String) (u : UnionDef) (kvs : List (String × JVal)) (tag : String)
    (hu : env.union? cls = some u) (hc : u.catchAll = none)
    (ht : jsonLookup ".tag" kvs = some (.str tag)) (hp : u.isTagPresent tag perms = false) :
    Rejected (decode E env perms strict (.union fl cls) (.obj kvs)) :=
  decode_rejects_absent_tag E env perms strict fl cls u _ tag hu (.inr ⟨kvs, rfl, ht⟩) hp (.inr hc)

theorem decode_rejects_unknown_tag_closed_str (E : Ext) (env : Env) (perms : List String) (strict : Bool)
    (fl : Flags) (cls : String) (u : UnionDef) (tag : String)
    (hu : env.union? cls = some u) (hc : u.catchAll = none) (hp : u.isTagPresent tag perms = false) :
    Rejected (decode E env perms strict (.union fl cls) (.str tag)) :=
  decode_rejects_absent_tag E env perms strict fl cls u _ tag hu (.inl rfl) hp (.inr hc)

theorem decode_rejects_strict_unknown_tag (E : Ext) (env : Env) (perms : List String)
    (fl : Flags) (cls : String) (u : UnionDef) (kvs : List (String × JVal)) (tag : String)
    (hu : env.union? cls = some u)
    (ht : jsonLookup ".tag" kvs = some (.str tag)) (hp : u.isTagPresent tag perms = false) :
    Rejected (decode E env perms true (.union fl cls) (.obj kvs)) :=
  decode_rejects_absent_tag E env perms true fl cls u _ tag hu (.inr ⟨kvs, rfl, ht⟩) hp (.inl rfl)

theorem decode_rejects_strict_unknown_tag_str (E : Ext) (env : Env) (perms : List String)
    (fl : Flags) (cls : String) (u : UnionDef) (tag : String)
    (hu : env.union? cls = some u) (hp : u.isTagPresent tag perms = false) :
    Rejected (decode E env perms true (.union fl cls) (.str tag)) :=
  decode_rejects_absent_tag E env perms true fl cls u _ tag hu (.inl rfl) hp (.inl rfl)

theorem decode_rejects_catch_all_tag (E : Ext) (env : Env) (perms : List String) (strict : Bool)
    (fl : Flags) (cls : String) (u : UnionDef) (kvs : List (String × JVal)) (tag : String)
    (hu : env.union? cls = some u) (hc : u.catchAll = some tag)
    (ht : jsonLookup ".tag" kvs = some (.str tag)) (hp : u.isTagPresent tag perms = true) :
    Rejected (decode E env perms strict (.union fl cls) (.obj kvs)) := by
  rw [decode_union E env perms strict fl cls hu]
  simp only [Bool.and_false, Bool.false_eq_true, if_false, ht, hp, hc, Bool.not_true, beq_self_eq_true, if_true]
  exact .verr _

theorem decode_rejects_catch_all_tag_str (E : Ext) (env : Env) (perms : List String) (strict : Bool)
    (fl : Flags) (cls : String) (u : UnionDef) (tag : String)
    (hu : env.union? cls = some u) (hc : u.catchAll = some tag)
    (hp : u.isTagPresent tag perms = true) :
    Rejected (decode E env perms strict (.union fl cls) (.str tag)) := by
  obtain ⟨ft, hft⟩ := valDataType_of_present u tag perms hp
  rw [decode_union_str E env perms strict fl cls hu hp hft, hc, beq_self_eq_true]
  split <;> exact .verr _

theorem decode_rejects_strict_unknown_subtype (E : Ext) (env : Env) (perms : List String)
    (fl : Flags) (cls : String) (s : StructDef) (kvs : List (String × JVal)) (tag : String)
    (hs : env.struct? cls = some s) (ht : jsonLookup ".tag" kvs = some (.str tag))
    (hf : (s.subtypes.getD []).find? (fun (tags, _, _) => tags == [tag]) = none) :
    Rejected (decode E env perms true (.tree fl cls) (.obj kvs)) := by
  rw [decode_tree]
  simp only [Bool.and_false, Bool.false_eq_true, if_false, ht, hs, hf, if_true]
  exact .verr _

theorem decode_rejects_unknown_subtype_closed (E : Ext) (env : Env) (perms : List String) (strict : Bool)
    (fl : Flags) (cls : String) (s : StructDef) (kvs : List (String × JVal)) (tag : String)
    (hs : env.struct? cls = some s) (ht : jsonLookup ".tag" kvs = some (.str tag))
    (hc : s.catchAll = false)
    (hf : (s.subtypes.getD []).find? (fun (tags, _, _) => tags == [tag]) = none) :
    Rejected (decode E env perms strict (.tree fl cls) (.obj kvs)) := by
  rw [decode_tree]
  simp only [Bool.and_false, Bool.false_eq_true, if_false, ht, hs, hf, hc]
  cases strict <;> exact .verr _

theorem decode_rejects_nonleaf_subtype (E : Ext) (env : Env) (perms : List String) (strict : Bool)
    (fl : Flags) (cls : String) (s : StructDef) (kvs : List (String × JVal)) (tag : String)
    (tags : List String) (sc : String)
    (hs : env.struct? cls = some s) (ht : jsonLookup ".tag" kvs = some (.str tag))
    (hf : (s.subtypes.getD []).find? (fun (tags, _, _) => tags == [tag]) = some (tags, sc, true)) :
    Rejected (decode E env perms strict (.tree fl cls) (.obj kvs)) := by
  rw [decode_tree]
  simp only [Bool.and_false, Bool.false_eq_true, if_false, ht, hs, hf, if_true]
  exact .verr _

/-- members starting with `.tag` are the union / subtype discriminator and are skipped by the check -/
theorem finishStruct_rejects_strict_unknown_field (E : Ext) (env : Env) (perms : List String)
    (cls : String) (s : StructDef) (kvs : List (String × JVal)) (children : List (String × R PyVal))
    (k : String) (x : JVal)
    (hs : env.struct? cls = some s) (hm : (k, x) ∈ kvs)
    (hk : ((s.fieldsFor perms).map (·.name)).contains k = false) (ht : k.startsWith ".tag" = false) :
    Rejected (finishStruct E env perms true cls kvs children) := by
  rw [finishStruct_eq E env perms true hs kvs children, Bool.true_and,
    List.any_eq_true.mpr ⟨(k, x), hm, by simp only [hk, ht]; rfl⟩]
  exact .verr _

theorem decode_rejects_strict_unknown_field (E : Ext) (env : Env) (perms : List String)
    (fl : Flags) (cls : String) (s : StructDef) (kvs : List (String × JVal)) (k : String) (x : JVal)
    (hs : env.struct? cls = some s) (hm : (k, x) ∈ kvs)
    (hk : ((s.fieldsFor perms).map (·.name)).contains k = false) (ht : k.startsWith ".tag" = false) :
    Rejected (decode E env perms true (.struct fl cls) (.obj kvs)) := by
  rw [decode_struct_obj]
  exact finishStruct_rejects_strict_unknown_field E env perms cls s kvs _ k x hs hm hk ht

/-- `attrHas f slots = false` is `hasattr` false: not stored, attribute not nullable, no default -/
theorem finishStruct_rejects_missing_required (E : Ext) (env : Env) (perms : List String) (strict : Bool)
    (cls : String) (s : StructDef) (kvs : List (String × JVal)) (children : List (String × R PyVal))
    (slots : List (String × PyVal)) (f : FieldDef)
    (hs : env.struct? cls = some s)
    (hfin : finishFields E env (s.fieldsFor perms) children [] = .ok slots)
    (hf : f ∈ s.fieldsFor perms) (hh : attrHas f slots = false) :
    Rejected (finishStruct E env perms strict cls kvs children) := by
  have : (s.fieldsFor perms).all (fun f => attrHas f slots) = false := by
    rw [List.all_eq_false]; exact ⟨f, hf, by simp [hh]⟩
  rw [finishStruct_eq E env perms strict hs kvs children, hfin]
  refine ite_cases (fun _ => .verr _) fun _ => ?_
  show Rejected (if _ then _ else _)
  rw [this]
  exact .verr _

/-- `f` is required: attribute not nullable, no default value, validator without implicit default. `hfin`: the members
that are there decode and assign. -/
theorem decode_rejects_missing_required (E : Ext) (env : Env) (perms : List String) (strict : Bool)
    (fl : Flags) (cls : String) (s : StructDef) (kvs : List (String × JVal)) (f : FieldDef)
    (slots : List (String × PyVal))
    (hs : env.struct? cls = some s) (hf : f ∈ s.fieldsFor perms)
    (huniq : nodupS ((s.fieldsFor perms).map (·.name)) = true)
    (hnn : f.attrNullable = false) (hnd : f.dflt = none) (hd : hasDefault env f.ty = false)
    (hk : jsonLookup f.name kvs = none)
    (hfin : finishFields E env (s.fieldsFor perms)
      (decodeMembers E env perms strict (memberTable env perms strict (.struct fl cls) kvs) kvs) [] = .ok slots) :
    Rejected (decode E env perms strict (.struct fl cls) (.obj kvs)) := by
  rw [decode_struct_obj]
  refine finishStruct_rejects_missing_required E env perms strict cls s kvs _ slots f hs hfin hf ?_
  -- no assignment of the loop stores `f.name`: the one field of that name has neither a member nor a default
  have hnone : lookupSlot f.name slots = none := by
    refine finishFields_lookup_skipped E env f.name _ _ [] slots (fun g hg hn => ?_) hfin
    obtain rfl : g = f := key_inj_of_nodupS (·.name) _ huniq g f hg hf hn
    exact ⟨childLookup_decodeMembers_none E env perms strict _ _ kvs hk, hd⟩
  rw [attrHas_eq, hnone, hnn, hnd]; rfl

/-- whether the members that are there decode and assign or not -/
theorem decode_never_accepts_missing_required (E : Ext) (env : Env) (perms : List String) (strict : Bool)
    (fl : Flags) (cls : String) (s : StructDef) (kvs : List (String × JVal)) (f : FieldDef)
    (hs : env.struct? cls = some s) (hf : f ∈ s.fieldsFor perms)
    (huniq : nodupS ((s.fieldsFor perms).map (·.name)) = true)
    (hnn : f.attrNullable = false) (hnd : f.dflt = none) (hd : hasDefault env f.ty = false)
    (hk : jsonLookup f.name kvs = none) :
    ∀ v, decode E env perms strict (.struct fl cls) (.obj kvs) ≠ .ok v := by
  intro v hv
  cases hfin : finishFields E env (s.fieldsFor perms)
      (decodeMembers E env perms strict (memberTable env perms strict (.struct fl cls) kvs) kvs) [] with
  | ok slots =>
    obtain ⟨m, hm⟩ := decode_rejects_missing_required E env perms strict fl cls s kvs f slots hs hf huniq hnn hnd hd hk hfin
    rw [hm] at hv; cases hv
  | error e =>
    rw [decode_struct_obj, finishStruct_eq E env perms strict hs, hfin] at hv
    split at hv <;> cases hv

/-- Boolean / integer / float / String at the entry point: the other primitives are converted from text first -/
theorem decode_rejects_invalid_prim (E : Ext) (env : Env) (perms : List String) (strict : Bool) (t : PTy) (j : JVal)
    (hp : isJsonPrimTy t = true) (hn : t.flags.nullable = false) (h : validPrim E t (pyOfJson j) = false) :
    Rejected (jsonCompatObjDecode E env perms strict t j) := by
  rcases V8.jsonCompatObjDecode_jsonPrim_good E env perms strict t j hp hn with ⟨a, _⟩ | ⟨_, b⟩
  · rw [h] at a; cases a
  · exact b.exists

theorem decode_rejects_out_of_bounds_int (E : Ext) (env : Env) (perms : List String) (strict : Bool)
    (fl : Flags) (c : String) (lo hi n : Int) (hn : fl.nullable = false) (h : n < lo ∨ hi < n) :
    Rejected (jsonCompatObjDecode E env perms strict (.int fl c lo hi) (.int n)) := by
  refine decode_rejects_invalid_prim E env perms strict _ _ rfl hn ?_
  simp only [pyOfJson, validPrim, Bool.and_eq_false_iff, decide_eq_false_iff_not]
  omega

theorem decode_rejects_string_too_long (E : Ext) (env : Env) (perms : List String) (strict : Bool)
    (fl : Flags) (minLen : Option Nat) (m : Nat) (pat : Option String) (s : String)
    (hn : fl.nullable = false) (h : m < s.length) :
    Rejected (jsonCompatObjDecode E env perms strict (.str fl minLen (some m) pat) (.str s)) := by
  refine decode_rejects_invalid_prim E env perms strict _ _ rfl hn ?_
  simp only [pyOfJson, validPrim, geOpt, decide_eq_false (Nat.not_le.2 h), Bool.and_false, Bool.false_and]

theorem decode_rejects_string_too_short (E : Ext) (env : Env) (perms : List String) (strict : Bool)
    (fl : Flags) (m : Nat) (maxLen : Option Nat) (pat : Option String) (s : String)
    (hn : fl.nullable = false) (h : s.length < m) :
    Rejected (jsonCompatObjDecode E env perms strict (.str fl (some m) maxLen pat) (.str s)) := by
  refine decode_rejects_invalid_prim E env perms strict _ _ rfl hn ?_
  simp only [pyOfJson, validPrim, leOpt, decide_eq_false (Nat.not_le.2 h), Bool.false_and]

theorem decode_rejects_pattern_mismatch (E : Ext) (env : Env) (perms : List String) (strict : Bool)
    (fl : Flags) (minLen maxLen : Option Nat) (p : String) (s : String)
    (hn : fl.nullable = false) (hp : p ≠ "") (h : E.patMatch p s = false) :
    Rejected (jsonCompatObjDecode E env perms strict (.str fl minLen maxLen (some p)) (.str s)) := by
  refine decode_rejects_invalid_prim E env perms strict _ _ rfl hn ?_
  simp only [pyOfJson, validPrim, h, beq_eq_false_iff_ne.2 hp, Bool.or_self, Bool.and_false]

theorem decode_rejects_wrong_kind_string (E : Ext) (env : Env) (perms : List String) (strict : Bool)
    (fl : Flags) (minLen maxLen : Option Nat) (pat : Option String) (j : JVal)
    (hn : fl.nullable = false) (h : ∀ s, j ≠ .str s) :
    Rejected (jsonCompatObjDecode E env perms strict (.str fl minLen maxLen pat) j) := by
  refine decode_rejects_invalid_prim E env perms strict _ _ rfl hn ?_
  cases j <;> first | rfl | exact absurd rfl (h _)

theorem decode_rejects_wrong_kind_bool (E : Ext) (env : Env) (perms : List String) (strict : Bool)
    (fl : Flags) (j : JVal) (hn : fl.nullable = false) (h : ∀ b, j ≠ .bool b) :
    Rejected (jsonCompatObjDecode E env perms strict (.bool fl) j) := by
  refine decode_rejects_invalid_prim E env perms strict _ _ rfl hn ?_
  cases j <;> first | rfl | exact absurd rfl (h _)

/-- as in Python, a boolean counts as an integer -/
theorem decode_rejects_wrong_kind_int (E : Ext) (env : Env) (perms : List String) (strict : Bool)
    (fl : Flags) (c : String) (lo hi : Int) (j : JVal) (hn : fl.nullable = false)
    (h : ∀ n, j ≠ .int n) (hb : ∀ b, j ≠ .bool b) :
    Rejected (jsonCompatObjDecode E env perms strict (.int fl c lo hi) j) := by
  refine decode_rejects_invalid_prim E env perms strict _ _ rfl hn ?_
  cases j <;> first | rfl | exact absurd rfl (h _) | exact absurd rfl (hb _)

theorem decode_rejects_wrong_kind_ts_bytes (E : Ext) (env : Env) (perms : List String) (strict : Bool)
    (fl : Flags) (fmt : String) (j : JVal) (hn : fl.nullable = false) (h : ∀ s, j ≠ .str s) :
    Rejected (jsonCompatObjDecode E env perms strict (.ts fl fmt) j) ∧
    Rejected (jsonCompatObjDecode E env perms strict (.bytes fl) j) := by
  constructor <;> rw [jsonCompatObjDecode_eq] <;>
    simp only [PTy.flags, hn, isPrimTy, Bool.not_false, Bool.and_self, if_true, makeStoneFriendly] <;>
    cases j <;> first | exact .verr _ | exact absurd rfl (h _)

theorem finishFields_rejects_bad_member (E : Ext) (env : Env) (children : List (String × R PyVal))
    (pre post : List FieldDef) (f : FieldDef) (s0 s1 : List (String × PyVal)) (v : PyVal) (e : Err)
    (hpre : finishFields E env pre children s0 = .ok s1)
    (hc : childLookup f.name children = some (.ok v))
    (ha : attrSet E env f s1 v = .error e) :
    finishFields E env (pre ++ f :: post) children s0 = .error e := by
  rw [finishFields_append, hpre]
  show finishFields E env (f :: post) children s1 = _
  rw [finishFields_cons]
  simp [hc, ha]

theorem finishStruct_rejects_bad_member (E : Ext) (env : Env) (perms : List String) (strict : Bool)
    (cls : String) (s : StructDef) (kvs : List (String × JVal)) (children : List (String × R PyVal))
    (pre post : List FieldDef) (f : FieldDef) (s1 : List (String × PyVal)) (v : PyVal) (m : String)
    (hs : env.struct? cls = some s) (htab : s.fieldsFor perms = pre ++ f :: post)
    (hpre : finishFields E env pre children [] = .ok s1)
    (hc : childLookup f.name children = some (.ok v))
    (ha : attrSet E env f s1 v = .error (.verr m)) :
    Rejected (finishStruct E env perms strict cls kvs children) := by
  rw [finishStruct_eq E env perms strict hs kvs children, htab,
    finishFields_rejects_bad_member E env children pre post f [] s1 v _ hpre hc ha]
  exact ite_cases (fun _ => .verr _) fun _ => ⟨_, rfl⟩

theorem attrSet_rejects_invalid_prim (E : Ext) (env : Env) (f : FieldDef) (slots : List (String × PyVal)) (x : PyVal)
    (hp : isPrimTy f.ty = true) (hu : f.attrUserDefined = false) (hx : x ≠ .none) (h : validPrim E f.ty x = false) :
    ∃ m, attrSet E env f slots x = .error (.verr m) := by
  have hnone : isNoneV x = false := Bool.eq_false_iff.2 (mt isNoneV_iff.1 hx)
  have hf : fieldSat E env f x = false := by
    simp only [fieldSat, hu, V8.satB_prim E env f.ty x hp, h, hnone, Bool.and_false, Bool.or_false,
      Bool.false_eq_true, if_false]
  rcases V8.attrSet_spec E env f slots x with ⟨a, _⟩ | ⟨_, b⟩ | ⟨_, c, _⟩
  · rw [hf] at a; cases a
  · exact b.exists
  · rw [hu] at c; cases c

theorem attrSet_rejects_out_of_bounds_int (E : Ext) (env : Env) (f : FieldDef) (slots : List (String × PyVal))
    (fl : Flags) (c : String) (lo hi n : Int)
    (hty : f.ty = .int fl c lo hi) (hu : f.attrUserDefined = false) (h : n < lo ∨ hi < n) :
    ∃ m, attrSet E env f slots (.int n) = .error (.verr m) := by
  refine attrSet_rejects_invalid_prim E env f slots _ (by rw [hty]; rfl) hu (fun e => nomatch e) ?_
  simp only [hty, validPrim, Bool.and_eq_false_iff, decide_eq_false_iff_not]
  omega

theorem attrSet_rejects_bad_string (E : Ext) (env : Env) (f : FieldDef) (slots : List (String × PyVal))
    (fl : Flags) (minLen : Option Nat) (m : Nat) (pat : Option String) (x : PyVal)
    (hty : f.ty = .str fl minLen (some m) pat) (hu : f.attrUserDefined = false)
    (hx : x ≠ .none) (h : ∀ s, x = .str s → m < s.length) :
    ∃ msg, attrSet E env f slots x = .error (.verr msg) := by
  refine attrSet_rejects_invalid_prim E env f slots x (by rw [hty]; rfl) hu hx ?_
  rw [hty]
  cases x <;> try rfl
  case str s =>
    simp only [validPrim, geOpt, decide_eq_false (Nat.not_le.2 (h s rfl)), Bool.and_false, Bool.false_and]

/-- The tag's validator is named twice, as the Python reads it twice: the decoder through `_get_val_data_type`
(`valDataType`, the caller's tables), `Union.__init__` through `_tagmap` and `_permissioned_tagmaps` (`ctorValidator`). -/
theorem decode_accepts_bare_void_tag (E : Ext) (env : Env) (perms : List String) (strict : Bool)
    (fl : Flags) (cls : String) (u : UnionDef) (tag : String) (ft : PTy) (vfl : Flags)
    (hu : env.union? cls = some u) (hp : u.isTagPresent tag perms = true)
    (hv : u.valDataType tag perms = some ft) (hvoid : isVoidTy ft = true)
    (hc : u.catchAll ≠ some tag)
    (hctor : u.ctorValidator tag = some (.void vfl)) (hvn : vfl.nullable = false) :
    decode E env perms strict (.union fl cls) (.str tag) = .ok (.union cls tag .none) := by
  rw [decode_union_str E env perms strict fl cls hu hp hv, hvoid, beq_eq_false_iff_ne.2 hc.symm]
  exact V8.mkUnion_none_ok E env cls tag u hu _ hctor (.inl rfl)

theorem decode_accepts_tag_only_nullable (E : Ext) (env : Env) (perms : List String) (strict : Bool)
    (fl : Flags) (cls : String) (u : UnionDef) (tag : String) (ft vt : PTy)
    (hu : env.union? cls = some u) (hp : u.isTagPresent tag perms = true)
    (hv : u.valDataType tag perms = some ft) (hvoid : isVoidTy ft = false) (hn : ft.flags.nullable = true)
    (hc : u.catchAll ≠ some tag) (htag : tag ≠ ".tag")
    (hctor : u.ctorValidator tag = some vt) (hvn : vt.flags.nullable = true) :
    decode E env perms strict (.union fl cls) (.obj [(".tag", .str tag)]) = .ok (.union cls tag .none) := by
  have hc' : (some tag == u.catchAll) = false := beq_eq_false_iff_ne.2 hc.symm
  have hmk := V8.mkUnion_none_ok E env cls tag u hu vt hctor (.inr hvn)
  have htag' : (".tag" == tag) = false := by simpa using fun h => htag h.symm
  have hj : jsonLookup tag [(".tag", JVal.str tag)] = none := by simp [jsonLookup, htag']
  have hcl := childLookup_decodeMembers_none E env perms strict
      (memberTable env perms strict (.union fl cls) [(".tag", JVal.str tag)]) tag _ hj
  rw [decode_union E env perms strict fl cls hu]
  by_cases hps : isPlainStruct ft = true
  · simp [jsonLookup, hp, hc', hv, hvoid, hn, hps, hmk]
  · simp [jsonLookup, hp, hc', hv, hvoid, hn, hps, hmk, hcl, Ne.symm htag]

theorem decode_accepts_explicit_null_field (E : Ext) (env : Env) (perms : List String) (strict : Bool)
    (fl : Flags) (cls : String) (s : StructDef) (pre post : List (String × JVal)) (f : FieldDef)
    (hs : env.struct? cls = some s) (hf : f ∈ s.fieldsFor perms)
    (hnull : ∀ g ∈ s.fieldsFor perms, g.name = f.name → g.ty.flags.nullable = true)
    (hpost : jsonLookup f.name post = none) :
    decode E env perms strict (.struct fl cls) (.obj (pre ++ (f.name, .null) :: post)) =
    decode E env perms strict (.struct fl cls) (.obj (pre ++ post)) := by
  rw [decode_struct_obj, decode_struct_obj, memberTable_struct _ _ _ _ _ hs, memberTable_struct _ _ _ _ _ hs,
    finishStruct_eq E env perms strict hs, finishStruct_eq E env perms strict hs]
  -- the strict-mode check passes over the member, `f.name` being a field of the table
  have hknown : ((s.fieldsFor perms).map (·.name)).contains f.name = true := by
    simpa using ⟨f, hf, rfl⟩
  simp only [List.any_append, List.any_cons, hknown, Bool.not_true, Bool.false_and, Bool.false_or]
  -- and the table loop sees `None` for `f.name` unless an earlier member has that key; that is the default
  obtain ⟨g, hg, hgn, hfind⟩ := find_table_of_name _ f hf
  rw [decodeMembers_append, decodeMembers_append, decodeMembers_cons, hfind]
  dsimp only
  rw [decode_nullable_null E env perms strict (hnull g hg hgn),
    finishFields_null_eq_absent E env _ _ (s.fieldsFor perms) fun h hh => ?_]
  rcases childLookup_insert h.name f.name (.ok .none) _ _ with heq | ⟨hhn, h1, h2⟩
  · exact .inl heq
  · refine .inr ⟨hnull h hh hhn, h1, ?_⟩
    exact h2.trans (childLookup_decodeMembers_none E env perms strict _ _ _ hpost)

theorem decode_accepts_omitted_optional (E : Ext) (env : Env) (perms : List String) (strict : Bool)
    (fl : Flags) (cls : String) (s : StructDef)
    (hs : env.struct? cls = some s)
    (huniq : nodupS ((s.fieldsFor perms).map (·.name)) = true)
    (hopt : ∀ f ∈ s.fieldsFor perms, f.optional env = true) :
    ∃ slots, decode E env perms strict (.struct fl cls) (.obj []) = .ok (.struct cls slots) ∧
      ∀ f ∈ s.fieldsFor perms, attrHas f slots = true := by
  obtain ⟨slots, hfin, hall⟩ := finishFields_all_optional E env (s.fieldsFor perms) [] huniq hopt
  refine ⟨slots, ?_, hall⟩
  rw [decode_struct_obj, finishStruct_eq E env perms strict hs, decodeMembers, hfin, List.any_nil, Bool.and_false,
    if_neg Bool.false_ne_true]
  exact if_pos (List.all_eq_true.mpr hall)

/-- The table loop skips a field that has no member in the document and whose validator has no implicit default; with a
declared default value it then reads as that default (`attrHas_of_default`). -/
theorem finishFields_skips_defaulted (E : Ext) (env : Env) (f : FieldDef) (rest : List FieldDef)
    (children : List (String × R PyVal)) (slots : List (String × PyVal))
    (hc : childLookup f.name children = none) (hd : hasDefault env f.ty = false) :
    finishFields E env (f :: rest) children slots = finishFields E env rest children slots := by
  rw [finishFields_cons]; simp [hc, hd]

theorem attrHas_of_default (f : FieldDef) (slots : List (String × PyVal)) (h : f.dflt.isSome = true) :
    attrHas f slots = true := by
  rw [attrHas_eq, h, Bool.or_true, Bool.or_true]

/-- For every environment an accepted spec can produce (`envWF`, evaluated by the driver on every environment the
harness sends; `fieldFlagsWF`: the `bb.Attribute` flags agree with the validator objects), every validator whose
classes exist (`tyWF`), every caller, both modes and every document, the decoder raises only its validation error. -/
theorem decode_no_crash (E : Ext) (env : Env) (perms : List String) (strict : Bool) (t : PTy) (j : JVal)
    (hwf : envWF env = true) (hff : fieldFlagsWF env = true) (ht : tyWF env t = true) :
    ∀ e, decode E env perms strict t j ≠ .error (.crash e) :=
  decode_nc E env perms strict hwf hff j t ht

theorem jsonCompatObjDecode_no_crash (E : Ext) (env : Env) (perms : List String) (strict : Bool) (t : PTy)
    (j : JVal) (hwf : envWF env = true) (hff : fieldFlagsWF env = true) (ht : tyWF env t = true) :
    ∀ e, jsonCompatObjDecode E env perms strict t j ≠ .error (.crash e) := by
  rw [jsonCompatObjDecode_eq]
  exact ite_cases (P := NoCrash) (fun _ => makeStoneFriendly_nc E env perms strict true t j) fun _ =>
    .bind (decode_nc E env perms strict hwf hff j t ht) fun v _ =>
      ite_cases (P := NoCrash) (fun _ => validate_nc E env t v) fun _ => .ok v

/-- Without `fieldFlagsWF` the statement is false of the model: a field flagged `user_defined` whose validator is
a primitive makes `Attribute.__set__` call a method the validator does not have. (No generated module has such a
field; the harness evaluates `fieldFlagsWF` on every environment it builds from real specs.) -/
example :
    let f : FieldDef := ⟨"a", .bool {}, false, true, none, none⟩
    let env : Env := ⟨[⟨"ns.S", [⟨"ns.S", [f]⟩], none, false⟩], []⟩
    envWF env = true ∧ fieldFlagsWF env = false ∧
    ∀ E, decode E env [] false (.struct {} "ns.S") (.obj [("a", .bool true)]) = crash "AttributeError" :=
  ⟨by decide +kernel, by decide +kernel, fun _ => rfl⟩

/-- external calls: any table will do (the theorems hold for every `Ext`) -/
def E0 : Ext where
  fltLt _ _ := false
  fltIsNan _ := false
  fltIsInf _ := false
  fltOfInt _ := some 0
  patMatch _ _ := true
  b64enc s := s
  b64dec s := some (some s)
  strftime _ _ := ""
  strptime _ _ := some 0
  md5 s := s
  reSearch _ _ := none
  strOfInt _ := ""
  strOfFlt _ := ""

def fA : FieldDef := ⟨"a", .int {} "Int32" (-5) 5, false, false, none, none⟩                      -- a Int32(min=-5,max=5)
def fB : FieldDef := ⟨"b", .str { nullable := true } none (some 3) none, true, false, none, none⟩  -- b String(max_length=3)?
def fC : FieldDef := ⟨"c", .bool {}, false, false, some (.bool true), none⟩                        -- c Boolean = true
def fH : FieldDef := ⟨"h", .str {} none none none, false, false, none, some "internal"⟩            -- h String, omitted for "internal"
def fN : FieldDef := ⟨"n", .str {} none none none, false, false, none, none⟩
def sS : StructDef := ⟨"ns.S", [⟨"ns.S", [fA, fB, fC, fH]⟩], none, false⟩
def sO : StructDef := ⟨"ns.O", [⟨"ns.O", [fB, fC]⟩], none, false⟩                                  -- all fields optional
def sR : StructDef := ⟨"ns.R", [⟨"ns.R", [fA]⟩], some [(["file"], "ns.F", false), (["dir"], "ns.D", true)], true⟩
def sF : StructDef := ⟨"ns.F", [⟨"ns.R", [fA]⟩, ⟨"ns.F", [fN]⟩], none, false⟩
def sD : StructDef := ⟨"ns.D", [⟨"ns.R", [fA]⟩, ⟨"ns.D", []⟩], some [], false⟩
def uU : UnionDef := ⟨"ns.U", [⟨"ns.U", [⟨"v", .void {}, none⟩, ⟨"n", .str { nullable := true } none none none, none⟩,
    ⟨"s", .struct {} "ns.S", none⟩, ⟨"p", .void {}, some "internal"⟩, ⟨"other", .void {}, none⟩]⟩], some "other"⟩
def uC : UnionDef := ⟨"ns.C", [⟨"ns.C", [⟨"x", .void {}, none⟩, ⟨"i", .int {} "Int32" 0 9, none⟩]⟩], none⟩
def env0 : Env := ⟨[sS, sO, sR, sF, sD], [uU, uC]⟩

example : envWF env0 = true ∧ fieldFlagsWF env0 = true := by decide +kernel

example : env0.union? "ns.C" = some uC ∧ uC.catchAll = none ∧ uC.isTagPresent "zz" [] = false ∧
    env0.union? "ns.U" = some uU ∧ uU.isTagPresent "zz" [] = false ∧ uU.isTagPresent "p" [] = false ∧
    uU.isTagPresent "p" ["internal"] = true :=
  ⟨rfl, rfl, by decide +kernel, rfl, by decide +kernel, by decide +kernel, by decide +kernel⟩
example : decode E0 env0 [] false (.union {} "ns.U") (.str "zz") = .ok (.union "ns.U" "other" .none) ∧
    decode E0 env0 [] true (.union {} "ns.U") (.str "zz") = verr "unknown tag" ∧
    decode E0 env0 [] false (.union {} "ns.C") (.obj [(".tag", .str "zz")]) = verr "unknown tag" :=
  ⟨rfl, rfl, rfl⟩
example : uU.catchAll = some "other" ∧ uU.isTagPresent "other" [] = true := by decide +kernel
example : Rejected (decode E0 env0 [] false (.union {} "ns.U") (.str "other")) ∧
    Rejected (decode E0 env0 [] false (.union {} "ns.U") (.obj [(".tag", .str "other")])) :=
  ⟨decode_rejects_catch_all_tag_str _ _ _ _ _ _ uU _ rfl rfl (by decide +kernel),
   decode_rejects_catch_all_tag _ _ _ _ _ _ uU _ "other" rfl rfl rfl (by decide +kernel)⟩

example : env0.struct? "ns.R" = some sR ∧
    (sR.subtypes.getD []).find? (fun (tags, _, _) => tags == ["zip"]) = none ∧
    (sR.subtypes.getD []).find? (fun (tags, _, _) => tags == ["dir"]) = some (["dir"], "ns.D", true) := ⟨rfl, rfl, rfl⟩
example : decode E0 env0 [] true (.tree {} "ns.R") (.obj [(".tag", .str "zip"), ("a", .int 1)]) = verr "unknown subtype" ∧
    decode E0 env0 [] false (.tree {} "ns.R") (.obj [(".tag", .str "zip"), ("a", .int 1)]) = .ok (.struct "ns.R" [("a", .int 1)]) ∧
    decode E0 env0 [] false (.tree {} "ns.R") (.obj [(".tag", .str "file"), ("a", .int 1), ("n", .str "x")]) =
      .ok (.struct "ns.F" [("a", .int 1), ("n", .str "x")]) ∧
    Rejected (decode E0 env0 [] false (.tree {} "ns.R") (.obj [(".tag", .str "dir"), ("a", .int 1)])) :=
  ⟨rfl, rfl, rfl, _, rfl⟩

/-- the field `h`, omitted for a caller class the caller does not hold, is an unknown field too -/
example : env0.struct? "ns.S" = some sS ∧ ((sS.fieldsFor []).map (·.name)).contains "zz" = false ∧
    ((sS.fieldsFor []).map (·.name)).contains "h" = false ∧ ((sS.fieldsFor ["internal"]).map (·.name)).contains "h" = true ∧
    "zz".startsWith ".tag" = false := ⟨rfl, by decide +kernel, by decide +kernel, by decide +kernel, by decide +kernel⟩
example : decode E0 env0 [] true (.struct {} "ns.S") (.obj [("a", .int 1), ("zz", .null)]) = verr "unknown field" ∧
    decode E0 env0 [] false (.struct {} "ns.S") (.obj [("a", .int 1), ("zz", .null)]) = .ok (.struct "ns.S" [("a", .int 1)]) ∧
    decode E0 env0 [] true (.struct {} "ns.S") (.obj [("a", .int 1), ("h", .str "x")]) = verr "unknown field" :=
  ⟨rfl, rfl, rfl⟩

example : fA ∈ sS.fieldsFor [] ∧ nodupS ((sS.fieldsFor []).map (·.name)) = true ∧ fA.attrNullable = false ∧
    fA.dflt = none ∧ hasDefault env0 fA.ty = false ∧ jsonLookup fA.name [("b", .str "x")] = none := by
  refine ⟨?_, by decide +kernel, rfl, rfl, by decide +kernel, by decide +kernel⟩
  show fA ∈ [fA, fB, fC]
  exact List.mem_cons_self
example : decode E0 env0 [] false (.struct {} "ns.S") (.obj [("b", .str "x")]) = verr "missing required field" := rfl

example : Rejected (jsonCompatObjDecode E0 env0 [] false (.int {} "Int32" (-5) 5) (.int 6)) :=
  decode_rejects_out_of_bounds_int _ _ _ _ _ _ _ _ _ rfl (by decide)
example : decode E0 env0 [] false (.struct {} "ns.S") (.obj [("a", .int 6)]) = verr "not within range" ∧
    decode E0 env0 [] false (.struct {} "ns.S") (.obj [("a", .str "1")]) = verr "expected integer" ∧
    decode E0 env0 [] false (.struct {} "ns.S") (.obj [("a", .int 1), ("b", .str "long")]) = verr "too long" :=
  ⟨rfl, rfl, rfl⟩

example : decode E0 env0 [] true (.union {} "ns.U") (.str "v") = .ok (.union "ns.U" "v" .none) :=
  decode_accepts_bare_void_tag _ _ _ _ _ _ uU _ (.void {}) {} rfl (by decide +kernel) rfl rfl
    (by decide +kernel) rfl rfl
example : decode E0 env0 [] true (.union {} "ns.U") (.obj [(".tag", .str "n")]) = .ok (.union "ns.U" "n" .none) :=
  decode_accepts_tag_only_nullable _ _ _ _ _ _ uU _ (.str { nullable := true } none none none) (.str { nullable := true } none none none)
    rfl (by decide +kernel) rfl rfl rfl (by decide +kernel) (by decide +kernel) rfl rfl
example : decode E0 env0 [] true (.struct {} "ns.S") (.obj [("a", .int 1), ("b", .null), ("c", .bool false)]) =
    decode E0 env0 [] true (.struct {} "ns.S") (.obj [("a", .int 1), ("c", .bool false)]) ∧
    decode E0 env0 [] true (.struct {} "ns.S") (.obj [("a", .int 1), ("c", .bool false)]) =
      .ok (.struct "ns.S" [("a", .int 1), ("c", .bool false)]) := ⟨rfl, rfl⟩
example : nodupS ((sO.fieldsFor []).map (·.name)) = true ∧ (sO.fieldsFor []).all (·.optional env0) = true := by
  decide +kernel
example : decode E0 env0 [] true (.struct {} "ns.O") (.obj []) = .ok (.struct "ns.O" []) := rfl

/-- documents of the shapes that used to escape with other exceptions: a non-object for a struct with enumerated
subtypes, a number where a union is expected, a list where a struct is -/
example : tyWF env0 (.tree {} "ns.R") = true ∧ tyWF env0 (.union {} "ns.U") = true ∧
    tyWF env0 (.map {} (.str {} none none none) (.list {} (.struct {} "ns.S") none none)) = true := by decide +kernel
example : decode E0 env0 [] false (.tree {} "ns.R") (.arr []) = verr "expected object" ∧
    decode E0 env0 [] false (.union {} "ns.U") (.int 3) = verr "expected string or object" ∧
    decode E0 env0 [] false (.map {} (.str {} none none none) (.list {} (.struct {} "ns.S") none none))
      (.obj [("k", .arr [.arr []])]) = verr "expected object" := ⟨rfl, rfl, rfl⟩

/-
The statement at full strength,

    theorem decode_sound : envWF env → fieldFlagsWF env → tyWF env t →
        decode E env perms strict t j = .ok v → validB E env t v = true

is FALSE of the model (and of the Python it mirrors) in three ways; each has a witness below.
 (a) `decode` (the helper) does not validate primitives, lists or maps itself: the enclosing assignment,
     constructor or the entry point does. So the statement is about `jsonCompatObjDecode` at any type, and about
     `decode` at struct / enumerated-subtypes / union types.
 (b) lenient mode, enumerated-subtypes root with a catch-all, unknown `.tag`: the decoder returns an instance of
     the root class; clause `(leafTag? env cls c).isSome` of `validB` at `.tree` fails (by design: the valid
     value there is the base struct).
 (c) a caller holding a permission decodes a tag omitted for that caller class: clause `publicTag?` of `validB`
     at `.union` fails (`validB` is the validity of the permission-less view).
 The proved statements exclude exactly (b) and (c).

 `noDefaultedTrees env` (Model/Rt/SpecC06.lean) is not among the hypotheses: it holds of every environment
 (`noDefaultedTrees_holds`), because `StructTree.has_default()` is `False` and the model's `hasDefault` mirrors it. That
 is a repair of stone_validators.py: a struct field whose type is an enumerated-subtypes root with no required field,
 absent from the document, used to be filled with `Root()` (`has_default()` / `get_default()` inherited from
 `bv.Struct`), which is not an instance of any leaf. The document is refused with "missing required field" (example on
 `env1` at the end).
-/

/-- What `json_compat_obj_decode` returns is valid for the type (`validB`, deep). Hypotheses: strict mode or no catch-all
trees (b); every tag the caller sees is public, e.g. `perms = []` (c). -/
theorem decode_sound_partial (E : Ext) (env : Env) (perms : List String) (strict : Bool) (t : PTy) (j : JVal)
    (v : PyVal) (hwf : envWF env = true) (hff : fieldFlagsWF env = true) (ht : tyWF env t = true)
    (hcat : strict = true ∨ noCatchAllTrees env = true)
    (hvis : visibleTagsPublic env perms = true)
    (h : jsonCompatObjDecode E env perms strict t j = .ok v) : validB E env t v = true :=
  jsonCompatObjDecode_valid E env perms strict hwf hff hcat hvis t j ht v h

/-- the recursive helper at user-defined types, at any nesting depth since `decode` is one recursive function -/
theorem decode_sound_user_partial (E : Ext) (env : Env) (perms : List String) (strict : Bool) (t : PTy) (j : JVal)
    (v : PyVal) (hwf : envWF env = true) (hff : fieldFlagsWF env = true) (ht : tyWF env t = true)
    (hu : isUserTy t = true)
    (hcat : strict = true ∨ noCatchAllTrees env = true)
    (hvis : visibleTagsPublic env perms = true)
    (h : decode E env perms strict t j = .ok v) : validB E env t v = true :=
  (Pre_user E env t v hu).mp (decode_pre E env perms strict hwf hff hcat hvis j t ht v h)

theorem visibleTagsPublic_nil (env : Env) : visibleTagsPublic env [] = true := by
  simp only [visibleTagsPublic, List.all_eq_true]
  intro u _ t _
  cases t.omitted <;> simp

/-- C06's first sentence -/
theorem decode_valid_or_rejected (E : Ext) (env : Env) (perms : List String) (strict : Bool) (t : PTy) (j : JVal)
    (hwf : envWF env = true) (hff : fieldFlagsWF env = true) (ht : tyWF env t = true)
    (hcat : strict = true ∨ noCatchAllTrees env = true)
    (hvis : visibleTagsPublic env perms = true) :
    (∃ v, jsonCompatObjDecode E env perms strict t j = .ok v ∧ validB E env t v = true) ∨
    Rejected (jsonCompatObjDecode E env perms strict t j) := by
  cases h : jsonCompatObjDecode E env perms strict t j with
  | ok v => exact Or.inl ⟨v, rfl, decode_sound_partial E env perms strict t j v hwf hff ht hcat hvis h⟩
  | error e =>
    cases e with
    | verr m => exact Or.inr ⟨m, rfl⟩
    | crash c => exact absurd h (jsonCompatObjDecode_no_crash E env perms strict t j hwf hff ht c)

/-- non-vacuity on `env0` (which has a catch-all tree, so: strict mode) -/
example : visibleTagsPublic env0 [] = true ∧ noCatchAllTrees env0 = false := by
  decide +kernel
example :
    (match jsonCompatObjDecode E0 env0 [] true (.map {} (.str {} none none none) (.union {} "ns.U"))
      (.obj [("k", .obj [(".tag", .str "s"), ("a", .int 2), ("b", .str "xy")]), ("l", .str "v")]) with
     | .ok (.dict [(.str "k", .union "ns.U" "s" (.struct "ns.S" [("a", .int 2), ("b", .str "xy")])),
                   (.str "l", .union "ns.U" "v" .none)]) => true
     | _ => false) = true := by decide +kernel

/-- witness (a): the helper alone does not validate a primitive; the entry point does -/
example : decode E0 env0 [] true (.int {} "Int32" (-5) 5) (.int 99) = .ok (.int 99) ∧
    validB E0 env0 (.int {} "Int32" (-5) 5) (.int 99) = false ∧
    jsonCompatObjDecode E0 env0 [] true (.int {} "Int32" (-5) 5) (.int 99) = verr "not within range" :=
  ⟨rfl, by decide +kernel, rfl⟩

/-- witness (b): lenient mode, catch-all root `ns.R`, unknown subtype -/
example : decode E0 env0 [] false (.tree {} "ns.R") (.obj [(".tag", .str "zip"), ("a", .int 1)]) =
      .ok (.struct "ns.R" [("a", .int 1)]) ∧
    validB E0 env0 (.tree {} "ns.R") (.struct "ns.R" [("a", .int 1)]) = false ∧
    leafTag? env0 "ns.R" "ns.R" = none := ⟨rfl, by decide +kernel, by decide +kernel⟩

/-- witness (c): the caller holds "internal" and names the tag `p` omitted for "internal" -/
example : decode E0 env0 ["internal"] true (.union {} "ns.U") (.str "p") = .ok (.union "ns.U" "p" .none) ∧
    validB E0 env0 (.union {} "ns.U") (.union "ns.U" "p" .none) = false ∧
    visibleTagsPublic env0 ["internal"] = false := ⟨rfl, by decide +kernel, by decide +kernel⟩

/- `env1` (the repair of `StructTree.has_default()` described above): `struct T { r R2 }`, `R2` an enumerated-subtypes
root (closed) whose only field is optional; `r` absent is refused, in both modes, and through the entry point. -/
def fA2 : FieldDef := ⟨"a", .int { nullable := true } "Int32" (-5) 5, true, false, none, none⟩
def env1 : Env := ⟨[⟨"ns.R2", [⟨"ns.R2", [fA2]⟩], some [(["f"], "ns.F2", false)], false⟩,
    ⟨"ns.F2", [⟨"ns.R2", [fA2]⟩, ⟨"ns.F2", [fN]⟩], none, false⟩,
    ⟨"ns.T", [⟨"ns.T", [⟨"r", .tree {} "ns.R2", false, true, none, none⟩]⟩], none, false⟩], []⟩
example : envWF env1 = true ∧ fieldFlagsWF env1 = true ∧ noCatchAllTrees env1 = true := by decide +kernel
/-- the root has no required field (as a plain struct type it would have the implicit default), yet as a tree it has none -/
example : hasDefault env1 (.struct {} "ns.R2") = true ∧ hasDefault env1 (.tree {} "ns.R2") = false ∧
    hasDefault env1 (.tree { nullable := true } "ns.R2") = true := by decide +kernel
example : decode E0 env1 [] true (.struct {} "ns.T") (.obj []) = verr "missing required field" ∧
    decode E0 env1 [] false (.struct {} "ns.T") (.obj []) = verr "missing required field" ∧
    jsonCompatObjDecode E0 env1 [] true (.struct {} "ns.T") (.obj []) = verr "missing required field" ∧
    (∀ v, decode E0 env1 [] true (.struct {} "ns.T") (.obj []) ≠ .ok v) ∧
    -- the value formerly returned is (still) not valid for the type
    validB E0 env1 (.struct {} "ns.T") (.struct "ns.T" [("r", .struct "ns.R2" [])]) = false ∧
    -- the root written out without `.tag` is refused as before; a leaf is accepted and valid
    (∃ m, decode E0 env1 [] true (.struct {} "ns.T") (.obj [("r", .obj [])]) = .error (.verr m)) ∧
    (match decode E0 env1 [] true (.struct {} "ns.T") (.obj [("r", .obj [(".tag", .str "f"), ("n", .str "x")])]) with
     | .ok (.struct "ns.T" [("r", .struct "ns.F2" [("n", .str "x")])]) => true
     | _ => false) = true ∧
    validB E0 env1 (.struct {} "ns.T") (.struct "ns.T" [("r", .struct "ns.F2" [("n", .str "x")])]) = true :=
  ⟨rfl, rfl, rfl, fun _ h => (by cases h), by decide +kernel, ⟨_, rfl⟩, by decide +kernel, by decide +kernel⟩
example (env : Env) : noDefaultedTrees env = true := noDefaultedTrees_holds env

end StoneVerif.C06
