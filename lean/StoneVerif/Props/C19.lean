import StoneVerif.Gen.Tables
import StoneVerif.Lemmas.CliParse
import StoneVerif.Lemmas.CliEval
import StoneVerif.Lemmas.CliLex
import StoneVerif.Lemmas.CliPrune
/-!
C19: backends see exactly the routes and attributes the command line selects.

Model: `StoneVerif.Cli` (Model/Cli.lean) — lexer, parser and evaluator of `--filter-by-route-attr`
following stone/cli_helpers.py, the `-w` / `-b` / `-f` / `-a` blocks of `stone.cli.main`, and
`ApiNamespace.add_route`. Specification-level definitions used in the statements: `evalSpec`
(three-valued reference evaluator written from the property text), `GExpr` (the grammar of the `p_*`
docstrings), `SExpr` / `SExpr.text` (an expression as a user writes it, with the spelling of every
literal and optional redundant parentheses), `orOfAnds`, `pass`, `index`, `Consistent`.
-/
namespace StoneVerif.C19
open StoneVerif.Cli

/-! The literals the model was written from: an edit of a token regex, of KEYWORDS, of the precedence tuple, of a
grammar docstring, of the strings `eval` compares with, or of `':all'` in /repo changes `Tables.*` and breaks
these `rfl`s. -/

theorem tables_pinned :
    Tables.filterPrecedence = [("left", ["OR"]), ("left", ["AND"])] ∧
    Tables.filterKeywords = [("and", "AND"), ("or", "OR")] ∧
    Tables.filterTokenFuncs =
      [("t_BOOLEAN", "\\btrue\\b|\\bfalse\\b"), ("t_NULL", "\\bnull\\b"),
       ("t_FLOAT", "-?\\d+(\\.\\d*(e-?\\d+)?|e-?\\d+)"), ("t_INTEGER", "-?\\d+"),
       ("t_STRING", "\\\"([^\\\\\"]|(\\\\.))*\\\""), ("t_ID", "[a-zA-Z_][a-zA-Z0-9_-]*")] ∧
    Tables.filterTokenStrs = [("t_LPAR", "\\("), ("t_NEQ", "!="), ("t_RPAR", "\\)"), ("t_EQ", "=")] ∧
    Tables.filterIgnore = " " ∧
    Tables.filterTokens =
      ["ID", "LPAR", "RPAR", "AND", "OR", "NEQ", "EQ", "BOOLEAN", "FLOAT", "INTEGER", "NULL", "STRING"] ∧
    Tables.filterStart = "expr" ∧
    Tables.filterGrammar =
      [("p_expr", "expr : pred"), ("p_expr_parens", "expr : LPAR expr RPAR"),
       ("p_expr_group", "expr : expr OR expr | expr AND expr"), ("p_pred", "pred : ID op primitive"),
       ("p_op", "op : NEQ | EQ"), ("p_primitive", "primitive : BOOLEAN | FLOAT | INTEGER | NULL | STRING")] ∧
    Tables.filterEvalOps = ["=", "!="] ∧
    Tables.filterEvalConjs = ["and", "or"] ∧
    Tables.cliAllAttributes = [":all"] :=
  ⟨rfl, rfl, rfl, rfl, rfl, rfl, rfl, rfl, rfl, rfl, rfl⟩

/-- Token level, no side condition: the tokens of any written expression (parentheses where
precedence requires them, plus any redundant ones) parse, and the tree evaluates like the
expression read in the ordinary way, on every route. -/
theorem parse_print_tokens (p : SExpr) :
    ∃ e, parseToks p.toks = .ok e ∧ ∀ r, e.eval r = p.strip.eval r := by
  obtain ⟨o', a', h1, h2⟩ := (run_print p).1 none [] []
  refine ⟨mkOr o' a', ?_, fun r => by simpa [evO] using h2 r⟩
  simpa [parseToks] using h1

/-- Printing any expression tree — with the minimal parenthesisation (no `paren` node), the full
one (`paren` around every operand) or anything in between — then lexing and parsing the text gives
a tree that evaluates, on every route, as the reference evaluator `evalSpec` says wherever that is
specified (and as `eval` of the written tree everywhere). `p.wf`: identifiers match the ID pattern
and are not reserved words, numbers have digits, string bodies have no bare quote. -/
theorem parse_print (p : SExpr) (h : p.wf = true) :
    ∃ e, parseFilter p.text = .ok e ∧
      (∀ r, e.eval r = p.strip.eval r) ∧
      (∀ r v, evalSpec p.strip r = some v → e.eval r = v) := by
  obtain ⟨e, he, hev⟩ := parse_print_tokens p
  have hl : lex p.text = ⟨p.toks, []⟩ := lex_render p.stoks (stoks_wf p h)
  refine ⟨e, ?_, hev, ?_⟩
  · simp [parseFilter, hl, he]
  · intro r v hv
    rw [hev r]
    exact evalSpec_sound _ _ _ hv

/-- minimal parenthesisation: `a = 1 or b != "x" and c = null` keeps `and` tighter -/
example : SExpr.wf (.conj .or (.atom .eq ['a'] (.int false ['1']))
      (.conj .and (.atom .neq ['b'] (.str ['x'])) (.atom .eq ['c'] .null))) = true := by decide +kernel

/-- an `or` under an `and` is printed in parentheses; full parenthesisation is a tree with `paren` nodes -/
example : (SExpr.conj .and (.conj .or (.atom .eq ['a'] .true) (.atom .eq ['b'] (.float true ['1'] (some ['5']) (some (true, ['3'])))))
      (.paren (.atom .eq ['c'] .null))).text = "( a = true or b = -1.5e-3 ) and ( c = null ) ".toList := by
  rw [String.toList_ofList]
  decide +kernel

/-- The reference evaluator is refined by the code's `eval` on every expression and route: where
the property fixes the outcome (same-kind comparisons, comparisons with null, connectives whose
value does not depend on an unspecified operand), Python's `==` / `and` / `or` give that outcome. -/
theorem eval_spec (e : Expr) (r : Attrs) (v : Bool) (h : evalSpec e r = some v) : e.eval r = v :=
  evalSpec_sound e r v h

/-- specified and not trivial: a Boolean attribute compared with `true`, an absent one with null -/
example : evalSpec (.conj .and (.pred .eq ['f'] (.bool true)) (.pred .eq ['g'] .null)) [(['f'], .bool true)] = some true := by
  decide +kernel
/-- unspecified: a Boolean attribute against `1` (Python says equal) -/
example : evalSpec (.pred .eq ['f'] (.int 1)) [(['f'], .bool true)] = none ∧
    (Expr.pred .eq ['f'] (.int 1)).eval [(['f'], .bool true)] = true := by decide +kernel

/-- `and` binds tighter than `or`, both associate to the left: a flat sequence of atoms joined by
`and` / `or` evaluates as the disjunction of its maximal `and`-groups. The precedence tuple of
`FilterExprParser` is the one this was proved for. -/
theorem parse_prec :
    Tables.filterPrecedence = [("left", ["OR"]), ("left", ["AND"])] ∧
    ∀ (a : Atom) (rest : List (Conj × Atom)),
      ∃ e, parseToks (flatToks a rest) = .ok e ∧
        ∀ r, e.eval r = orOfAnds (fun b => b.expr.eval r) (a.expr.eval r) rest := by
  refine ⟨rfl, ?_⟩
  intro a rest
  obtain ⟨e, h1, h2⟩ := run_flat rest none (mkAnd none a.expr)
  refine ⟨e, ?_, ?_⟩
  · simp only [parseToks, flatToks, Atom.toks, List.cons_append, List.nil_append, run_want_atom]
    exact h1
  · intro r
    rw [h2 r]
    simp [evO, mkAnd]

/-- `a or b and c` is `a or (b and c)`, `a and b or c` is `(a and b) or c`, `a or b or c` is `(a or b) or c` -/
example (a b c : Atom) :
    parseToks (flatToks a [(.or, b), (.and, c)]) = .ok (.conj .or a.expr (.conj .and b.expr c.expr)) ∧
    parseToks (flatToks a [(.and, b), (.or, c)]) = .ok (.conj .or (.conj .and a.expr b.expr) c.expr) ∧
    parseToks (flatToks a [(.or, b), (.or, c)]) = .ok (.conj .or (.conj .or a.expr b.expr) c.expr) := by
  refine ⟨?_, ?_, ?_⟩ <;>
    simp [parseToks, flatToks, Atom.toks, Atom.expr, Conj.tok, mkAnd, mkOr]

/-- An absent attribute reads as null: `a = null` holds exactly when the route has no attribute `a`
or has it with the value null, for the code and for the reference; `a != null` is its negation. -/
theorem eval_absent_is_null (r : Attrs) (a : Name) :
    ((Expr.pred .eq a .null).eval r = true ↔ (r.lookup a = none ∨ r.lookup a = some .null)) ∧
    (evalSpec (.pred .eq a .null) r = some true ↔ (r.lookup a = none ∨ r.lookup a = some .null)) ∧
    ((Expr.pred .neq a .null).eval r = !(Expr.pred .eq a .null).eval r) ∧
    (∃ v, evalSpec (.pred .eq a .null) r = some v) := by
  simp only [Expr.eval, pyEq_null_right, attrGet, evalSpec, attrSpec]
  cases r.lookup a with
  | none => simp [specEq]
  | some v => cases v <;> simp [specEq]

example : (Expr.pred .eq ['x'] .null).eval [(['y'], .int 3)] = true ∧
    (Expr.pred .eq ['y'] .null).eval [(['y'], .int 3)] = false := by decide +kernel

/-- Token level: the parser accepts exactly the token sequences of the grammar in the `p_*`
docstrings; everything else is a syntax error. -/
theorem parse_accepts_iff_grammar (ts : List Tok) : (∃ e, parseToks ts = .ok e) ↔ GExpr ts :=
  ⟨fun ⟨_, h⟩ => parseToks_sound h, parseToks_complete⟩

/-- A filter text is reported as erroneous as soon as one of its characters is illegal for the
lexer or its token sequence is not derivable in the grammar — the whole complement of the language.
(Tokenisation itself is the lexer model, tied to ply by the `cli.lex` correspondence suite.) -/
theorem malformed_reported (s : List Char) (h : (lex s).errors ≠ [] ∨ ¬ GExpr (lex s).toks) :
    ∃ err, parseFilter s = .error err := by
  unfold parseFilter
  cases hp : parseToks (lex s).toks with
  | error pe =>
    by_cases he : (lex s).errors = []
    · exact ⟨.syntax pe, by simp [he, hp]⟩
    · exact ⟨.illegalChars (lex s).errors, by simp [he, hp]⟩
  | ok e =>
    rcases h with h | h
    · exact ⟨.illegalChars (lex s).errors, by simp [h, hp]⟩
    · exact absurd (parseToks_sound hp) h

theorem wellformed_accepted (s : List Char) (h1 : (lex s).errors = []) (h2 : GExpr (lex s).toks) :
    ∃ e, parseFilter s = .ok e := by
  obtain ⟨e, he⟩ := parseToks_complete h2
  exact ⟨e, by simp [parseFilter, he, h1]⟩

/-- a recognisable class: parentheses that do not balance -/
theorem unbalanced_reported (s : List Char) (h : (lex s).toks.count .lpar ≠ (lex s).toks.count .rpar) :
    ∃ err, parseFilter s = .error err :=
  malformed_reported s (Or.inr fun g => h (GExpr_balanced g))

/-- missing operand, doubled operator, stray token, unbalanced parenthesis (token level) -/
example : (∃ e, parseToks [.id ['a'], .eq, .lit (.int 1), .and] = .error e) ∧
    (∃ e, parseToks [.id ['a'], .eq, .eq, .lit (.int 1)] = .error e) ∧
    (∃ e, parseToks [.id ['a'], .eq, .lit (.int 1), .id ['b']] = .error e) ∧
    (∃ e, parseToks [.lpar, .id ['a'], .eq, .lit (.int 1)] = .error e) ∧
    (∃ e, parseToks [] = .error e) := by
  refine ⟨⟨_, rfl⟩, ⟨_, rfl⟩, ⟨_, rfl⟩, ⟨_, rfl⟩, ⟨_, rfl⟩⟩

/-- With `-f` alone, a namespace keeps exactly the routes the expression accepts, in their order
(attributes cut down to the `-a` selection); the expression used is the parse of the option text;
and wherever the reference evaluator fixes whether a route satisfies the expression, that is what
decides. -/
theorem prune_filter {o : Opts} {api api' : Api} (hc : api.Consistent) (h : prune o api = .ok api')
    (hw : o.whitelist = []) (hb : o.blacklist = []) :
    ∃ f, stageParse o = .ok f ∧
      (∀ c cs, o.filter = some (c :: cs) → ∃ e, parseFilter (c :: cs) = .ok e ∧ f = some e) ∧
      api'.namespaces.map (·.routes) = api.namespaces.map (fun ns =>
        (ns.routes.filter (pass f)).map (Route.restrict (wantedAttrs o.attributes api.allFields))) ∧
      (∀ e, f = some e → ∀ (r : Route) v, evalSpec e r.attrs = some v → pass f r = v) := by
  obtain ⟨f, hf, rfl⟩ := prune_eq_spec hc h
  refine ⟨f, hf, ?_, ?_, ?_⟩
  · intro c cs hfl
    simp only [stageParse, hfl] at hf
    cases hp : parseFilter (c :: cs) with
    | ok e => simp [hp] at hf; exact ⟨e, rfl, hf.symm⟩
    | error fe => simp [hp] at hf
  · simp only [pruneSpec, List.map_map]
    apply List.map_congr_left
    intro ns _
    simp [Namespace.pruned, hidden, hw, hb]
  · intro e he r v hv
    subst he
    exact evalSpec_sound e r.attrs v hv

/-- `-w`: every name must be a namespace of the spec; namespaces not named show no routes (list and
both tables empty), the named ones keep theirs (subject to `-f`); names, order and data types of
all namespaces are untouched. -/
theorem prune_w {o : Opts} {api api' : Api} (hc : api.Consistent) (h : prune o api = .ok api')
    (hw : o.whitelist ≠ []) (hb : o.blacklist = []) :
    (∀ n ∈ o.whitelist, api.hasNamespace n = true) ∧
    api'.namespaces.map (·.name) = api.namespaces.map (·.name) ∧
    api'.namespaces.map (·.dataTypes) = api.namespaces.map (·.dataTypes) ∧
    ∃ f, stageParse o = .ok f ∧
      api'.namespaces.map (fun ns => (ns.routes, ns.routeByName, ns.routesByName)) = api.namespaces.map (fun ns =>
        if ns.name ∈ o.whitelist then
          let rs := (ns.routes.filter (pass f)).map (Route.restrict (wantedAttrs o.attributes api.allFields))
          (rs, (index rs).1, (index rs).2)
        else ([], [], [])) := by
  obtain ⟨f', _, hwl, _, _, _⟩ := prune_ok h
  obtain ⟨f, hf, rfl⟩ := prune_eq_spec hc h
  obtain ⟨h1, h2, h3⟩ := pruneSpec_view o f api
  refine ⟨hwl, h1, h2, f, hf, h3.trans (List.map_congr_left fun ns _ => ?_)⟩
  by_cases hm : ns.name ∈ o.whitelist <;> simp [hidden, hw, hb, hm, index]

/-- an unknown namespace after `-w` is an error, whatever else is on the command line -/
theorem prune_w_unknown {o : Opts} {api : Api} (h : ∃ n ∈ o.whitelist, api.hasNamespace n = false) :
    ∃ err, prune o api = .error err := by
  refine error_of_not_ok fun api' hr => ?_
  obtain ⟨f, _, hw, _⟩ := prune_ok hr
  obtain ⟨n, hn, hh⟩ := h
  simp [hw n hn] at hh

/-- `-b`: the named namespaces show no routes, all others keep theirs; types untouched. -/
theorem prune_b {o : Opts} {api api' : Api} (hc : api.Consistent) (h : prune o api = .ok api')
    (hw : o.whitelist = []) :
    (∀ n ∈ o.blacklist, api.hasNamespace n = true) ∧
    api'.namespaces.map (·.name) = api.namespaces.map (·.name) ∧
    api'.namespaces.map (·.dataTypes) = api.namespaces.map (·.dataTypes) ∧
    ∃ f, stageParse o = .ok f ∧
      api'.namespaces.map (fun ns => (ns.routes, ns.routeByName, ns.routesByName)) = api.namespaces.map (fun ns =>
        if ns.name ∈ o.blacklist then ([], [], [])
        else
          let rs := (ns.routes.filter (pass f)).map (Route.restrict (wantedAttrs o.attributes api.allFields))
          (rs, (index rs).1, (index rs).2)) := by
  obtain ⟨f', _, _, hbl, _, _⟩ := prune_ok h
  obtain ⟨f, hf, rfl⟩ := prune_eq_spec hc h
  obtain ⟨h1, h2, h3⟩ := pruneSpec_view o f api
  refine ⟨hbl, h1, h2, f, hf, h3.trans (List.map_congr_left fun ns _ => ?_)⟩
  by_cases hm : ns.name ∈ o.blacklist <;> simp [hidden, hw, hm, index]

theorem prune_b_unknown {o : Opts} {api : Api} (h : ∃ n ∈ o.blacklist, api.hasNamespace n = false) :
    ∃ err, prune o api = .error err := by
  refine error_of_not_ok fun api' hr => ?_
  obtain ⟨f, _, _, hb, _⟩ := prune_ok hr
  obtain ⟨n, hn, hh⟩ := h
  simp [hb n hn] at hh

/-- `-a`: the visible attributes are those named (every attribute of the schema, inherited fields of
`stone_cfg.Route` included, with `:all`; none without `-a`): every name given is an attribute of the
schema, the route schema keeps exactly the selected ones of its own fields, in order, and every route
the backend sees has exactly the selected ones of its attributes. -/
theorem prune_attrs {o : Opts} {api api' : Api} (hc : api.Consistent) (h : prune o api = .ok api') :
    (∀ n, n ∈ wantedAttrs o.attributes api.allFields ↔
      (allAttributes ∈ o.attributes ∧ (n ∈ api.allFields ∨ (n ∈ o.attributes ∧ n ≠ allAttributes))) ∨
      (allAttributes ∉ o.attributes ∧ n ∈ o.attributes)) ∧
    (∀ n ∈ wantedAttrs o.attributes api.allFields, n ∈ api.allFields) ∧
    api'.schema = api.schema.filter (fun n => n ∈ wantedAttrs o.attributes api.allFields) ∧
    api'.schemaByName = api.schemaByName.filter (fun n => n ∈ wantedAttrs o.attributes api.allFields) ∧
    (∀ ns' ∈ api'.namespaces, ∀ r' ∈ ns'.routes, ∃ ns ∈ api.namespaces, ∃ r ∈ ns.routes,
      ns.name = ns'.name ∧ r'.name = r.name ∧ r'.version = r.version ∧
      r'.attrs = r.attrs.filter (fun kv => kv.1 ∈ wantedAttrs o.attributes api.allFields)) := by
  obtain ⟨f', _, _, _, hall, _⟩ := prune_ok h
  obtain ⟨f, hf, rfl⟩ := prune_eq_spec hc h
  refine ⟨?_, hall, rfl, rfl, ?_⟩
  · intro n
    unfold wantedAttrs
    by_cases ha : allAttributes ∈ o.attributes
    · simp [List.ne_nil_of_mem ha, ha, or_comm, and_comm]
    · by_cases h0 : o.attributes = [] <;> simp [h0, ha]
  · intro ns' hns' r' hr'
    simp only [pruneSpec, List.mem_map] at hns'
    obtain ⟨ns, hns, rfl⟩ := hns'
    simp only [Namespace.pruned] at hr'
    split at hr'
    · simp at hr'
    · simp only [List.mem_map, List.mem_filter] at hr'
      obtain ⟨r, ⟨hr, _⟩, rfl⟩ := hr'
      exact ⟨ns, hns, r, hr, rfl, rfl, rfl, rfl⟩

/-- when the run succeeds, the set `attrs` of `main` is the selection the property speaks of -/
theorem mem_wantedAttrs_iff_wantedAll {o : Opts} {api : Api}
    (hall : ∀ n ∈ wantedAttrs o.attributes api.allFields, n ∈ api.allFields) (n : Name) :
    n ∈ wantedAttrs o.attributes api.allFields ↔ n ∈ wantedAll o.attributes api := by
  have := hall n
  unfold wantedAttrs at this ⊢
  unfold wantedAll
  by_cases h0 : o.attributes = []
  · simp [h0]
  · by_cases ha : allAttributes ∈ o.attributes
    · simp only [h0, ha, if_true, if_false] at this ⊢
      constructor
      · exact this
      · intro hn; exact List.mem_append.mpr (Or.inr hn)
    · simp [h0, ha]

/-- The property read over ALL attributes a route can carry (`route_schema.all_fields`, inherited
fields of `stone_cfg.Route` included): every name given with `-a` is one of them and every route
shows exactly the `-a` selection of its attributes. (Before the repair of `cli.main` this held for a
schema without inherited fields only: the regression examples below.) -/
theorem prune_attrs_all_fields {o : Opts} {api api' : Api} (hc : api.Consistent) (h : prune o api = .ok api') :
    (∀ n ∈ wantedAll o.attributes api, n ∈ api.allFields) ∧
    (∀ ns' ∈ api'.namespaces, ∀ r' ∈ ns'.routes, ∃ ns ∈ api.namespaces, ∃ r ∈ ns.routes,
      ns.name = ns'.name ∧ r'.name = r.name ∧ r'.version = r.version ∧
      r'.attrs = r.attrs.filter (fun kv => kv.1 ∈ wantedAll o.attributes api)) := by
  obtain ⟨_, h2, _, _, h5⟩ := prune_attrs hc h
  have hiff := mem_wantedAttrs_iff_wantedAll h2
  refine ⟨fun n hn => h2 n ((hiff n).mpr hn), ?_⟩
  intro ns' hns' r' hr'
  obtain ⟨ns, hns, r, hr, e1, e2, e3, e4⟩ := h5 ns' hns' r' hr'
  refine ⟨ns, hns, r, hr, e1, e2, e3, ?_⟩
  rw [e4]
  apply List.filter_congr
  intro kv _
  exact decide_eq_decide.mpr (hiff kv.1)

/-- The same for the schema itself: `route_schema.all_fields` shows exactly the `-a` selection.
PARTIAL: proved for a schema without inherited fields. `cli.main` takes the unselected names out of
`route_schema.fields`; the fields `stone_cfg.Route` inherits live in the parent struct (a user type
the backends generate) and stay visible whatever `-a` says - witness below (reported by the harness
as a failing input of the property). -/
theorem prune_schema_all_fields_partial {o : Opts} {api api' : Api} (hc : api.Consistent)
    (hflat : api.schemaInherited = []) (h : prune o api = .ok api') :
    api'.allFields = api.allFields.filter (fun n => n ∈ wantedAll o.attributes api) := by
  obtain ⟨_, h2, h3, _, _⟩ := prune_attrs hc h
  have hiff := mem_wantedAttrs_iff_wantedAll h2
  obtain ⟨f, _, hspec⟩ := prune_eq_spec hc h
  have hinh : api'.schemaInherited = [] := by rw [hspec]; simp [pruneSpec, hflat]
  simp only [Api.allFields, hflat, hinh, List.nil_append, h3]
  apply List.filter_congr
  intro n _
  have := hiff n
  simp only [Api.allFields, hflat, List.nil_append] at this
  exact decide_eq_decide.mpr this

/-- regression: an inherited attribute can be selected - `-a p` for an inherited `p` keeps `p` on the routes and
nothing of the own fields -/
example :
    prune { attributes := [['p']] }
      ⟨[⟨['a'], [⟨['r'], 1, [(['p'], .int 1), (['n'], .int 2)]⟩], [], [], []⟩], [['n']], [['n']], [['p']]⟩
      = .ok ⟨[⟨['a'], [⟨['r'], 1, [(['p'], .int 1)]⟩], [], [], []⟩], [], [], [['p']]⟩ := rfl

/-- regression: `:all` keeps the inherited attributes of every route -/
example :
    prune { attributes := [allAttributes] }
      ⟨[⟨['a'], [⟨['r'], 1, [(['p'], .int 1), (['n'], .int 2)]⟩], [], [], []⟩], [['n']], [['n']], [['p']]⟩
      = .ok ⟨[⟨['a'], [⟨['r'], 1, [(['p'], .int 1), (['n'], .int 2)]⟩], [], [], []⟩], [['n']], [['n']], [['p']]⟩ := rfl

/-- witness: without any `-a` the inherited fields are still there in the schema -/
theorem inherited_field_stays_visible :
    ∃ (o : Opts) (api api' : Api), o.attributes = [] ∧ prune o api = .ok api' ∧ api'.allFields ≠ [] :=
  ⟨{}, ⟨[], [['n']], [['n']], [['p']]⟩, ⟨[], [], [], [['p']]⟩, rfl, rfl, by decide⟩

/-- An attribute name unknown to the schema (own and inherited fields) is an error, also next to
`:all`. (Before the repair of `cli.main` the names given next to `:all` were never looked at.) -/
theorem prune_attrs_unknown {o : Opts} {api : Api}
    (h : ∃ n ∈ o.attributes, n ≠ allAttributes ∧ n ∉ api.allFields) : ∃ err, prune o api = .error err := by
  refine error_of_not_ok fun api' hr => ?_
  obtain ⟨f, _, _, _, ha, _⟩ := prune_ok hr
  obtain ⟨n, hn, hna, hh⟩ := h
  refine hh (ha n ?_)
  unfold wantedAttrs
  by_cases hall : allAttributes ∈ o.attributes <;> simp [List.ne_nil_of_mem hn, hall, hn, hna]

/-- regression: `-a :all -a bogus` is refused -/
example :
    prune { attributes := [allAttributes, ['b', 'o', 'g', 'u', 's']] } ⟨[], [['n']], [['n']], []⟩
      = .error (.attributeUndefined [['b', 'o', 'g', 'u', 's']]) := rfl

/-- The by-name tables (`route_by_name`, `routes_by_name`) of every namespace the backend sees are
exactly the index `add_route` builds for the route list it sees — provided they were for the Api
the frontend produced. -/
theorem tables_consistent {o : Opts} {api api' : Api} (hc : api.Consistent) (h : prune o api = .ok api') :
    api'.Consistent := by
  obtain ⟨f, _, rfl⟩ := prune_eq_spec hc h
  intro ns' hns'
  simp only [pruneSpec, List.mem_map] at hns'
  obtain ⟨ns, _, rfl⟩ := hns'
  simp [Namespace.Consistent, Namespace.pruned]

/-- What the tables contain, independently of `add_route`: `route_by_name[n]` is the last version-1
route named `n` in the list, `routes_by_name[n].at_version[v]` the last route named `n` with
version `v` (for the frontend's lists, where (name, version) is unique: *the* route). -/
theorem index_lookup (rs : List Route) (n : Name) (v : Int) :
    (index rs).1.lookup n = lastMatch (fun r => decide (r.name = n) && decide (r.version = 1)) rs ∧
    ((index rs).2.lookup n).bind (fun d => d.lookup v) =
      lastMatch (fun r => decide (r.name = n) && decide (r.version = v)) rs :=
  ⟨(List.foldl_hom (look1 n) fun ns r => (look1_addRoute n ns r).symm).symm,
   (List.foldl_hom (look2 n v) fun ns r => (look2_addRoute n v ns r).symm).symm⟩

/-- `index` of a list with two versions of one route -/
example :
    index [⟨['r'], 1, []⟩, ⟨['r'], 2, []⟩, ⟨['z'], 3, []⟩] =
      ([(['r'], ⟨['r'], 1, []⟩)],
       [(['r'], [(1, ⟨['r'], 1, []⟩), (2, ⟨['r'], 2, []⟩)]), (['z'], [(3, ⟨['z'], 3, []⟩)])]) := by decide +kernel

/-- non-vacuity of the pruning theorems: a consistent two-namespace Api, `-w a -f "n = 1 " -a n` -/
example :
    let r1 : Route := ⟨['r'], 1, [(['n'], .int 1), (['h'], .str ['x'])]⟩
    let r2 : Route := ⟨['s'], 1, [(['n'], .int 2), (['h'], .str ['y'])]⟩
    let nsA : Namespace := ⟨['a'], [r1, r2], (index [r1, r2]).1, (index [r1, r2]).2, [['T']]⟩
    let nsB : Namespace := ⟨['b'], [r1], (index [r1]).1, (index [r1]).2, [['U']]⟩
    let api : Api := ⟨[nsA, nsB], [['n'], ['h']], [['n'], ['h']], []⟩
    let o : Opts := { whitelist := [['a']], attributes := [['n']], filter := some ['n', ' ', '=', ' ', '1', ' '] }
    api.Consistent ∧
    (prune o api).map (fun a => a.namespaces.map fun ns => (ns.name, ns.routes, ns.dataTypes)) =
      .ok [(['a'], [⟨['r'], 1, [(['n'], .int 1)]⟩], [['T']]), (['b'], [], [['U']])] := by
  refine ⟨?_, ?_⟩
  · intro ns hns
    simp only [List.mem_cons, List.not_mem_nil, or_false] at hns
    rcases hns with rfl | rfl <;> rfl
  · -- the text `n = 1 ` is the predicate `n = 1`
    have parse_n_eq_1 : parseFilter ['n', ' ', '=', ' ', '1', ' '] = .ok (.pred .eq ['n'] (.int 1)) := by
      have hl := lex_render [.id ['n'], .op .eq, .lit (.int false ['1'])] (by decide)
      have ht : render [.id ['n'], .op .eq, .lit (.int false ['1'])] = ['n', ' ', '=', ' ', '1', ' '] := by decide
      rw [ht] at hl
      simp only [parseFilter, hl]
      rfl
    simp only [prune, stageParse, parse_n_eq_1]
    rfl

end StoneVerif.C19
